import EdVerif.Props.C01
import EdVerif.Gen.Ties.Scalar_nonAdjacentForm
import EdVerif.Gen.Ties.Point_VarTimeDoubleScalarBaseMult
import EdVerif.Gen.Ties.Point_MultiScalarMult
import EdVerif.Gen.Ties.Point_VarTimeMultiScalarMult
import EdVerif.Gen.Ties.nafLookupTable8_FromP3
import EdVerif.Gen.Ties.nafLookupTable5_SelectInto
import EdVerif.Gen.Ties.nafLookupTable8_SelectInto
/-!
# C01 on the regenerated variable-time and multi-scalar multiplications

`EdVerif/Gen/Formulas.lean` contains what the current Go source of `nonAdjacentForm`, `VarTimeDoubleScalarBaseMult`,
`MultiScalarMult`, `VarTimeMultiScalarMult` computes (loops kept as `Loop.iter` with untrusted fuel, run-time index checks as
`Res.guard`, panics as `Res.panic`).  `Proofs/FormulaSpec.lean` proves these equal to the hand-written model under explicit
hypotheses on the digits (in the range of the tables; `int8` values).  Here the hypotheses are discharged for scalars
with `Scalar.bytes s = LEbytes k 32`, `k < 2^255` (every valid scalar), using the digit theorems of `Proofs/Naf.lean`
and `Proofs/Digits.lean` — and the C01 theorems are then stated about the regenerated definitions: for every prior value `v` of
the receiver the result is `.ok r` with `r` valid and `r.toEd = Σ k_i • P_i` (run-time index checks and fuel never fire).
-/
namespace EdVerif.Props
open EdVerif EdVerif.Impl EdVerif.Prims EdVerif.Gen EdVerif.Gen.FormulaTies EdVerif.Proofs EdVerif.FormulaSpec EdVerif.Spec
open Finset

/-- `nonAdjacentForm`: unconditional, panics included -/
theorem regen_nonAdjacentForm (s : W4) (w : Nat) :
    Formulas.Scalar_nonAdjacentForm s w = Scalar.nonAdjacentForm s w :=
  (tie_Scalar_nonAdjacentForm s w).trans (Scalar_nonAdjacentForm_eq s w)

theorem nafRange5 {s : W4} {k : ℕ} (hk : Scalar.bytes s = LEbytes k 32) (hk255 : k < 2 ^ 255) :
    ∀ d, Scalar.nonAdjacentForm s 5 = .ok d → NafRange 8 d := by
  intro d hd
  obtain ⟨he, hr, _⟩ := naf5_facts hk hk255
  rw [he] at hd
  cases hd
  intro i hi
  rcases hr i hi with h | ⟨_, h1, h2⟩
  · rw [h]; constructor <;> decide
  · exact ⟨by simpa using h1, by simpa using h2⟩

theorem nafRange8 {s : W4} {k : ℕ} (hk : Scalar.bytes s = LEbytes k 32) (hk255 : k < 2 ^ 255) :
    ∀ d, Scalar.nonAdjacentForm s 8 = .ok d → NafRange 64 d := by
  intro d hd
  obtain ⟨he, hr, _⟩ := naf8_facts hk hk255
  rw [he] at hd
  cases hd
  intro i hi
  rcases hr i hi with h | ⟨_, h1, h2⟩
  · rw [h]; constructor <;> decide
  · exact ⟨by simpa using h1, by simpa using h2⟩

/-- `VarTimeDoubleScalarBaseMult`, all four aliasing patterns (`A` may share storage with the receiver, `b` with `a`) -/
theorem regen_VarTimeDoubleScalarBaseMult {a b : W4} {ka kb : ℕ}
    (ha : Scalar.bytes a = LEbytes ka 32) (ha255 : ka < 2 ^ 255)
    (hb : Scalar.bytes b = LEbytes kb 32) (hb255 : kb < 2 ^ 255) (v A : P3) :
    Formulas.Point_VarTimeDoubleScalarBaseMult v a A b = Point.varTimeDoubleScalarBaseMult a A b ∧
    Formulas.Point_VarTimeDoubleScalarBaseMult__al0121 v a A b = Point.varTimeDoubleScalarBaseMult a A a ∧
    Formulas.Point_VarTimeDoubleScalarBaseMult__al0103 v a A b = Point.varTimeDoubleScalarBaseMult a v b ∧
    Formulas.Point_VarTimeDoubleScalarBaseMult__al0101 v a A b = Point.varTimeDoubleScalarBaseMult a v a := by
  refine ⟨?_, ?_, ?_, ?_⟩
  · rw [tie_Point_VarTimeDoubleScalarBaseMult]
    exact Point_VarTimeDoubleScalarBaseMult_eq v a A b (nafRange5 ha ha255) (nafRange8 hb hb255)
  · rw [tie_Point_VarTimeDoubleScalarBaseMult__al0121]
    exact Point_VarTimeDoubleScalarBaseMult_eq v a A a (nafRange5 ha ha255) (nafRange8 ha ha255)
  · rw [tie_Point_VarTimeDoubleScalarBaseMult__al0103]
    exact Point_VarTimeDoubleScalarBaseMult_eq v a v b (nafRange5 ha ha255) (nafRange8 hb hb255)
  · rw [tie_Point_VarTimeDoubleScalarBaseMult__al0101]
    exact Point_VarTimeDoubleScalarBaseMult_eq v a v a (nafRange5 ha ha255) (nafRange8 ha ha255)

/-- consequently (C01): on valid inputs the regenerated function returns a valid point representing `ka • A + kb • B` -/
theorem C01_regen_varTimeDouble {a b : W4} {ka kb : ℕ} {A : P3}
    (ha : Scalar.bytes a = LEbytes ka 32) (ha255 : ka < 2 ^ 255)
    (hb : Scalar.bytes b = LEbytes kb 32) (hb255 : kb < 2 ^ 255) (hA : A.Valid) (v : P3) :
    ∃ r, Formulas.Point_VarTimeDoubleScalarBaseMult v a A b = .ok r ∧ r.Valid ∧
      r.toEd = ka • A.toEd + kb • basepoint := by
  rw [(regen_VarTimeDoubleScalarBaseMult ha ha255 hb hb255 v A).1]
  exact C01_varTimeDouble ha ha255 hb hb255 hA

/-- the elements of an array of digit arrays obtained by `collect`, in terms of the per-scalar function -/
theorem collect_elems {β : Type} [Inhabited β] (R : W4 → Res β) (g : W4 → β) (ss : Array W4)
    (h : ∀ i < ss.size, R ss[i]! = .ok (g ss[i]!)) (ds : Array β)
    (hd : Point.collect (ss.toList.map R) = .ok ds) : ds = ss.map g := by
  rw [Point.collect_ok R g ss h] at hd
  cases hd; rfl

theorem regen_MultiScalarMult (v : P3) (ss : Array W4) (ps : Array P3) (ks : Array ℕ)
    (hn : ps.size < 2 ^ 63)
    (hk : ∀ i < ss.size, Scalar.bytes ss[i]! = LEbytes ks[i]! 32 ∧ ks[i]! < 2 ^ 255) :
    Formulas.Point_MultiScalarMult v ss ps =
      if ss.size != ps.size then .panic "length" else Point.multiScalarMult ss ps := by
  rw [tie_Point_MultiScalarMult]
  apply Point_MultiScalarMult_eq v ss ps hn
  intro ds hds j i
  have e := collect_elems Scalar.signedRadix16 (fun s => radix16OfBytes (Scalar.bytes s)) ss
    (fun i hi => (radix16_facts (hk i hi).1 (hk i hi).2).1) ds hds
  subst e
  by_cases hj : j < ss.size
  · rw [Arr.get_map _ ss j hj]
    have hb : ∀ i < 32, (Scalar.bytes ss[j]!)[i]! < 256 := by rw [(hk j hj).1]; exact LEbytes_lt32 _
    have h31 : (Scalar.bytes ss[j]!)[31]! ≤ 127 := by rw [(hk j hj).1]; exact LEbytes_top _ (hk j hj).2
    by_cases hi : i < 64
    · have := (radix16_facts (hk j hj).1 (hk j hj).2).2.1 i hi
      omega
    · have hs := (radix16_spec _ hb h31).1
      have : (radix16OfBytes (Scalar.bytes ss[j]!))[i]! = 0 := by
        rw [getElem!_neg _ _ (by omega)]; rfl
      rw [this]; constructor <;> decide
  · have : (Array.map (fun s => radix16OfBytes (Scalar.bytes s)) ss)[j]! = #[] := by
      rw [getElem!_neg _ _ (by simpa using hj)]; rfl
    rw [this]
    have : (#[] : Array Int)[i]! = 0 := rfl
    rw [this]; constructor <;> decide

theorem regen_VarTimeMultiScalarMult (v : P3) (ss : Array W4) (ps : Array P3) (ks : Array ℕ)
    (hn : ps.size < 2 ^ 63)
    (hk : ∀ i < ss.size, Scalar.bytes ss[i]! = LEbytes ks[i]! 32 ∧ ks[i]! < 2 ^ 255) :
    Formulas.Point_VarTimeMultiScalarMult v ss ps =
      if ss.size != ps.size then .panic "length" else Point.varTimeMultiScalarMult ss ps := by
  rw [tie_Point_VarTimeMultiScalarMult]
  apply Point_VarTimeMultiScalarMult_eq v ss ps hn
  intro ds hds j
  have e := collect_elems (Scalar.nonAdjacentForm · 5) (fun s => nafOfBytes (Scalar.bytes s) 5) ss
    (fun i hi => (naf5_facts (hk i hi).1 (hk i hi).2).1) ds hds
  subst e
  by_cases hj : j < ss.size
  · rw [Arr.get_map _ ss j hj]
    exact nafRange5 (hk j hj).1 (hk j hj).2 _ (naf5_facts (hk j hj).1 (hk j hj).2).1
  · have : (Array.map (fun s => nafOfBytes (Scalar.bytes s) 5) ss)[j]! = #[] := by
      rw [getElem!_neg _ _ (by simpa using hj)]; rfl
    rw [this]
    intro i _
    have : (#[] : Array Int)[i]! = 0 := rfl
    rw [this]; constructor <;> decide


/-- C01 on the regenerated `MultiScalarMult`: for slices of equal length (`< 2^63`), valid scalars and valid points, whatever the
receiver held, the result is a valid representation of `Σ k_i • P_i` -/
theorem C01_regen_multiScalarMult (v : P3) (ss : Array W4) (ps : Array P3) (ks : Array ℕ) (hs : ss.size = ps.size)
    (hn : ps.size < 2 ^ 63)
    (hk : ∀ i < ps.size, Scalar.bytes ss[i]! = LEbytes ks[i]! 32 ∧ ks[i]! < 2 ^ 255)
    (hp : ∀ i < ps.size, (ps[i]!).Valid) :
    ∃ r, Formulas.Point_MultiScalarMult v ss ps = .ok r ∧ r.Valid ∧
      r.toEd = ∑ i ∈ range ps.size, ks[i]! • (ps[i]!).toEd := by
  rw [regen_MultiScalarMult v ss ps ks hn (fun i hi => hk i (hs ▸ hi))]
  have hne : (ss.size != ps.size) = false := by simp [hs]
  simp only [hne, Bool.false_eq_true, if_false]
  exact C01_multiScalarMult ss ps ks hs hk hp

theorem C01_regen_varTimeMultiScalarMult (v : P3) (ss : Array W4) (ps : Array P3) (ks : Array ℕ) (hs : ss.size = ps.size)
    (hn : ps.size < 2 ^ 63)
    (hk : ∀ i < ps.size, Scalar.bytes ss[i]! = LEbytes ks[i]! 32 ∧ ks[i]! < 2 ^ 255)
    (hp : ∀ i < ps.size, (ps[i]!).Valid) :
    ∃ r, Formulas.Point_VarTimeMultiScalarMult v ss ps = .ok r ∧ r.Valid ∧
      r.toEd = ∑ i ∈ range ps.size, ks[i]! • (ps[i]!).toEd := by
  rw [regen_VarTimeMultiScalarMult v ss ps ks hn (fun i hi => hk i (hs ▸ hi))]
  have hne : (ss.size != ps.size) = false := by simp [hs]
  simp only [hne, Bool.false_eq_true, if_false]
  exact C01_varTimeMultiScalarMult ss ps ks hs hk hp

/-- mismatched lengths: the regenerated functions panic (C15) -/
theorem C15_regen_length_mismatch (v : P3) (ss : Array W4) (ps : Array P3) (ks : Array ℕ) (hs : ss.size ≠ ps.size)
    (hn : ps.size < 2 ^ 63)
    (hk : ∀ i < ss.size, Scalar.bytes ss[i]! = LEbytes ks[i]! 32 ∧ ks[i]! < 2 ^ 255) :
    Formulas.Point_MultiScalarMult v ss ps = .panic "length" ∧ Formulas.Point_VarTimeMultiScalarMult v ss ps = .panic "length" := by
  have hne : (ss.size != ps.size) = true := by simp [hs]
  rw [regen_MultiScalarMult v ss ps ks hn hk, regen_VarTimeMultiScalarMult v ss ps ks hn hk]
  simp only [hne, if_true, and_self]

/-- `nafLookupTable8.FromP3` (the loop kept as a loop): the model's table, whatever the receiver held -/
theorem regen_nafLookupTable8_FromP3 (v : Array AffineCached) (q : P3) :
    Formulas.nafLookupTable8_FromP3 v q = .ok (Point.naf8Table q) :=
  (tie_nafLookupTable8_FromP3 v q).trans (nafLookupTable8_FromP3_eq v q)


#print axioms C01_regen_varTimeDouble
#print axioms C01_regen_multiScalarMult
#print axioms C01_regen_varTimeMultiScalarMult
#print axioms regen_nonAdjacentForm
end EdVerif.Props
