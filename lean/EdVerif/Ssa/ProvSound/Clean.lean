import EdVerif.Ssa.ProvSound.Bits
import EdVerif.Ssa.SemLemmas
import EdVerif.Ssa.ProvSound.Fast
/-!
# What the verdicts say, per instruction
-/
namespace EdVerif.Ssa.PS

open EdVerif.Ssa

theorem cleanI_spec (chk : Nat → Nat → Instr → List Nm) (b : Nat) :
    ∀ (is : List Instr) (n0 : Nat), cleanI chk b is n0 = true →
      ∀ n i, is[n]? = some i → chk b (n0 + n) i = [] := by
  intro is
  induction is with
  | nil => intro n0 _ n i h; simp at h
  | cons j js ih =>
    intro n0 h n i hi
    simp only [cleanI, Bool.and_eq_true, List.isEmpty_iff] at h
    cases n with
    | zero => simp at hi; subst hi; simpa using h.1
    | succ n =>
      simp at hi
      have := ih (n0 + 1) h.2 n i hi
      rw [show n0 + (n + 1) = n0 + 1 + n by omega]; exact this

theorem cleanB_spec (chk : Nat → Nat → Instr → List Nm) :
    ∀ (bs : List Block) (b0 : Nat), cleanB chk bs b0 = true →
      ∀ b bl, bs[b]? = some bl → ∀ n i, bl.instrs[n]? = some i → chk (b0 + b) n i = [] := by
  intro bs
  induction bs with
  | nil => intro b0 _ b bl h; simp at h
  | cons c cs ih =>
    intro b0 h b bl hb n i hi
    simp only [cleanB, Bool.and_eq_true] at h
    cases b with
    | zero =>
      simp at hb; subst hb
      have := cleanI_spec chk b0 c.instrs 0 h.1 n i hi
      simpa using this
    | succ b =>
      simp at hb
      have := ih (b0 + 1) h.2 b bl hb n i hi
      rw [show b0 + (b + 1) = b0 + 1 + b by omega]; exact this

theorem allClean_spec (sel : Selector) :
    ∀ (fs : List Func) (hs : List FuncHints) (i0 : Nat), allClean sel fs hs i0 = true →
      ∀ k f, fs[k]? = some f → ∃ h, hs[k]? = some h ∧ ∀ c, sel (i0 + k) f h = some c → c.clean f = true := by
  intro fs
  induction fs with
  | nil => intro hs i0 _ k f h; simp at h
  | cons g gs ih =>
    intro hs i0 h k f hk
    simp only [allClean, Bool.and_eq_true] at h
    cases hs with
    | nil => simp at h
    | cons h0 hs' =>
      cases k with
      | zero =>
        simp at hk; subst hk
        refine ⟨h0, by simp, ?_⟩
        intro c hc
        have h1 := h.1
        simp only [Nat.add_zero] at hc
        simp only [hc] at h1
        exact h1
      | succ k =>
        simp at hk
        obtain ⟨h', hh', hc'⟩ := ih hs' (i0 + 1) (by simpa using h.2) k f hk
        refine ⟨h', by simpa using hh', ?_⟩
        intro c hc
        apply hc'
        rw [show i0 + 1 + k = i0 + (k + 1) by omega]; exact hc

/-- position of an instruction in a function -/
def InstrAt (f : Func) (b n : Nat) (i : Instr) : Prop :=
  ∃ bl, f.blocks[b]? = some bl ∧ bl.instrs[n]? = some i

theorem ite_nil {c : Prop} [Decidable c] {x : Nm} (h : (if c then [] else [x]) = ([] : List Nm)) : c := by
  by_cases hc : c
  · exact hc
  · simp [hc] at h

/-- what a clean verdict says about function `fi`: it has hints, and if the selector concerns it, it has no
    function-level finding and none at any instruction -/
theorem allClean_fn {sel : Selector} {fs : List Func} {hs : List FuncHints} (h : allClean sel fs hs 0 = true)
    {fi : Nat} {f : Func} (hf : fs[fi]? = some f) :
    ∃ hh, hs[fi]? = some hh ∧ ∀ c, sel fi f hh = some c →
      c.fnKinds = [] ∧ ∀ b n i, InstrAt f b n i → c.instr b n i = [] := by
  obtain ⟨hh, hhh, hc⟩ := allClean_spec sel fs hs 0 h fi f hf
  refine ⟨hh, hhh, fun c hsel => ?_⟩
  have := hc c (by rw [Nat.zero_add]; exact hsel)
  simp only [FuncCheck.clean, Bool.and_eq_true, List.isEmpty_iff] at this
  refine ⟨this.1, ?_⟩
  rintro b n i ⟨bl, hb, hi⟩
  have := cleanB_spec _ _ _ this.2 b bl hb n i hi
  rwa [Nat.zero_add] at this

/-- the same when the hints of `fi` are known -/
theorem allClean_at {sel : Selector} {fs : List Func} {hs : List FuncHints} (h : allClean sel fs hs 0 = true)
    {fi : Nat} {f : Func} (hf : fs[fi]? = some f) {hh : FuncHints} (hhh : hs[fi]? = some hh) {c : FuncCheck}
    (hsel : sel fi f hh = some c) : c.fnKinds = [] ∧ ∀ b n i, InstrAt f b n i → c.instr b n i = [] := by
  obtain ⟨hh', e, hc⟩ := allClean_fn h hf
  rw [hhh] at e; cases e
  exact hc c hsel

/-- the facts the proofs use about a program whose verdicts are `true` -/
structure Facts (P : Program) (H : List FuncHints) : Prop where
  hints : ∀ (fi : Nat) f, P.funcs[fi]? = some f → ∃ h, H[fi]? = some h
  nparams : ∀ (fi : Nat) f, P.funcs[fi]? = some f → f.params.length ≤ 16
  prov : ∀ (fi : Nat) f h, P.funcs[fi]? = some f → H[fi]? = some h → ∀ b n i, InstrAt f b n i →
    pInstr { prog := P, hints := H, f := f, h := h } i = []
  entry : ∀ (fi : Nat) f, P.funcs[fi]? = some f → (Side.defSets f).headD 0 = 0
  noLoaded : ∀ (fi : Nat) f h, P.funcs[fi]? = some f → H[fi]? = some h → h.writes.testBit 17 = false
  side : ∀ (fi : Nat) f h, P.funcs[fi]? = some f → H[fi]? = some h → ∀ b n i, InstrAt f b n i →
    Side.sInstr { prog := P, hints := H, f := f, h := h } (Side.defSets f) (blockOffsets f.blocks 0) b n i = []

theorem forceNat_eq {α} (n : Nat) (k : Nat → α) : Side.forceNat n k = k n := by
  cases n <;> rfl

theorem forceList_eq {α} : ∀ (xs : List Nat) (k : List Nat → α), Side.forceList xs k = k xs := by
  intro xs
  induction xs with
  | nil => intro k; rfl
  | cons x xs ih => intro k; simp [Side.forceList, forceNat_eq, ih]

theorem sideSelector_eq (P : Program) (H : List FuncHints) (fi : Nat) (f : Func) (h : FuncHints) :
    Side.sideSelector P H fi f h = some (Side.sideCheck P H f h (Side.defSets f) (blockOffsets f.blocks 0)) := by
  simp [Side.sideSelector, forceList_eq]

theorem facts_of_ok {P : Program} {H : List FuncHints} (h : provOkSimple P H = true) : Facts P H := by
  simp only [provOkSimple, provSideOk_eq, Bool.and_eq_true] at h
  have hside : ∀ (fi : Nat) f h', P.funcs[fi]? = some f → H[fi]? = some h' →
      ((Side.defSets f).headD 0 == 0 && !Prov.has h'.writes Prov.loaded) = true ∧
      ∀ b n i, InstrAt f b n i →
        Side.sInstr { prog := P, hints := H, f := f, h := h' } (Side.defSets f) (blockOffsets f.blocks 0) b n i = [] := by
    intro fi f h' hf hh'
    obtain ⟨h1, h2⟩ := allClean_at h.2 hf hh' (sideSelector_eq P H fi f h')
    exact ⟨ite_nil h1, h2⟩
  refine ⟨?_, ?_, ?_, ?_, ?_, ?_⟩
  · intro fi f hf
    obtain ⟨h', hh', _⟩ := allClean_fn h.1 hf
    exact ⟨h', hh'⟩
  · intro fi f hf
    obtain ⟨h', hh', hc⟩ := allClean_fn h.1 hf
    exact ite_nil (hc _ rfl).1
  · intro fi f h' hf hh'
    exact (allClean_at h.1 hf hh' rfl).2
  · intro fi f hf
    obtain ⟨h', hh', _⟩ := allClean_fn h.2 hf
    have := (hside fi f h' hf hh').1
    simp only [Bool.and_eq_true, beq_iff_eq] at this
    exact this.1
  · intro fi f h' hf hh'
    have := (hside fi f h' hf hh').1
    simp only [Bool.and_eq_true, Bool.not_eq_true'] at this
    exact has_false_testBit this.2
  · intro fi f h' hf hh'
    exact (hside fi f h' hf hh').2

end EdVerif.Ssa.PS
