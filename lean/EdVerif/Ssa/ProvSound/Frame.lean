import EdVerif.Ssa.ProvSound.Calls
/-!
# From the frame invariant to the instruction context and back
-/
namespace EdVerif.Ssa.PS

open EdVerif.Ssa

variable {P : Program} {H : List FuncHints} {h : FuncHints}

/-- the frame with the current instruction removed from `rest` -/
abbrev popI (fr0 : Frame) (rest : List Instr) : Frame := { fr0 with rest := rest }

theorem testBit_rangeMask (n off id : Nat) : ((((1 <<< n) - 1) <<< off).testBit id = true) ↔ (off ≤ id ∧ id < off + n) := by
  rw [Nat.testBit_shiftLeft, Nat.one_shiftLeft, Nat.testBit_two_pow_sub_one]
  simp only [Bool.and_eq_true, decide_eq_true_eq, ge_iff_le]
  omega

theorem testBit_defMask {f : Func} {blk : Nat} {pre : List Instr} {offs : List Nat}
    (hids : ∀ (k : Nat) (j : Instr), pre[k]? = some j → j.id = offs.getD blk 0 + k) (id : Nat) :
    (Side.defMask (Side.defSets f) offs blk pre.length).testBit id = true ↔ DefSet f blk pre id := by
  unfold Side.defMask DefSet
  simp only [Nat.testBit_or, Bool.or_eq_true]
  rw [testBit_rangeMask]
  constructor
  · rintro (hd | ⟨h1, h2⟩)
    · exact Or.inl hd
    · right
      have hk : id - offs.getD blk 0 < pre.length := by omega
      refine ⟨pre[id - offs.getD blk 0], List.getElem_mem hk, ?_⟩
      rw [hids _ _ (List.getElem?_eq_getElem hk)]; omega
  · rintro (hd | ⟨j, hj, hjid⟩)
    · exact Or.inl hd
    · right
      obtain ⟨k, hk⟩ := List.getElem?_of_mem hj
      have hlt : k < pre.length := lt_length_of_getElem? hk
      rw [← hjid, hids k j hk]; omega

theorem ids_of_block {P : Program} {H : List FuncHints} {h : FuncHints} (F : Facts P H) {fi : Nat} {f : Func}
    (hf : P.funcs[fi]? = some f) (hh : H[fi]? = some h) {blk : Nat} {bl : Block} {pre rest : List Instr}
    (hb : f.blocks[blk]? = some bl) (hi : bl.instrs = pre ++ rest) :
    ∀ (k : Nat) (j : Instr), pre[k]? = some j → j.id = (blockOffsets f.blocks 0).getD blk 0 + k := by
  intro k j hk
  have hlt : k < pre.length := lt_length_of_getElem? hk
  have hat : InstrAt f blk k j := ⟨bl, hb, by rw [hi, List.getElem?_append_left hlt]; exact hk⟩
  exact (sInstr_spec (F.side fi f h hf hh blk k j hat)).id

/-- what is known when instruction `i` of the top frame is about to execute -/
structure Exec (P : Program) (H : List FuncHints) (h : FuncHints) (fr0 : Frame) (mark : Nat) (i : Instr) (rest : List Instr)
    (bl : Block) (pre : List Instr) : Prop where
  hb : fr0.f.blocks[fr0.blk]? = some bl
  hi : bl.instrs = pre ++ i :: rest
  ic : IC P H h (popI fr0 rest) mark (Side.defMask (Side.defSets fr0.f) (blockOffsets fr0.f.blocks 0) fr0.blk pre.length) i
  side : SideI (pc P H fr0.f h) (Side.defSets fr0.f) (blockOffsets fr0.f.blocks 0) fr0.blk pre.length i

theorem instrAt_of_split {f : Func} {blk : Nat} {bl : Block} {pre rest : List Instr} {i : Instr}
    (hb : f.blocks[blk]? = some bl) (hi : bl.instrs = pre ++ i :: rest) : InstrAt f blk pre.length i :=
  ⟨bl, hb, by rw [hi]; simp⟩

theorem exec_of_inv (F : Facts P H) {fr0 : Frame} {mark : Nat} {i : Instr} {rest : List Instr}
    (inv : FrameInv P H h fr0 mark none) (hr : fr0.rest = i :: rest) : ∃ bl pre, Exec P H h fr0 mark i rest bl pre := by
  obtain ⟨bl, pre, hb, hi, hdef⟩ := inv.pos
  rw [hr] at hi
  have hat := instrAt_of_split hb hi
  have hside := sInstr_spec (F.side fr0.fi fr0.f h inv.hf inv.hh fr0.blk pre.length i hat)
  have hself : fr0.f.instrs[i.id]? = some i := instrs_at hat hside.id
  refine ⟨bl, pre, hb, hi, ?_, hside⟩
  exact
    { facts := F, hf := inv.hf, hh := inv.hh,
      regsOk := fun id v hv => (inv.regs id v hv).1,
      tupOk := fun id v hv => (inv.regs id v hv).2,
      paramsOk := paramsOk_of (F.nparams _ _ inv.hf) inv.params,
      paramsSized := fun k p a hp ha => (inv.params k p a hp ha).1,
      defd := by
        intro id hbit j hj hdv
        have hds : DefSet fr0.f fr0.blk pre id := (testBit_defMask (ids_of_block F inv.hf inv.hh hb hi) id).1 hbit
        exact hdef id hds (by simp) j hj hdv
      self := hself,
      glob := fun g hg => globalsInRange_mem hside.glob g hg,
      lab := RootsLe.of_subset_roots hside.lab,
      size := hside.size,
      prov := F.prov fr0.fi fr0.f h inv.hf inv.hh fr0.blk pre.length i hat }

theorem tupOk_of_not_call {f : Func} {x : RCtx} {i : Instr} (hself : f.instrs[i.id]? = some i)
    (hn : ∀ g a, i.op ≠ .call (.fn g) a) (v : RVal) : TupOk P H f h x i.id v := by
  intro ic g cargs gh hic hop _
  rw [hself] at hic; cases hic
  exact absurd hop (hn g cargs)

/-- a value defined before `pre ++ [i]` other than that of `i` is defined before `pre` -/
theorem DefSet.of_snoc {f : Func} {blk : Nat} {pre : List Instr} {i : Instr} {id : Nat}
    (hds : DefSet f blk (pre ++ [i]) id) (hid : id ≠ i.id) : DefSet f blk pre id := by
  rcases hds with hd | ⟨k, hk, hkid⟩
  · exact Or.inl hd
  · rcases List.mem_append.1 hk with hk | hk
    · exact Or.inr ⟨k, hk, hkid⟩
    · simp at hk; subst hk; exact absurd hkid.symm hid

/-- after an instruction that sets its own register -/
theorem frameInv_setReg {fr0 : Frame} {mark : Nat} {i : Instr} {rest : List Instr} {v : RVal}
    (inv : FrameInv P H h fr0 mark none) (hself : fr0.f.instrs[i.id]? = some i) (hr : fr0.rest = i :: rest)
    (hv : GoodV P h (popI fr0 rest) mark i v) (htup : TupOk P H fr0.f h (fx P fr0 mark) i.id v) :
    FrameInv P H h { popI fr0 rest with regs := regSet fr0.regs i.id v } mark none := by
  obtain ⟨bl, pre, hb, hi, hdef⟩ := inv.pos
  rw [hr] at hi
  refine ⟨inv.hf, inv.hh, ⟨bl, pre ++ [i], hb, by simp [hi], ?_⟩, ?_, inv.params⟩
  · intro id hds _ j hj hdv
    by_cases hid : id = i.id
    · subst hid
      have : j = i := by rw [hself] at hj; cases hj; rfl
      subst this
      exact ⟨v, regSet_self _ _ _, hv.2⟩
    · have hds' : DefSet fr0.f fr0.blk pre id := hds.of_snoc hid
      obtain ⟨w, hw, hsz⟩ := hdef id hds' (by simp) j hj hdv
      exact ⟨w, regSet_other hid hw, hsz⟩
  · apply regSet_forall (P := fun id v => RVOk (fx P fr0 mark) (provOf h.provRegs id) v ∧ TupOk P H fr0.f h (fx P fr0 mark) id v)
    · exact inv.regs
    · exact ⟨hv.1, htup⟩
    · intro k; exact ⟨RVOk.nil _ _, TupOk.nil _ _ _ _ _ _⟩

/-- after an instruction that defines no value -/
theorem frameInv_noReg {fr0 : Frame} {mark : Nat} {i : Instr} {rest : List Instr}
    (inv : FrameInv P H h fr0 mark none) (hself : fr0.f.instrs[i.id]? = some i) (hr : fr0.rest = i :: rest)
    (hnr : Side.definesValue i.op = false) :
    FrameInv P H h (popI fr0 rest) mark none := by
  obtain ⟨bl, pre, hb, hi, hdef⟩ := inv.pos
  rw [hr] at hi
  refine ⟨inv.hf, inv.hh, ⟨bl, pre ++ [i], hb, by simp [hi], ?_⟩, inv.regs, inv.params⟩
  intro id hds _ j hj hdv
  by_cases hid : id = i.id
  · subst hid
    have : j = i := by rw [hself] at hj; cases hj; rfl
    subst this
    rw [hnr] at hdv; cases hdv
  · have hds' : DefSet fr0.f fr0.blk pre id := hds.of_snoc hid
    exact hdef id hds' (by simp) j hj hdv

/-- the caller's frame while a call of a program function (instruction `i`) is in progress -/
theorem frameInv_pending {fr0 : Frame} {mark : Nat} {i : Instr} {rest : List Instr}
    (inv : FrameInv P H h fr0 mark none) (hr : fr0.rest = i :: rest) :
    FrameInv P H h (popI fr0 rest) mark (some i.id) := by
  obtain ⟨bl, pre, hb, hi, hdef⟩ := inv.pos
  rw [hr] at hi
  refine ⟨inv.hf, inv.hh, ⟨bl, pre ++ [i], hb, by simp [hi], ?_⟩, inv.regs, inv.params⟩
  intro id hds hpend j hj hdv
  have hid : id ≠ i.id := fun e => hpend (by rw [e])
  have hds' : DefSet fr0.f fr0.blk pre id := hds.of_snoc hid
  exact hdef id hds' (by simp) j hj hdv

end EdVerif.Ssa.PS
