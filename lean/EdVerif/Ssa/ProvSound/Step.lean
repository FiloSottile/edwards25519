import EdVerif.Ssa.ProvSound.CallRet
/-!
# One step of the machine preserves the stack invariant
-/
namespace EdVerif.Ssa.PS

open EdVerif.Ssa

variable {P : Program} {H : List FuncHints}

structure SInv (P : Program) (H : List FuncHints) (bot : Callee) (s : State) (ms : List Nat) : Prop where
  stack : StackInv P H bot s.stack ms
  mark : ∀ m ms', ms = m :: ms' → m ≤ s.heap.blocks.size

/-- blocks the top frame may store into -/
def TopW (P : Program) (H : List FuncHints) (s : State) (ms : List Nat) (b : Nat) : Prop :=
  ∃ fr frs m ms' h, s.stack = fr :: frs ∧ ms = m :: ms' ∧ H[fr.fi]? = some h ∧ Writable P h fr m b

/-- what a finished outermost call returns: every result is covered by an entry of the function's
    return summary (or by the empty label) -/
def DoneFacts (P : Program) (H : List FuncHints) (bot : Callee) (rets : List RVal) : Prop :=
  ∃ h, H[bot.fi]? = some h ∧ ∀ r ∈ rets, ∃ sL, (sL = 0 ∨ sL ∈ h.returns) ∧ RVOk ⟨P.globals.length, bot.params, bot.mark⟩ sL r

/-- how the marks evolve: same frames / one frame pushed (its mark is the heap size) / one frame popped -/
def MsNext (s : State) (ms : List Nat) (s' : State) (ms' : List Nat) : Prop :=
  (s'.stack.length = s.stack.length ∧ ms' = ms) ∨
  (s'.stack.length = s.stack.length + 1 ∧ ms' = s'.heap.blocks.size :: ms) ∨
  (s'.stack.length + 1 = s.stack.length ∧ ms' = ms.tail)

def StepGoal (P : Program) (H : List FuncHints) (bot : Callee) (s : State) (ms : List Nat) : Step → Prop
  | .cont s' _ => (∃ ms', SInv P H bot s' ms' ∧ MsNext s ms s' ms') ∧ HeapStep (TopW P H s ms) s.heap s'.heap
  | .done s' rets _ => s'.heap = s.heap ∧ DoneFacts P H bot rets
  | .panic s' _ _ => s'.heap = s.heap
  | .fault _ => True

theorem msNext_same {s s' : State} {ms ms' : List Nat} (h : MsNext s ms s' ms') (hl : s'.stack.length = s.stack.length) : ms' = ms := by
  rcases h with ⟨_, h⟩ | ⟨h1, _⟩ | ⟨h1, _⟩
  · exact h
  · omega
  · omega

theorem msNext_push {s s' : State} {ms ms' : List Nat} (h : MsNext s ms s' ms') (hl : s'.stack.length = s.stack.length + 1) :
    ms' = s'.heap.blocks.size :: ms := by
  rcases h with ⟨h1, _⟩ | ⟨_, h⟩ | ⟨h1, _⟩
  · omega
  · exact h
  · omega

theorem msNext_pop {s s' : State} {ms ms' : List Nat} (h : MsNext s ms s' ms') (hl : s'.stack.length + 1 = s.stack.length) :
    ms' = ms.tail := by
  rcases h with ⟨h1, _⟩ | ⟨h1, _⟩ | ⟨_, h⟩
  · omega
  · omega
  · exact h

section
variable {bot : Callee} {s s' : State} {ms : List Nat} {ev : List Event}

/-- after a step that kept the frames / pushed one / popped one, the invariant holds with the corresponding marks -/
theorem StepGoal.same (h : StepGoal P H bot s ms (.cont s' ev)) (hl : s'.stack.length = s.stack.length) :
    SInv P H bot s' ms ∧ HeapStep (TopW P H s ms) s.heap s'.heap := by
  obtain ⟨⟨ms', hinv, hn⟩, hh⟩ := h
  exact ⟨msNext_same hn hl ▸ hinv, hh⟩

theorem StepGoal.push (h : StepGoal P H bot s ms (.cont s' ev)) (hl : s'.stack.length = s.stack.length + 1) :
    SInv P H bot s' (s'.heap.blocks.size :: ms) ∧ HeapStep (TopW P H s ms) s.heap s'.heap := by
  obtain ⟨⟨ms', hinv, hn⟩, hh⟩ := h
  exact ⟨msNext_push hn hl ▸ hinv, hh⟩

theorem StepGoal.pop (h : StepGoal P H bot s ms (.cont s' ev)) (hl : s'.stack.length + 1 = s.stack.length) :
    SInv P H bot s' ms.tail ∧ HeapStep (TopW P H s ms) s.heap s'.heap := by
  obtain ⟨⟨ms', hinv, hn⟩, hh⟩ := h
  exact ⟨msNext_pop hn hl ▸ hinv, hh⟩

end

section
variable {bot : Callee} {h : FuncHints} {hp : Heap} {fr0 : Frame} {frs : List Frame} {m : Nat} {ms' : List Nat}
  {i : Instr} {rest : List Instr} {bl : Block} {pre : List Instr}

theorem topW_of (inv : FrameInv P H h fr0 m none) {b : Nat} (hw : Writable P h (popI fr0 rest) m b) :
    TopW P H ⟨hp, fr0 :: frs⟩ (m :: ms') b :=
  ⟨fr0, frs, m, ms', h, rfl, rfl, inv.hh, hw⟩

/-- instructions that only set their own register / change the heap -/
theorem local_case (inv : FrameInv P H h fr0 m none) (hlow : LowerInv P H bot (Callee.of h fr0 m) frs ms')
    (hmark : m ≤ hp.blocks.size) (ex : Exec P H h fr0 m i rest bl pre) (hr : fr0.rest = i :: rest)
    (hnc : ∀ g a, i.op ≠ .call (.fn g) a) {r : Step}
    (hl : LocalI P h hp (popI fr0 rest) frs m i r) : StepGoal P H bot ⟨hp, fr0 :: frs⟩ (m :: ms') r := by
  cases hl with
  | reg v hp' evs hv hh =>
    refine ⟨⟨m :: ms', ⟨?_, ?_⟩, Or.inl ⟨rfl, rfl⟩⟩, hh.mono (fun b hb => topW_of inv hb)⟩
    · exact ⟨h, frameInv_setReg inv ex.ic.self hr hv (tupOk_of_not_call ex.ic.self hnc v), hlow⟩
    · intro m0 ms0 he; cases he; exact Nat.le_trans hmark hh.1
  | noreg hp' evs hnr hh =>
    refine ⟨⟨m :: ms', ⟨?_, ?_⟩, Or.inl ⟨rfl, rfl⟩⟩, hh.mono (fun b hb => topW_of inv hb)⟩
    · exact ⟨h, frameInv_noReg inv ex.ic.self hr hnr, hlow⟩
    · intro m0 ms0 he; cases he; exact Nat.le_trans hmark hh.1
  | panic c evs => rfl
  | fault w => trivial

/-- `If` / `Jump` -/
theorem jump_case (F : Facts P H) (inv : FrameInv P H h fr0 m none) (hlow : LowerInv P H bot (Callee.of h fr0 m) frs ms')
    (hmark : m ≤ hp.blocks.size) (ex : Exec P H h fr0 m i rest bl pre) (hr : fr0.rest = i :: rest)
    (hnv : Side.definesValue i.op = false) {t : Nat}
    (hj : Side.jumpOk P fr0.f (Side.defSets fr0.f) (blockOffsets fr0.f.blocks 0) fr0.blk pre.length t = true) (evs : List Event) (w : String) :
    StepGoal P H bot ⟨hp, fr0 :: frs⟩ (m :: ms')
      (match jumpTo P (popI fr0 rest) t with
       | some fr' => .cont { heap := hp, stack := fr' :: frs } evs
       | none => .fault w) := by
  split
  · rename_i fr' hjt
    obtain ⟨hinv', e1, e2, e3, e4⟩ := jumpTo_inv F inv ex hr hnv hj hjt
    refine ⟨⟨m :: ms', ⟨?_, ?_⟩, Or.inl ⟨rfl, rfl⟩⟩, HeapStep.refl _ _⟩
    · have : Callee.of h fr' m = Callee.of h fr0 m := by simp [Callee.of, e1, e2, e3, e4]
      exact ⟨h, hinv', this ▸ hlow⟩
    · intro m0 ms0 he; cases he; exact hmark
  · trivial

/-- `Return` -/
theorem ret_case (inv : FrameInv P H h fr0 m none) (hlow : LowerInv P H bot (Callee.of h fr0 m) frs ms')
    (hmark : m ≤ hp.blocks.size) (ex : Exec P H h fr0 m i rest bl pre) {vals : List Opnd} (hop : i.op = .ret vals) :
    StepGoal P H bot ⟨hp, fr0 :: frs⟩ (m :: ms') (stepRet P hp (popI fr0 rest) frs vals) := by
  unfold stepRet
  split
  · rename_i vs he
    split
    · -- the outermost frame returns
      cases ms' with
      | cons _ _ => simp [LowerInv] at hlow
      | nil =>
        simp only [LowerInv] at hlow
        refine ⟨rfl, h, ?_, ?_⟩
        · rw [← hlow]; exact inv.hh
        · intro r hrm
          obtain ⟨j, hj⟩ := List.getElem?_of_mem hrm
          obtain ⟨hlen, hargs⟩ := ex.ic.args (by intro o ho; simpa [hop, Op.operands] using ho) he
          have hctl := ex.side.ctl
          simp only [hop, Bool.and_eq_true] at hctl
          have hjl : j < vals.length := by rw [← hlen]; exact lt_length_of_getElem? hj
          have ho := List.getElem?_eq_getElem hjl
          refine ⟨h.returns.getD j 0, ?_, ?_⟩
          · rw [List.getD_eq_getElem?_getD]
            cases hg : h.returns[j]? with
            | none => left; rfl
            | some sL => right; exact List.mem_of_getElem? hg
          · have := (hargs j _ _ ho hj).mono (retLab_spec _ _ _ hctl.2 j _ ho)
            rw [← hlow]
            exact this
    · rename_i caller rest'
      cases ms' with
      | nil => simp [LowerInv] at hlow
      | cons mc ms'' =>
        simp only [LowerInv] at hlow
        obtain ⟨hc, cinv, link, hlow'⟩ := hlow
        split
        · rename_i d hd
          refine ⟨⟨mc :: ms'', ⟨?_, ?_⟩, Or.inr (Or.inr ⟨rfl, rfl⟩)⟩, HeapStep.refl _ _⟩
          · have hd' : fr0.dest = some d := hd
            have cinv' : FrameInv P H hc caller mc (some d) := by
              have : (Callee.of h fr0 m).dest = some d := hd'
              rw [this] at cinv; exact cinv
            exact ⟨hc, ret_into_caller inv ex hop he hd' cinv' link, hlow'⟩
          · intro m0 ms0 he'; cases he'
            exact Nat.le_trans link.mark hmark
        · rename_i hd
          refine ⟨⟨mc :: ms'', ⟨?_, ?_⟩, Or.inr (Or.inr ⟨rfl, rfl⟩)⟩, HeapStep.refl _ _⟩
          · have hd' : fr0.dest = none := hd
            have cinv' : FrameInv P H hc caller mc none := by
              have : (Callee.of h fr0 m).dest = none := hd'
              rw [this] at cinv; exact cinv
            exact ⟨hc, cinv', hlow'⟩
          · intro m0 ms0 he'; cases he'
            exact Nat.le_trans link.mark hmark
  · trivial

/-- `Call` -/
theorem call_case (F : Facts P H) (inv : FrameInv P H h fr0 m none) (hlow : LowerInv P H bot (Callee.of h fr0 m) frs ms')
    (hmark : m ≤ hp.blocks.size) (ex : Exec P H h fr0 m i rest bl pre) (hr : fr0.rest = i :: rest)
    {callee : EdVerif.Ssa.Callee} {cargs : List Opnd} (hop : i.op = .call callee cargs) :
    StepGoal P H bot ⟨hp, fr0 :: frs⟩ (m :: ms') (stepCall P hp (popI fr0 rest) frs i callee cargs) := by
  unfold stepCall
  split
  · rename_i vs he
    split
    · -- program function
      rename_i g
      split
      · rename_i gf hgf
        split
        · rename_i nf hnf
          obtain ⟨gh, ninv, link, hdest⟩ := call_push F ex hmark hop he hgf hnf
          refine ⟨⟨hp.blocks.size :: m :: ms', ⟨?_, ?_⟩, Or.inr (Or.inl ⟨rfl, rfl⟩)⟩, HeapStep.refl _ _⟩
          · refine ⟨gh, ninv, ?_⟩
            simp only [LowerInv]
            refine ⟨h, ?_, link, hlow⟩
            have : (Callee.of gh nf hp.blocks.size).dest = some i.id := hdest
            rw [this]
            exact frameInv_pending inv hr
          · intro m0 ms0 he'; cases he'; exact Nat.le_refl _
        · trivial
      · trivial
    · -- external
      rename_i n
      have hnc : ∀ g a, i.op ≠ .call (.fn g) a := by intro g a e; rw [hop] at e; cases e
      rcases stepExtern_local (hp := hp) (frs := frs) ex.ic hop he with hl | ⟨b, o, g, gf, nf, hp', evs, hw, hwr, hgf, hnf, hgood, hres⟩
      · exact local_case inv hlow hmark ex hr hnc hl
      · rw [hres]
        have hsize := (Heap.write_spec hwr).2.1
        obtain ⟨gh, ninv, link, hdest⟩ := once_push (h := h) (fr := { popI fr0 rest with regs := regSet fr0.regs i.id [] }) F
          (show m ≤ hp'.blocks.size by omega) hgf hnf
        refine ⟨⟨hp'.blocks.size :: m :: ms', ⟨?_, ?_⟩, Or.inr (Or.inl ⟨rfl, rfl⟩)⟩, (HeapStep.write hwr hw).mono (fun b hb => topW_of inv hb)⟩
        · refine ⟨gh, ninv, ?_⟩
          simp only [LowerInv]
          refine ⟨h, ?_, link, hlow⟩
          have : (Callee.of gh nf hp'.blocks.size).dest = none := hdest
          rw [this]
          exact frameInv_setReg inv ex.ic.self hr hgood (tupOk_of_not_call ex.ic.self hnc [])
        · intro m0 ms0 he'; cases he'; exact Nat.le_refl _
    · -- builtin
      have hnc : ∀ g a, i.op ≠ .call (.fn g) a := by intro g a e; rw [hop] at e; cases e
      exact local_case inv hlow hmark ex hr hnc (stepBuiltin_local ex.ic hop he)
    · trivial
    · trivial
  · trivial

end

theorem step_inv (F : Facts P H) {bot : Callee} {s : State} {ms : List Nat} (hinv : SInv P H bot s ms) :
    StepGoal P H bot s ms (step P s) := by
  obtain ⟨hp, stack⟩ := s
  cases stack with
  | nil => simp [step, StepGoal]
  | cons fr0 frs =>
    cases ms with
    | nil => exact absurd hinv.stack (by simp [StackInv])
    | cons m ms' =>
      obtain ⟨h, inv, hlow⟩ := hinv.stack
      have hmark : m ≤ hp.blocks.size := hinv.mark m ms' rfl
      cases hrest : fr0.rest with
      | nil => simp [step, hrest, StepGoal]
      | cons i rest =>
        obtain ⟨bl, pre, ex⟩ := exec_of_inv F inv hrest
        unfold step
        simp only [hrest]
        cases hop : i.op with
        | alloc hpf ek =>
          simp only
          exact local_case inv hlow hmark ex hrest (by rw [hop]; intro g a e; cases e) (stepAlloc_local ex.ic hmark hop)
        | binop op xk x y =>
          simp only
          exact local_case inv hlow hmark ex hrest (by rw [hop]; intro g a e; cases e) (stepBinop_local ex.ic hop)
        | unop op x =>
          simp only
          exact local_case inv hlow hmark ex hrest (by rw [hop]; intro g a e; cases e) (stepUnop_local ex.ic hop)
        | load x =>
          simp only
          exact local_case inv hlow hmark ex hrest (by rw [hop]; intro g a e; cases e) (stepLoad_local ex.ic hop)
        | call callee args =>
          simp only
          exact call_case F inv hlow hmark ex hrest hop
        | changeType x =>
          simp only
          exact local_case inv hlow hmark ex hrest (by rw [hop]; intro g a e; cases e) (changeType_local ex.ic hop)
        | convert fk x =>
          simp only
          exact local_case inv hlow hmark ex hrest (by rw [hop]; intro g a e; cases e) (stepConvert_local ex.ic hop)
        | sliceToArrayPointer x =>
          simp only
          exact local_case inv hlow hmark ex hrest (by rw [hop]; intro g a e; cases e) (stepSliceToArrayPointer_local ex.ic hop)
        | extract x idx =>
          simp only
          exact local_case inv hlow hmark ex hrest (by rw [hop]; intro g a e; cases e) (stepExtract_local ex.ic hop)
        | fieldAddr x fld fname =>
          simp only
          exact local_case inv hlow hmark ex hrest (by rw [hop]; intro g a e; cases e) (stepFieldAddr_local ex.ic hop)
        | field x fld fname =>
          simp only
          refine local_case inv hlow hmark ex hrest (by rw [hop]; intro g a e; cases e) (stepField_local ex.ic (by simp [hop, Op.operands]) (ex.ic.labOf (by simp [Side.reqU, hop])) ?_)
          have := ex.ic.size
          simp only [Side.resSizeOk, hop] at this
          exact this
        | indexAddr xk x ix =>
          simp only
          exact local_case inv hlow hmark ex hrest (by rw [hop]; intro g a e; cases e) (stepIndexAddr_local ex.ic hop)
        | index x ix =>
          simp only
          exact local_case inv hlow hmark ex hrest (by rw [hop]; intro g a e; cases e) (stepIndex_local ex.ic hop)
        | lookup x ix => simp [StepGoal]
        | slice xk x lo hi mx =>
          simp only
          exact local_case inv hlow hmark ex hrest (by rw [hop]; intro g a e; cases e) (stepSlice_local ex.ic hop)
        | makeSlice l c =>
          simp only
          exact local_case inv hlow hmark ex hrest (by rw [hop]; intro g a e; cases e) (stepMakeSlice_local ex.ic hmark hop)
        | makeClosure fn bs => simp [StepGoal]
        | makeInterface x =>
          simp only
          exact local_case inv hlow hmark ex hrest (by rw [hop]; intro g a e; cases e) (stepMakeInterface_local ex.ic hop)
        | phi es => simp [StepGoal]
        | store vk a v =>
          simp only
          exact local_case inv hlow hmark ex hrest (by rw [hop]; intro g a e; cases e) (stepStore_local ex.ic hop)
        | «if» c t e =>
          simp only
          have hctl := ex.side.ctl
          simp only [hop, Bool.and_eq_true] at hctl
          split
          · rename_i b _
            cases b with
            | true =>
              simp only [↓reduceIte]
              exact jump_case F inv hlow hmark ex hrest (by simp [hop, Side.definesValue]) hctl.1 _ _
            | false =>
              simp only [Bool.false_eq_true, ↓reduceIte]
              exact jump_case F inv hlow hmark ex hrest (by simp [hop, Side.definesValue]) hctl.2 _ _
          · trivial
        | jump t =>
          simp only
          have hctl := ex.side.ctl
          simp only [hop] at hctl
          exact jump_case F inv hlow hmark ex hrest (by simp [hop, Side.definesValue]) hctl _ _
        | ret vals =>
          simp only
          exact ret_case inv hlow hmark ex hop
        | panic x =>
          simp only
          split
          · rfl
          · trivial
        | unsupported w os => simp [StepGoal]

end EdVerif.Ssa.PS
