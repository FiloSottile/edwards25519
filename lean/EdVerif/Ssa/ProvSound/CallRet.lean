import EdVerif.Ssa.ProvSound.Stack
/-!
# Calls of program functions and returns
-/
namespace EdVerif.Ssa.PS

open EdVerif.Ssa

variable {P : Program} {H : List FuncHints} {h : FuncHints}

theorem argsOk_spec (c : PCtx) (dm : Nat) (ps : List Param) : ∀ (as : List Opnd) (tys : List Nat) (j : Nat),
    Side.argsOk c dm ps as tys j = true →
    ∀ (k : Nat) (a : Opnd) (p : Param), as[k]? = some a → ps[j + k]? = some p →
      Side.opndSized c.prog c.f dm ((tys.drop k).headD 0) p.tyId a = true ∧
      (p.k.pointerish = true ∨ (Prov.roots (c.lab a) == 0) = true) := by
  intro as
  induction as with
  | nil => intro tys j _ k a p ha; simp at ha
  | cons a0 as ih =>
    intro tys j hok k a p ha hp
    simp only [Side.argsOk, Bool.and_eq_true] at hok
    cases k with
    | zero =>
      simp at ha; subst ha
      simp only [Nat.add_zero] at hp
      have := hok.1
      simp only [hp, Bool.and_eq_true, Bool.or_eq_true] at this
      simpa using this
    | succ k =>
      simp at ha
      have := ih tys.tail (j + 1) hok.2 k a p ha (by rw [show j + 1 + k = j + (k + 1) by omega]; exact hp)
      rw [List.drop_tail] at this
      exact this

theorem retSized_spec (f : Func) (dm : Nat) : ∀ (vals : List Opnd) (tys : List Nat),
    Side.retSized P f dm vals tys = true →
    vals.length = tys.length ∧
    ∀ (j : Nat) (o : Opnd), vals[j]? = some o → ∃ t, tys[j]? = some t ∧ (tys.drop j).headD 0 = t ∧ Side.opndSized P f dm t t o = true := by
  intro vals
  induction vals with
  | nil =>
    intro tys hs
    cases tys with
    | nil => exact ⟨rfl, fun j o ho => by simp at ho⟩
    | cons _ _ => simp [Side.retSized] at hs
  | cons v vs ih =>
    intro tys hs
    cases tys with
    | nil => simp [Side.retSized] at hs
    | cons t ts =>
      simp only [Side.retSized, Bool.and_eq_true] at hs
      obtain ⟨hl, hj⟩ := ih ts hs.2
      refine ⟨by simp [hl], ?_⟩
      intro j o ho
      cases j with
      | zero => simp at ho; subst ho; exact ⟨t, by simp, by simp, hs.1⟩
      | succ j =>
        simp at ho
        obtain ⟨t', h1, h2, h3⟩ := hj j o ho
        exact ⟨t', by simpa using h1, by simpa using h2, h3⟩

theorem retLab_spec (c : PCtx) : ∀ (vals : List Opnd) (ss : List Prov), Side.retLab c vals ss = true →
    ∀ (j : Nat) (o : Opnd), vals[j]? = some o → RootsLe (c.lab o) (ss.getD j 0) := by
  intro vals
  induction vals with
  | nil => intro ss _ j o ho; simp at ho
  | cons v vs ih =>
    intro ss hs j o ho
    simp only [Side.retLab, Bool.and_eq_true] at hs
    cases j with
    | zero =>
      simp at ho; subst ho
      have := RootsLe.of_subset_roots hs.1
      cases ss <;> simpa using this
    | succ j =>
      simp at ho
      have := ih ss.tail hs.2 j o ho
      cases ss with
      | nil => simpa using this
      | cons s ss => simpa using this

theorem flatten_length_sum : ∀ (tys : List Nat) (vs : List RVal) (n : Nat),
    Side.sumSizes P tys = some n → vs.length = tys.length →
    (∀ (j : Nat) (w : RVal) (t : Nat), vs[j]? = some w → tys[j]? = some t → Sized P t w) → vs.flatten.length = n := by
  intro tys
  induction tys with
  | nil =>
    intro vs n hs hl _
    cases vs with
    | nil => simp [Side.sumSizes] at hs; subst hs; rfl
    | cons _ _ => simp at hl
  | cons t ts ih =>
    intro vs n hs hl hsz
    cases vs with
    | nil => simp at hl
    | cons w ws =>
      simp only [Side.sumSizes] at hs
      cases ht : P.size t with
      | none => simp [ht] at hs
      | some a =>
        cases hts : Side.sumSizes P ts with
        | none => simp [ht, hts] at hs
        | some b =>
          simp [ht, hts] at hs
          subst hs
          have h1 : w.length = a := hsz 0 w t (by simp) (by simp) a ht
          have h2 := ih ws b hts (by simpa using hl) (fun j w' t' hw ht' => hsz (j + 1) w' t' (by simpa using hw) (by simpa using ht'))
          simp [h1, h2]

theorem getD_zero_eq_headD {α} (l : List α) (d : α) : l.getD 0 d = l.headD d := by
  cases l <;> rfl

/-- the `writeSummary` check of `pInstr` at a call: the callee's `writes`, with the arguments substituted, is covered
    by the caller's -/
theorem callee_weff {h : FuncHints} {fr : Frame} {m dm : Nat} {i : Instr} (ic : IC P H h fr m dm i)
    {g : Nat} {cargs : List Opnd} (hop : i.op = .call (.fn g) cargs) {gh : FuncHints} (hgh : H[g]? = some gh) :
    RootsLe (substArgs (pc P H fr.f h) gh.writes cargs 0 (gh.writes &&& (Prov.globalMask ||| Prov.loaded)))
      (h.writes ||| Prov.fresh) := by
  have := ic.weff
  simpa [pRule, hop, pCall, pCallFn, hgh] using this

/-- a block reachable from argument `k` of a call whose callee may write through parameter `k` is among the roots of
    the label of the operand, and the caller's `writes` covers that label -/
theorem callee_arg_root {h : FuncHints} {fr : Frame} {m dm : Nat} {i : Instr} (ic : IC P H h fr m dm i)
    {g : Nat} {cargs : List Opnd} (hop : i.op = .call (.fn g) cargs) {vs : List RVal}
    (he : evalOpnds P fr cargs i.opTys = some vs) {gh : FuncHints} (hgh : H[g]? = some gh)
    {k : Nat} (hk : k < 16) (hbit : gh.writes.testBit k = true) {a : RVal} (ha : vs[k]? = some a)
    {v : Val} (hv : v ∈ a) {b : Nat} (hpt : PtrTo v b) :
    ∃ o ∈ cargs, RootsLe ((pc P H fr.f h).lab o) (h.writes ||| Prov.fresh) ∧
      InRoots (fx P fr m) ((pc P H fr.f h).lab o) b := by
  obtain ⟨hlen, hargs⟩ := ic.args (by intro o ho; simpa [hop, Op.operands] using ho) he
  have hk' : k < cargs.length := by rw [← hlen]; exact lt_length_of_getElem? ha
  refine ⟨cargs[k], List.getElem_mem hk', RootsLe.trans ?_ (callee_weff ic hop hgh),
    hargs k _ _ (List.getElem?_eq_getElem hk') ha v hv b hpt⟩
  intro q _ _ hq
  rw [testBit_substArgs]
  right
  exact ⟨k, _, List.getElem?_eq_getElem hk', by omega, by simpa using hbit, hq⟩

/-- the frame `mkFrame` builds for a function entered at block 0, given that the arguments fit the parameters -/
theorem frameInv_entry (F : Facts P H) {g : Nat} {gf : Func} (hgf : P.funcs[g]? = some gf) {gh : FuncHints}
    (hgh : H[g]? = some gh) {b0 : Block} (hb0 : gf.blocks[0]? = some b0) {args : List RVal} (dest : Option Nat) (mark : Nat)
    (hpar : ∀ (k : Nat) (p : Param) (a : RVal), gf.params[k]? = some p → args[k]? = some a →
      Sized P p.tyId a ∧ (p.k.pointerish = false → NoPtr a)) :
    FrameInv P H gh { fi := g, f := gf, regs := #[], params := args.toArray, blk := 0, rest := b0.instrs, dest := dest }
      mark none := by
  refine ⟨hgf, hgh, ⟨b0, [], hb0, rfl, ?_⟩, ?_, ?_⟩
  · intro id hds _ j _ _
    rcases hds with hd | ⟨k, hk, _⟩
    · have := F.entry g gf hgf
      rw [getD_zero_eq_headD, this] at hd
      simp at hd
    · cases hk
  · intro id v hv; simp at hv
  · intro k p a hpk hak
    exact hpar k p a hpk (by simpa using hak)

/-- entering a program function -/
theorem call_push (F : Facts P H) {fr0 : Frame} {mark : Nat} {i : Instr} {rest : List Instr} {bl : Block} {pre : List Instr}
    (ex : Exec P H h fr0 mark i rest bl pre) {hp : Heap} (hm : mark ≤ hp.blocks.size)
    {g : Nat} {cargs : List Opnd} (hop : i.op = .call (.fn g) cargs) {vs : List RVal}
    (he : evalOpnds P (popI fr0 rest) cargs i.opTys = some vs) {gf : Func} (hgf : P.funcs[g]? = some gf)
    {nf : Frame} (hnf : mkFrame g gf vs (some i.id) = some nf) :
    ∃ gh, FrameInv P H gh nf hp.blocks.size none ∧ Link P H h (popI fr0 rest) mark (Callee.of gh nf hp.blocks.size) ∧
      nf.dest = some i.id := by
  obtain ⟨gh, hgh⟩ := F.hints g gf hgf
  have ic := ex.ic
  obtain ⟨b0, hb0, rfl⟩ := mkFrame_eq_some hnf
  have hsz := ic.size
  simp only [Side.resSizeOk, hop, hgf, Bool.and_eq_true] at hsz
  obtain ⟨hlen, hargs⟩ := ic.args (by intro o ho; simpa [hop, Op.operands] using ho) he
  obtain ⟨_, hev⟩ := evalOpnds_spec P _ _ _ _ he
  refine ⟨gh, ?_, ?_, rfl⟩
  · -- the new frame
    refine frameInv_entry F hgf hgh hb0 _ _ ?_
    intro k p a hpk hak'
    have hk : k < cargs.length := by rw [← hlen]; exact lt_length_of_getElem? hak'
    obtain ⟨v', hv1, hv2⟩ := hev k cargs[k] (List.getElem?_eq_getElem hk)
    rw [hak'] at hv1; cases hv1
    obtain ⟨hs1, hs2⟩ := argsOk_spec _ _ _ _ _ _ hsz.2 k cargs[k] p (List.getElem?_eq_getElem hk) (by simpa using hpk)
    refine ⟨evalOpnd_sized ic.defd ic.paramsSized hs1 hv2, ?_⟩
    intro hnp
    rcases hs2 with hs2 | hs2
    · rw [hnp] at hs2; cases hs2
    · exact (hargs k _ _ (List.getElem?_eq_getElem hk) hak').of_roots_zero hs2
  · -- the link
    refine ⟨hm, ?_, ?_⟩
    · intro b hb
      rcases hb with hb | hb
      · rcases hb with ⟨k, a, v, hk, hbit, ha, hv, hpt⟩ | ⟨hbit, hmk⟩ | hbit | ⟨gg, hg, hbit, hbe⟩
        · left
          have hak' : vs[k]? = some a := by simpa [Callee.of] using ha
          obtain ⟨o, _, hle, hin⟩ := callee_arg_root ic hop he hgh hk (testBit_or_fresh hbit (by omega)) hak' hv hpt
          exact hin.mono hle
        · left
          exact Or.inr (Or.inl ⟨by simp [Nat.testBit_or, testBit_fresh], by simp only [Callee.of] at hmk; show mark ≤ b; omega⟩)
        · have := F.noLoaded g gf gh hgf hgh
          simp [Callee.of, Nat.testBit_or, testBit_fresh, this] at hbit
        · right
          subst hbe
          have hg' : gg < P.globals.length := hg
          simp [isGlobalBlock]; omega
      · exact Or.inr hb
    · intro d hd
      simp only [Callee.of, Option.some.injEq] at hd
      subst hd
      refine ⟨i, cargs, gh, ic.self, hop, hgh, ?_, ?_, ?_, ?_⟩
      · exact ic.labOf (by simp [Side.reqU, hop, pCallFn, hgh])
      · intro n hn
        have := hsz.1
        simp only [hn, beq_iff_eq] at this
        exact this
      · intro gf' hgf'
        simp only [Callee.of] at hgf' ⊢
        rw [hgf] at hgf'; cases hgf'; rfl
      · intro k a ha
        have hak' : vs[k]? = some a := by simpa [Callee.of] using ha
        have hk' : k < cargs.length := by rw [← hlen]; exact lt_length_of_getElem? hak'
        exact ⟨cargs[k], List.getElem?_eq_getElem hk', hargs k _ _ (List.getElem?_eq_getElem hk') hak'⟩

/-- entering the closure of a `sync.Once` -/
theorem once_push (F : Facts P H) {fr : Frame} {mark : Nat} {size : Nat} (hm : mark ≤ size)
    {g : Nat} {gf : Func} (hgf : P.funcs[g]? = some gf) {nf : Frame} (hnf : mkFrame g gf [] none = some nf) :
    ∃ gh, FrameInv P H gh nf size none ∧ Link P H h fr mark (Callee.of gh nf size) ∧ nf.dest = none := by
  obtain ⟨gh, hgh⟩ := F.hints g gf hgf
  obtain ⟨b0, hb0, rfl⟩ := mkFrame_eq_some hnf
  refine ⟨gh, ?_, ?_, rfl⟩
  · exact frameInv_entry F hgf hgh hb0 _ _ (fun k p a _ hak => by simp at hak)
  · refine ⟨hm, ?_, ?_⟩
    · intro b hb
      rcases hb with hb | hb
      · rcases hb with ⟨k, a, v, hk, hbit, ha, hv, hpt⟩ | ⟨hbit, hmk⟩ | hbit | ⟨gg, hg, hbit, hbe⟩
        · simp [Callee.of] at ha
        · left
          exact Or.inr (Or.inl ⟨by simp [Nat.testBit_or, testBit_fresh], by simp only [Callee.of] at hmk; show mark ≤ b; omega⟩)
        · have := F.noLoaded g gf gh hgf hgh
          simp [Callee.of, Nat.testBit_or, testBit_fresh, this] at hbit
        · right
          subst hbe
          have hg' : gg < P.globals.length := hg
          simp [isGlobalBlock]; omega
      · exact Or.inr hb
    · intro d hd
      simp [Callee.of] at hd

/-- the value handed to the caller by a `Return` -/
theorem ret_into_caller {fr0 : Frame} {mark : Nat} {i : Instr} {rest : List Instr} {bl : Block} {pre : List Instr}
    (inv : FrameInv P H h fr0 mark none) (ex : Exec P H h fr0 mark i rest bl pre) {vals : List Opnd} (hop : i.op = .ret vals)
    {vs : List RVal} (he : evalOpnds P (popI fr0 rest) vals fr0.f.resultTys = some vs)
    {hc : FuncHints} {caller : Frame} {mc : Nat} {d : Nat} (hd : fr0.dest = some d)
    (cinv : FrameInv P H hc caller mc (some d)) (link : Link P H hc caller mc (Callee.of h fr0 mark)) :
    FrameInv P H hc { caller with regs := regSet caller.regs d (retValue vs) } mc none := by
  obtain ⟨ic, cargs, gh, hic, hcop, hgh, hlab, hsize, hres, hpar⟩ := link.call d hd
  obtain rfl : gh = h := Option.some.inj (hgh.symm.trans inv.hh)
  have hctl := ex.side.ctl
  simp only [hop, Bool.and_eq_true] at hctl
  obtain ⟨hrs, hrl⟩ := hctl
  obtain ⟨hvl, hrsz⟩ := retSized_spec _ _ _ _ hrs
  obtain ⟨hlen, hargs⟩ := ex.ic.args (by intro o ho; simpa [hop, Op.operands] using ho) he
  obtain ⟨_, hev⟩ := evalOpnds_spec P _ _ _ _ he
  -- the components of the returned tuple
  have hcomp : ∀ (j : Nat) (w : RVal), vs[j]? = some w →
      RVOk (fx P caller mc) (compLab (pc P H caller.f hc) gh.returns cargs j) w ∧
      ∀ t, fr0.f.resultTys[j]? = some t → Sized P t w := by
    intro j w hw
    have hj : j < vals.length := by rw [← hlen]; exact lt_length_of_getElem? hw
    have ho := List.getElem?_eq_getElem hj
    constructor
    · have h1 : RVOk (fx P fr0 mark) (gh.returns.getD j 0) w :=
        (hargs j _ _ ho hw).mono (retLab_spec _ _ _ hrl j _ ho)
      intro v hv b hb
      exact inRoots_compLab (x := fx P caller mc) (y := fx P fr0 mark) rfl link.mark hpar (h1 v hv b hb)
    · intro t ht
      obtain ⟨t', ht1, ht2, ht3⟩ := hrsz j _ ho
      rw [ht] at ht1; cases ht1
      obtain ⟨w', hw1, hw2⟩ := hev j _ ho
      rw [hw] at hw1; cases hw1
      rw [ht2] at hw2
      exact evalOpnd_sized ex.ic.defd ex.ic.paramsSized ht3 hw2
  have hgood : RVOk (fx P caller mc) (provOf hc.provRegs d) (retValue vs) := by
    apply RVOk.flatten
    intro w hwm
    obtain ⟨j, hj⟩ := List.getElem?_of_mem hwm
    refine ((hcomp j w hj).1).mono (RootsLe.trans ?_ hlab)
    cases hr : gh.returns[j]? with
    | none =>
      intro k _ _ hk
      unfold compLab at hk
      rw [List.getD_eq_getElem?_getD, hr] at hk
      simp only [Option.getD_none] at hk
      rw [substArgs_zero] at hk; cases hk
    | some s =>
      have := (substReturns_le (pc P H caller.f hc) cargs gh.returns 0).2 j s hr
      unfold compLab
      rw [List.getD_eq_getElem?_getD, hr]
      exact this
  have hsized : Sized P ic.ty (retValue vs) := by
    intro n hn
    apply flatten_length_sum _ vs n (hsize n hn) (by rw [hlen, hvl]; rfl)
    intro j w t hw ht
    exact (hcomp j w hw).2 t ht
  have htup : TupOk P H caller.f hc (fx P caller mc) d (retValue vs) := by
    intro ic' g' cargs' gh' hic' hcop' hgh'
    rw [hic] at hic'; cases hic'
    rw [hcop] at hcop'; cases hcop'
    obtain rfl : gh' = gh := Option.some.inj (hgh'.symm.trans inv.hh)
    refine ⟨vs, rfl, ?_⟩
    intro j w hw
    refine ⟨(hcomp j w hw).1, ?_⟩
    intro gf t hgf ht
    have := hres gf hgf
    simp only [Callee.of] at this
    rw [this] at ht
    exact (hcomp j w hw).2 t ht
  obtain ⟨cbl, cpre, hcb, hci, hcdef⟩ := cinv.pos
  refine ⟨cinv.hf, cinv.hh, ⟨cbl, cpre, hcb, hci, ?_⟩, ?_, cinv.params⟩
  · intro id hds _ j hj hdv
    by_cases hid : id = d
    · subst hid
      rw [hic] at hj; cases hj
      exact ⟨retValue vs, regSet_self _ _ _, hsized⟩
    · obtain ⟨w, hw, hsz⟩ := hcdef id hds (by simp; exact hid) j hj hdv
      exact ⟨w, regSet_other hid hw, hsz⟩
  · apply regSet_forall (P := fun id v => RVOk (fx P caller mc) (provOf hc.provRegs id) v ∧ TupOk P H caller.f hc (fx P caller mc) id v)
    · exact cinv.regs
    · exact ⟨hgood, htup⟩
    · intro k; exact ⟨RVOk.nil _ _, TupOk.nil _ _ _ _ _ _⟩

end EdVerif.Ssa.PS
