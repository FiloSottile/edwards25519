import EdVerif.Ssa.ProvSound.Step
/-!
# Soundness of the provenance checkers: `WritesStatement`, `FreshReturnsStatement`
-/
namespace EdVerif.Ssa.PS

open EdVerif.Ssa

variable {P : Program} {H : List FuncHints}

def BotW (P : Program) (bot : Callee) (b : Nat) : Prop := WritableC P bot.w bot.params bot.mark b

theorem topW_bot {bot : Callee} {s : State} {ms : List Nat} (hinv : SInv P H bot s ms) {b : Nat}
    (hw : TopW P H s ms b) : BotW P bot b := by
  obtain ⟨fr, frs, m, ms', h', hs, hms, hh', hwr⟩ := hw
  have hst := hinv.stack
  rw [hs, hms] at hst
  obtain ⟨h, inv, hlow⟩ := hst
  have : h' = h := by have := inv.hh; rw [hh'] at this; cases this; rfl
  subst this
  exact lower_chain frs ms' (Callee.of h' fr m) hlow hwr

theorem run_heap (F : Facts P H) {bot : Callee} {heap0 : Heap} (fuel : Nat) (s : State) (ms : List Nat)
    (hinv : SInv P H bot s ms) (hr : HeapStep (BotW P bot) heap0 s.heap) :
    ∀ h', (run P fuel s).heap? = some h' → HeapStep (BotW P bot) heap0 h' := by
  refine run_invariant (Inv := fun s => ∃ ms, SInv P H bot s ms ∧ HeapStep (BotW P bot) heap0 s.heap)
    (Post := fun o => ∀ h', o.heap? = some h' → HeapStep (BotW P bot) heap0 h') ?_ ?_ fuel s ⟨ms, hinv, hr⟩
  · rintro s ⟨ms, hinv, hr⟩
    have hstep := step_inv F hinv
    generalize step P s = r at hstep ⊢
    cases r with
    | cont s' _ =>
      obtain ⟨⟨ms', hinv', _⟩, hheap⟩ := hstep
      exact ⟨ms', hinv', hr.trans (hheap.mono (fun b hb => topW_bot hinv hb))⟩
    | done s' _ _ => intro h' he; cases he; rw [hstep.1]; exact hr
    | panic s' _ _ => intro h' he; cases he; rw [hstep]; exact hr
    | fault _ => intro h' he; cases he
  · rintro s ⟨_, _, hr⟩ h' he; cases he; exact hr

theorem run_done (F : Facts P H) {bot : Callee} (fuel : Nat) (s : State) (ms : List Nat) (hinv : SInv P H bot s ms) :
    ∀ s' rets, run P fuel s = .done s' rets → DoneFacts P H bot rets := by
  refine run_invariant (Inv := fun s => ∃ ms, SInv P H bot s ms)
    (Post := fun o => ∀ s' rets, o = .done s' rets → DoneFacts P H bot rets) ?_ ?_ fuel s ⟨ms, hinv⟩
  · rintro s ⟨ms, hinv⟩
    have hstep := step_inv F hinv
    generalize step P s = r at hstep ⊢
    cases r with
    | cont s' _ =>
      obtain ⟨⟨ms', hinv', _⟩, _⟩ := hstep
      exact ⟨ms', hinv'⟩
    | done _ _ _ => intro s' rets he; cases he; exact hstep.2
    | panic _ _ _ => intro s' rets he; cases he
    | fault _ => intro s' rets he; cases he
  · intro s _ s' rets he; cases he

/-- the state `callState` builds satisfies the invariant -/
theorem init_inv (F : Facts P H) {fi : Nat} {f : Func} (hf : P.funcs[fi]? = some f) {heap : Heap} {args : List RVal}
    (hargs : ArgsOk P f args) {s : State} (hs : callState P heap fi args = some s) :
    ∃ h, H[fi]? = some h ∧ s.heap = heap ∧
      SInv P H ⟨h.writes, none, fi, f.resultTys, args.toArray, heap.blocks.size⟩ s [heap.blocks.size] := by
  obtain ⟨h, hh⟩ := F.hints fi f hf
  obtain ⟨_, hmk, rfl⟩ := callState_eq_some hf hs
  obtain ⟨b0, hb0, rfl⟩ := mkFrame_eq_some hmk
  refine ⟨h, hh, rfl, ⟨?_, ?_⟩⟩
  · refine ⟨h, frameInv_entry F hf hh hb0 _ _ ?_, rfl⟩
    intro k p a hpk hak
    obtain ⟨h1, h2⟩ := hargs k p a hpk hak
    refine ⟨?_, fun hnp => noPtr_of_isAddr (h2 hnp)⟩
    intro n hn
    rw [h1] at hn; cases hn; rfl
  · intro m ms' he; cases he; exact Nat.le_refl _

theorem maskedArgBlocks_mem {mask : Prov} {b : Nat} : ∀ (args : List RVal) (i0 k : Nat) (a : RVal),
    args[k]? = some a → mask.testBit (i0 + k) = true → argBlock a = some b → b ∈ maskedArgBlocks mask args i0 := by
  intro args
  induction args with
  | nil => intro i0 k a ha; simp at ha
  | cons a0 as ih =>
    intro i0 k a ha hbit hblk
    simp only [maskedArgBlocks, List.mem_append]
    cases k with
    | zero =>
      simp at ha; subst ha
      left
      simp only [Nat.add_zero] at hbit
      simp [hbit, hblk]
    | succ k =>
      right
      simp at ha
      exact ih (i0 + 1) k a ha (by rw [show i0 + 1 + k = i0 + (k + 1) by omega]; exact hbit) hblk

theorem allowedSingle_spec {f : Func} {allowed : Prov} : ∀ (n : Nat), Side.allowedSingle P f allowed n = true →
    ∀ k, k < n → allowed.testBit k = true → ∃ p, f.params[k]? = some p ∧ P.size p.tyId = some 1 := by
  intro n
  induction n with
  | zero => intro _ k hk; omega
  | succ n ih =>
    intro hs k hk hbit
    simp only [Side.allowedSingle, Bool.and_eq_true, Bool.or_eq_true, Bool.not_eq_true'] at hs
    by_cases hkn : k = n
    · subst hkn
      rcases hs.1 with h1 | h1
      · rw [hbit] at h1; cases h1
      · cases hp : f.params[k]? with
        | none => simp [hp] at h1
        | some p => simp only [hp, beq_iff_eq] at h1; exact ⟨p, rfl, h1⟩
    · exact ih hs.2 k (by omega) hbit

end EdVerif.Ssa.PS

namespace EdVerif.Ssa

open EdVerif.Ssa.PS

/-- **C11(b)**, soundness of `provSelector` + `writesSelector` w.r.t. the execution semantics -/
theorem writes_sound : WritesStatement := by
  intro prog hints pol hprov hwr fi f hf hexp heap args s hargs hs fuel h' hh'
  have F := facts_of_ok hprov
  obtain ⟨h, hh, hheap, hinv⟩ := init_inv F hf hargs hs
  have hreach := run_heap F (heap0 := heap) fuel s _ hinv (by rw [hheap]; exact HeapStep.refl _ _) h' hh'
  -- what `writesOkSimple` says about `f`
  simp only [writesOkSimple, Bool.and_eq_true] at hwr
  have hsub : Prov.subset (Prov.minus h.writes Prov.fresh) (allowedWrites pol f) = true :=
    ite_nil (allClean_at hwr.1 hf hh rfl).1
  have hsingle : Side.allowedSingle prog f (allowedWrites pol f) 16 = true :=
    ite_nil (allClean_at hwr.2 hf hh (if_pos hexp)).1
  intro b hb hnot hng
  apply hreach.2 b hb
  intro hw
  rcases hw with hw | hw
  · rcases hw with ⟨k, a, v, hk, hbit, ha, hv, hpt⟩ | ⟨_, hmk⟩ | hbit | ⟨g, hg, _, hbe⟩
    · have hbit' : h.writes.testBit k = true := by
        simp only [Nat.testBit_or, testBit_fresh, Bool.or_eq_true, decide_eq_true_eq] at hbit
        rcases hbit with h3 | h3
        · exact h3
        · omega
      have hal : (allowedWrites pol f).testBit k = true := by
        apply subset_testBit hsub
        rw [testBit_minus, hbit', testBit_fresh]
        have : decide (16 = k) = false := by simp; omega
        simp [this]
      obtain ⟨p, hp, hsz⟩ := allowedSingle_spec 16 hsingle k hk hal
      have ha' : args[k]? = some a := by simpa using ha
      have hlen := (hargs k p a hp ha').1
      rw [hsz] at hlen
      have hal1 : a.length = 1 := (Option.some.inj hlen).symm
      have hav : a = [v] := by
        cases a with
        | nil => cases hv
        | cons x xs =>
          cases xs with
          | nil => simp at hv; rw [hv]
          | cons _ _ => simp at hal1
      have hblk : argBlock a = some b := by
        subst hav
        cases v <;> simp only [PtrTo] at hpt
        · subst hpt; rfl
        · rw [hpt.1]; rfl
      exact hnot (maskedArgBlocks_mem args 0 k a ha' (by simpa using hal) hblk)
    · have : heap.blocks.size ≤ b := hmk
      omega
    · have := F.noLoaded fi f h hf hh
      simp [Nat.testBit_or, testBit_fresh, this] at hbit
    · subst hbe
      have hg' : g < prog.globals.length := hg
      simp [isGlobalBlock] at hng
      omega
  · rw [hng] at hw; cases hw

/-- **C19 (freshness)**, soundness of `provSelector` + `returnsSelector` w.r.t. the execution semantics -/
theorem fresh_returns_sound : FreshReturnsStatement := by
  intro prog hints pol hprov hret fi f hf hfresh heap args s hargs hs fuel s' rets hrun r hr v hv
  have F := facts_of_ok hprov
  obtain ⟨h, hh, _, hinv⟩ := init_inv F hf hargs hs
  obtain ⟨h', hh', hdone⟩ := run_done F fuel s _ hinv s' rets hrun
  obtain rfl : h' = h := Option.some.inj (hh'.symm.trans hh)
  obtain ⟨sL, hsL, hok⟩ := hdone r hr
  -- what `returnsOkSimple` says about `f`
  have hall : h'.returns.all (fun r => Prov.subset r (Prov.fresh ||| Prov.flagsMask)) = true :=
    ite_nil (allClean_at hret hf hh (if_pos hfresh)).1
  have hle : ∀ k, sL.testBit k = true → k = 16 ∨ k = 18 ∨ k = 19 := by
    intro k hk
    rcases hsL with e | e
    · subst e; simp at hk
    · have := List.all_eq_true.1 hall sL e
      have hb := subset_testBit this hk
      simp only [Nat.testBit_or, testBit_fresh, testBit_flagsMask, Bool.or_eq_true, decide_eq_true_eq] at hb
      omega
  have hfresh' : ∀ b, PtrTo v b → heap.blocks.size ≤ b := by
    intro b hb
    rcases hok v hv b hb with ⟨k, _, _, hk, hbit, _⟩ | ⟨_, hmk⟩ | hbit | ⟨g, _, hbit, _⟩
    · have := hle k hbit; omega
    · exact hmk
    · have := hle 17 hbit; omega
    · have := hle (20 + g) hbit; omega
  cases v with
  | ptr b o => exact hfresh' b rfl
  | slice b o l c =>
    simp only [FreshVal]
    by_cases hl : l = 0
    · exact Or.inr hl
    · exact Or.inl (hfresh' b ⟨rfl, fun hc => hl hc.1⟩)
  | _ => trivial

end EdVerif.Ssa
