import EdVerif.Ssa.ProvSpec
/-!
# Bit-set facts about `Prov` labels (via `Nat.testBit`)
-/
namespace EdVerif.Ssa.PS

open EdVerif.Ssa

theorem sub_and_div_mod (a b : Nat) :
    (a - (a &&& b)) / 2 = a / 2 - (a / 2 &&& b / 2) ∧
    ((a - (a &&& b)) % 2 = 1 ↔ (a % 2 = 1 ∧ ¬ b % 2 = 1)) := by
  have h1 : (a &&& b) / 2 = a / 2 &&& b / 2 := Nat.and_div_two
  have h2 : (a &&& b) % 2 = 1 ↔ a % 2 = 1 ∧ b % 2 = 1 := Nat.and_mod_two_eq_one
  have h3 : a &&& b ≤ a := Nat.and_le_left
  rw [← h1]
  generalize a &&& b = s at *
  omega

theorem testBit_sub_and (a b : Nat) : ∀ k, (a - (a &&& b)).testBit k = (a.testBit k && !b.testBit k) := by
  intro k
  induction k generalizing a b with
  | zero =>
    have h := (sub_and_div_mod a b).2
    simp only [Nat.testBit_zero]
    by_cases ha : a % 2 = 1 <;> by_cases hb : b % 2 = 1 <;> simp [ha, hb] <;> omega
  | succ k ih =>
    rw [Nat.testBit_succ, Nat.testBit_succ, Nat.testBit_succ, (sub_and_div_mod a b).1, ih]

theorem testBit_minus (a b k : Nat) : (Prov.minus a b).testBit k = (a.testBit k && !b.testBit k) :=
  testBit_sub_and a b k

theorem subset_testBit {a b : Nat} (h : Prov.subset a b = true) {k : Nat} (hk : a.testBit k = true) :
    b.testBit k = true := by
  have h' : a &&& b = a := by simpa [Prov.subset] using h
  have : (a &&& b).testBit k = true := by rw [h']; exact hk
  simp only [Nat.testBit_and, Bool.and_eq_true] at this
  exact this.2

theorem testBit_one_shl (i k : Nat) : (1 <<< i).testBit k = decide (i = k) := by
  rw [Nat.one_shiftLeft, Nat.testBit_two_pow]

theorem testBit_param (i k : Nat) : (Prov.param i).testBit k = decide (i = k) := testBit_one_shl i k
theorem testBit_fresh (k : Nat) : Prov.fresh.testBit k = decide (16 = k) := testBit_one_shl 16 k
theorem testBit_or_fresh {w k : Nat} (h : (w ||| Prov.fresh).testBit k = true) (hk : k ≠ 16) : w.testBit k = true := by
  simp only [Nat.testBit_or, testBit_fresh, Bool.or_eq_true, decide_eq_true_eq] at h
  rcases h with h | h
  · exact h
  · exact absurd h.symm hk

theorem testBit_loaded (k : Nat) : Prov.loaded.testBit k = decide (17 = k) := testBit_one_shl 17 k
theorem testBit_inexact (k : Nat) : Prov.inexact.testBit k = decide (18 = k) := testBit_one_shl 18 k
theorem testBit_maybeNil (k : Nat) : Prov.maybeNil.testBit k = decide (19 = k) := testBit_one_shl 19 k
theorem testBit_global (g k : Nat) : (Prov.global g).testBit k = decide (20 + g = k) := testBit_one_shl _ k

theorem testBit_flagsMask (k : Nat) : Prov.flagsMask.testBit k = (decide (18 = k) || decide (19 = k)) := by
  simp only [Prov.flagsMask, Nat.testBit_or, testBit_inexact, testBit_maybeNil]

theorem testBit_roots (p k : Nat) :
    (Prov.roots p).testBit k = (p.testBit k && !(decide (18 = k) || decide (19 = k))) := by
  simp only [Prov.roots, testBit_minus, testBit_flagsMask]

theorem globalMask_eq : Prov.globalMask = (2 ^ 44 - 1) <<< 20 := by decide

theorem testBit_globalMask (k : Nat) : Prov.globalMask.testBit k = (decide (20 ≤ k) && decide (k < 64)) := by
  rw [globalMask_eq, Nat.testBit_shiftLeft, Nat.testBit_two_pow_sub_one]
  by_cases h : 20 ≤ k <;> simp [h] <;> omega

theorem testBit_paramMask (k : Nat) : Prov.paramMask.testBit k = decide (k < 16) := by
  have : Prov.paramMask = 2 ^ 16 - 1 := by decide
  rw [this, Nat.testBit_two_pow_sub_one]

theorem has_false_testBit {a i : Nat} (h : Prov.has a (1 <<< i) = false) : a.testBit i = false := by
  have h' : a &&& (1 <<< i) = 0 := by simpa [Prov.has] using h
  have : (a &&& (1 <<< i)).testBit i = false := by rw [h']; simp
  simpa [Nat.testBit_and, testBit_one_shl] using this

theorem eq_zero_testBit {a : Nat} (h : (a == 0) = true) (k : Nat) : a.testBit k = false := by
  have : a = 0 := by simpa using h
  subst this; simp

/-- `L ≤ L'` as far as roots (all bits but the two flags) are concerned -/
def RootsLe (L L' : Prov) : Prop := ∀ k, k ≠ 18 → k ≠ 19 → L.testBit k = true → L'.testBit k = true

theorem RootsLe.refl (L : Prov) : RootsLe L L := fun _ _ _ h => h

theorem RootsLe.trans {a b c : Prov} (h1 : RootsLe a b) (h2 : RootsLe b c) : RootsLe a c :=
  fun k h18 h19 h => h2 k h18 h19 (h1 k h18 h19 h)

theorem RootsLe.of_subset {a b : Prov} (h : Prov.subset a b = true) : RootsLe a b :=
  fun _ _ _ hk => subset_testBit h hk

theorem RootsLe.of_subset_roots {a b : Prov} (h : Prov.subset (Prov.roots a) b = true) : RootsLe a b := by
  intro k h18 h19 hk
  apply subset_testBit h
  rw [testBit_roots, hk]
  have : decide (18 = k) = false := by simp; omega
  have : decide (19 = k) = false := by simp; omega
  simp [*]

theorem RootsLe.or_left (a b : Prov) : RootsLe a (a ||| b) := by
  intro k _ _ h; simp [Nat.testBit_or, h]

theorem RootsLe.or_right (a b : Prov) : RootsLe b (a ||| b) := by
  intro k _ _ h; simp [Nat.testBit_or, h]

theorem RootsLe.or_inexact (a : Prov) : RootsLe (a ||| Prov.inexact) a := by
  intro k h18 _ h
  simp only [Nat.testBit_or, testBit_inexact, Bool.or_eq_true, decide_eq_true_eq] at h
  rcases h with h | h
  · exact h
  · omega

theorem RootsLe.or_le {a b c : Prov} (h1 : RootsLe a c) (h2 : RootsLe b c) : RootsLe (a ||| b) c := by
  intro k h18 h19 h
  simp only [Nat.testBit_or, Bool.or_eq_true] at h
  rcases h with h | h
  · exact h1 k h18 h19 h
  · exact h2 k h18 h19 h

theorem RootsLe.zero (a : Prov) : RootsLe 0 a := by
  intro k _ _ h; simp at h

theorem RootsLe.of_roots_eq_zero {a : Prov} (h : (Prov.roots a == 0) = true) (b : Prov) : RootsLe a b := by
  intro k h18 h19 hk
  have := eq_zero_testBit h k
  rw [testBit_roots, hk] at this
  have : decide (18 = k) = false := by simp; omega
  have : decide (19 = k) = false := by simp; omega
  simp_all

end EdVerif.Ssa.PS
