import EdVerif.Ssa.ProvSound.Local2
/-!
# `Extract`: alignment of the flattened results of a call with the per-result summaries
-/
namespace EdVerif.Ssa.PS

open EdVerif.Ssa

theorem mapM_some_getElem {α β} {f : α → Option β} :
    ∀ (xs : List α) (ys : List β), xs.mapM f = some ys →
      ys.length = xs.length ∧ ∀ (j : Nat) x, xs[j]? = some x → ∃ y, ys[j]? = some y ∧ f x = some y := by
  intro xs
  induction xs with
  | nil => intro ys h; simp at h; subst h; exact ⟨rfl, fun j x hx => by simp at hx⟩
  | cons x xs ih =>
    intro ys h
    rw [List.mapM_cons] at h
    cases hx : f x with
    | none => simp [hx] at h
    | some b =>
      cases hxs : xs.mapM f with
      | none => simp [hx, hxs] at h
      | some bs =>
        simp [hx, hxs] at h
        subst h
        obtain ⟨hl, hj⟩ := ih bs hxs
        refine ⟨by simp [hl], ?_⟩
        intro j x' hx'
        cases j with
        | zero => simp at hx'; subst hx'; exact ⟨b, by simp, hx⟩
        | succ j => simp at hx'; simpa using hj j x' hx'

/-- dropping the first components of a flattened tuple -/
theorem flatten_drop_sum : ∀ (ns : List Nat) (vs : List RVal),
    (∀ (j : Nat) (w : RVal) (n : Nat), vs[j]? = some w → ns[j]? = some n → w.length = n) →
    vs.flatten.drop ns.sum = (vs.drop ns.length).flatten := by
  intro ns
  induction ns with
  | nil => intro vs _; simp
  | cons n ns ih =>
    intro vs h
    cases vs with
    | nil => simp [List.drop_nil]
    | cons w ws =>
      have hw : w.length = n := h 0 w n (by simp) (by simp)
      simp only [List.flatten_cons, List.sum_cons, List.length_cons, List.drop_succ_cons]
      rw [← ih ws (fun j w' n' h1 h2 => h (j + 1) w' n' (by simpa using h1) (by simpa using h2))]
      rw [← hw, List.drop_append]
      simp [List.drop_eq_nil_of_le]

theorem sizesOf_eq_map (P : Program) : ∀ ts, Side.sizesOf P ts = ts.map P.size := by
  intro ts
  induction ts with
  | nil => rfl
  | cons t ts ih => simp [Side.sizesOf, ih]

/-- the scalars `Extract` picks out of a flattened tuple all belong to the selected component -/
theorem extract_aligned {P : Program} {vs : List RVal} {fs : List Nat} {idx off sz : Nat}
    (hsp : P.fieldSpan fs idx = some (off, sz))
    (hsized : ∀ (j : Nat) (w : RVal) (t : Nat), vs[j]? = some w → fs[j]? = some t → Sized P t w) :
    ∀ v ∈ (vs.flatten.drop off).take sz, ∃ w, vs[idx]? = some w ∧ v ∈ w := by
  unfold Program.fieldSpan at hsp
  cases hm : (fs.take idx).mapM P.size with
  | none => simp [hm] at hsp
  | some before =>
    cases ht : fs[idx]? with
    | none => simp [hm, ht] at hsp
    | some t =>
      cases hs : P.size t with
      | none => simp [hm, ht, hs] at hsp
      | some sz' =>
        simp [hm, ht, hs] at hsp
        obtain ⟨hoff, hsz⟩ := hsp
        subst hoff; subst hsz
        obtain ⟨hlen, hget⟩ := mapM_some_getElem _ _ hm
        have hidx : idx < fs.length := lt_length_of_getElem? ht
        have hblen : before.length = idx := by rw [hlen, List.length_take]; omega
        have hcomp : ∀ (j : Nat) (w : RVal) (n : Nat), vs[j]? = some w → before[j]? = some n → w.length = n := by
          intro j w n hw hn
          have hj : j < idx := hblen ▸ lt_length_of_getElem? hn
          have hfj : (fs.take idx)[j]? = fs[j]? := by rw [List.getElem?_take]; simp [hj]
          cases hft : fs[j]? with
          | none =>
            have : j < fs.length := by omega
            rw [List.getElem?_eq_none_iff] at hft; omega
          | some tj =>
            obtain ⟨y, hy1, hy2⟩ := hget j tj (by rw [hfj]; exact hft)
            rw [hn] at hy1; cases hy1
            exact hsized j w tj hw hft n hy2
        rw [flatten_drop_sum before vs hcomp, hblen]
        intro v hv
        cases hd : vs.drop idx with
        | nil => simp [hd] at hv
        | cons w ws =>
          have hw : vs[idx]? = some w := by
            have := List.getElem?_drop (xs := vs) (i := idx) (j := 0)
            rw [hd] at this; simpa using this.symm
          refine ⟨w, hw, ?_⟩
          have hwl : w.length = sz' := hsized idx w t hw ht sz' hs
          rw [hd, List.flatten_cons, ← hwl, List.take_left'] at hv
          · exact hv
          · rfl

section ops
variable {P : Program} {H : List FuncHints} {h : FuncHints} {fr : Frame} {frs : List Frame} {mark dm : Nat} {i : Instr} {hp : Heap}

theorem pExtract_cases (c : PCtx) (x : Opnd) (idx : Nat) :
    pExtract c x idx = c.lab x ∨
    ∃ r ic g cargs gh s, x = .reg r ∧ c.f.instrs[r]? = some ic ∧ ic.op = .call (.fn g) cargs ∧ c.hints[g]? = some gh ∧
      gh.returns[idx]? = some s ∧ pExtract c x idx = substArgs c s cargs 0 (Prov.minus s Prov.paramMask) := by
  unfold pExtract
  split
  · rename_i r
    split
    · rename_i ic hic
      split
      · rename_i g cargs hop
        split
        · rename_i gh hgh
          split
          · rename_i s hs
            exact Or.inr ⟨r, ic, g, cargs, gh, s, rfl, hic, hop, hgh, hs, rfl⟩
          · exact Or.inl rfl
        · exact Or.inl rfl
      · exact Or.inl rfl
    · exact Or.inl rfl
  · exact Or.inl rfl

theorem stepExtract_local (ic : IC P H h fr mark dm i) {x : Opnd} {idx : Nat} (hop : i.op = .extract x idx) :
    LocalI P h hp fr frs mark i (stepExtract P hp fr frs i x idx) := by
  have hsz := ic.size
  simp only [Side.resSizeOk, hop] at hsz
  have hl : RootsLe (pExtract (pc P H fr.f h) x idx) (provOf h.provRegs i.id) := ic.labOf (by simp [Side.reqU, hop])
  have hxm : x ∈ i.op.operands := by simp [hop, Op.operands]
  unfold stepExtract
  rcases pExtract_cases (pc P H fr.f h) x idx with hc | ⟨r, icl, g, cargs, gh, s, hx, hicl, hcop, hgh, hs, hc⟩
  · -- the label of the whole tuple
    apply stepField_local ic hxm (hc ▸ hl)
    split
    · rename_i fs hty
      simp only [hty, Bool.and_eq_true] at hsz
      exact hsz.1
    · rfl
  · -- a result of a call of a program function
    subst hx
    unfold stepField
    split
    · rename_i vs fs hv hty
      simp only [hty, Bool.and_eq_true] at hsz
      split
      · rename_i off sz hfs
        simp only [hfs] at hsz
        split
        · rename_i hle
          refine .reg _ _ _ ⟨?_, Sized.of_sizeIs hsz.1 (length_drop_take vs off sz hle)⟩ (HeapStep.refl _ _)
          have hsz2 := hsz.2
          simp only [hicl, hcop] at hsz2
          cases hgf : P.funcs[g]? with
          | none => simp [hgf] at hsz2
          | some gf =>
            simp only [hgf, beq_iff_eq] at hsz2
            rw [sizesOf_eq_map, sizesOf_eq_map] at hsz2
            obtain ⟨ws, hflat, hcomp⟩ := ic.tupOk r vs hv icl g cargs gh hicl hcop hgh
            subst hflat
            have hsized : ∀ (j : Nat) (w : RVal) (t : Nat), ws[j]? = some w → fs[j]? = some t → Sized P t w := by
              intro j w t hw ht n hn
              have h1 : (fs.map P.size)[j]? = some (some n) := by simp [ht, hn]
              rw [hsz2] at h1
              simp only [List.getElem?_map, Option.map_eq_some_iff] at h1
              obtain ⟨t', ht', hn'⟩ := h1
              exact (hcomp j w hw).2 gf t' hgf ht' n hn'
            intro v hv'
            obtain ⟨w, hw, hvw⟩ := extract_aligned hfs hsized v hv'
            have := (hcomp idx w hw).1
            simp only [compLab, List.getD_eq_getElem?_getD, hs, Option.getD_some] at this
            exact ((this.mono (hc ▸ hl)) v hvw)
        · exact .fault _
      · exact .fault _
    · exact .fault _

end ops

end EdVerif.Ssa.PS
