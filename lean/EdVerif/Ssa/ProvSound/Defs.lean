import EdVerif.Ssa.ProvSound.Clean
/-!
# Meaning of labels; the frame invariant
-/
namespace EdVerif.Ssa.PS

open EdVerif.Ssa

/-- scalar `v` is a pointer into / a non-nil slice of block `b` -/
def PtrTo : Val → Nat → Prop
  | .ptr b' _, b => b' = b
  | .slice b' _ l c, b => b' = b ∧ ¬ (l = 0 ∧ c = 0)
  | _, _ => False

/-- what a frame's labels refer to -/
structure RCtx where
  /-- number of package-level variables -/
  ng : Nat
  /-- the arguments the frame was entered with -/
  args : Array RVal
  /-- number of heap blocks when the frame was entered -/
  mark : Nat

/-- block `b` is among the roots of label `L` -/
def InRoots (x : RCtx) (L : Prov) (b : Nat) : Prop :=
  (∃ i a v, i < 16 ∧ L.testBit i = true ∧ x.args[i]? = some a ∧ v ∈ a ∧ PtrTo v b) ∨
  (L.testBit 16 = true ∧ x.mark ≤ b) ∨
  L.testBit 17 = true ∨
  (∃ g, g < x.ng ∧ L.testBit (20 + g) = true ∧ b = g + 1)

def VOk (x : RCtx) (L : Prov) (v : Val) : Prop := ∀ b, PtrTo v b → InRoots x L b

def RVOk (x : RCtx) (L : Prov) (vs : RVal) : Prop := ∀ v ∈ vs, VOk x L v

theorem InRoots.mono {x : RCtx} {L L' : Prov} (h : RootsLe L L') {b : Nat} (hb : InRoots x L b) : InRoots x L' b := by
  rcases hb with ⟨i, a, v, hi, hbit, ha, hv, hp⟩ | ⟨hbit, hm⟩ | hbit | ⟨g, hg, hbit, hb⟩
  · exact Or.inl ⟨i, a, v, hi, h i (by omega) (by omega) hbit, ha, hv, hp⟩
  · exact Or.inr (Or.inl ⟨h 16 (by omega) (by omega) hbit, hm⟩)
  · exact Or.inr (Or.inr (Or.inl (h 17 (by omega) (by omega) hbit)))
  · exact Or.inr (Or.inr (Or.inr ⟨g, hg, h (20 + g) (by omega) (by omega) hbit, hb⟩))

theorem VOk.mono {x : RCtx} {L L' : Prov} (h : RootsLe L L') {v : Val} (hv : VOk x L v) : VOk x L' v :=
  fun b hb => (hv b hb).mono h

theorem RVOk.mono {x : RCtx} {L L' : Prov} (h : RootsLe L L') {vs : RVal} (hv : RVOk x L vs) : RVOk x L' vs :=
  fun v hm => (hv v hm).mono h

theorem RVOk.nil (x : RCtx) (L : Prov) : RVOk x L [] := by intro v h; cases h

theorem RVOk.loaded (x : RCtx) {L : Prov} (h : L.testBit 17 = true) (vs : RVal) : RVOk x L vs :=
  fun _ _ _ _ => Or.inr (Or.inr (Or.inl h))

/-- no pointer at all -/
def NoPtr (vs : RVal) : Prop := ∀ v ∈ vs, ∀ b, ¬ PtrTo v b

theorem NoPtr.rvok {vs : RVal} (h : NoPtr vs) (x : RCtx) (L : Prov) : RVOk x L vs :=
  fun v hv b hb => absurd hb (h v hv b)

theorem noPtr_of_isAddr {vs : RVal} (h : ∀ v ∈ vs, Val.isAddr v = false) : NoPtr vs := by
  intro v hv b hp
  have := h v hv
  cases v <;> simp [Val.isAddr, PtrTo] at this hp

theorem noPtr_of_data {vs : RVal} (h : ∀ v ∈ vs, v.cls = .data) : NoPtr vs := by
  intro v hv b hp
  have := h v hv
  cases v <;> simp [Val.cls, PtrTo] at this hp

theorem RVOk.of_roots_zero {x : RCtx} {L : Prov} {vs : RVal} (h : RVOk x L vs) (hz : (Prov.roots L == 0) = true) : NoPtr vs := by
  intro v hv b hp
  have hr := (h v hv b hp).mono (RootsLe.of_roots_eq_zero hz 0)
  rcases hr with ⟨i, a, v, hi, hbit, _⟩ | ⟨hbit, _⟩ | hbit | ⟨g, hg, hbit, _⟩ <;> simp at hbit

theorem RVOk.append {x : RCtx} {L : Prov} {a b : RVal} (ha : RVOk x L a) (hb : RVOk x L b) : RVOk x L (a ++ b) := by
  intro v hv
  rcases List.mem_append.1 hv with h | h
  · exact ha v h
  · exact hb v h

theorem RVOk.sub {x : RCtx} {L : Prov} {a b : RVal} (ha : RVOk x L a) (hs : ∀ v ∈ b, v ∈ a) : RVOk x L b :=
  fun v hv => ha v (hs v hv)

theorem RVOk.take_drop {x : RCtx} {L : Prov} {a : RVal} (ha : RVOk x L a) (off sz : Nat) :
    RVOk x L ((a.drop off).take sz) :=
  ha.sub fun _ hv => List.mem_of_mem_drop (List.mem_of_mem_take hv)

theorem RVOk.flatten {x : RCtx} {L : Prov} {vs : List RVal} (h : ∀ w ∈ vs, RVOk x L w) : RVOk x L vs.flatten := by
  intro v hv
  obtain ⟨w, hw, hvw⟩ := List.mem_flatten.1 hv
  exact h w hw v hvw

/-- a value has the number of scalars of type `t` (if the type has a size) -/
def Sized (P : Program) (t : Nat) (v : RVal) : Prop := ∀ n, P.size t = some n → v.length = n

theorem Sized.of_sizeIs {P : Program} {t k : Nat} (h : Side.sizeIs P t k = true) {v : RVal} (hv : v.length = k) : Sized P t v := by
  intro n hn
  simp only [Side.sizeIs, hn, beq_iff_eq] at h
  omega

theorem Sized.of_sizeEq {P : Program} {t t' : Nat} (h : Side.sizeEq P t t' = true) {v : RVal} (hv : Sized P t v) : Sized P t' v := by
  intro n hn
  simp only [Side.sizeEq, hn, beq_iff_eq] at h
  exact hv n h

/-- the label context of a function -/
abbrev pc (P : Program) (H : List FuncHints) (f : Func) (h : FuncHints) : PCtx :=
  { prog := P, hints := H, f := f, h := h }

/-- the label of component `j` of the result of a call of a function with return summaries `rs` -/
def compLab (c : PCtx) (rs : List Prov) (cargs : List Opnd) (j : Nat) : Prov :=
  substArgs c (rs.getD j 0) cargs 0 (Prov.minus (rs.getD j 0) Prov.paramMask)

/-- a register defined by a call of a program function holds the concatenation of the callee's
    results, each covered by its summary and of the size of its type -/
def TupOk (P : Program) (H : List FuncHints) (f : Func) (h : FuncHints) (x : RCtx) (id : Nat) (v : RVal) : Prop :=
  ∀ ic g cargs gh, f.instrs[id]? = some ic → ic.op = .call (.fn g) cargs → H[g]? = some gh →
    ∃ vs : List RVal, v = vs.flatten ∧
      ∀ j w, vs[j]? = some w → RVOk x (compLab (pc P H f h) gh.returns cargs j) w ∧
        ∀ gf t, P.funcs[g]? = some gf → gf.resultTys[j]? = some t → Sized P t w

theorem TupOk.nil (P : Program) (H : List FuncHints) (f : Func) (h : FuncHints) (x : RCtx) (id : Nat) : TupOk P H f h x id [] := by
  intro ic g cargs gh _ _ _
  exact ⟨[], rfl, fun j w hw => by simp at hw⟩

/-- registers certainly defined: by the data-flow certificate on entry to the block, or by the
    instructions of the block executed so far -/
def DefSet (f : Func) (blk : Nat) (pre : List Instr) (id : Nat) : Prop :=
  ((Side.defSets f).getD blk 0).testBit id = true ∨ ∃ j ∈ pre, j.id = id

structure FrameInv (P : Program) (H : List FuncHints) (h : FuncHints) (fr : Frame) (mark : Nat) (pend : Option Nat) : Prop where
  hf : P.funcs[fr.fi]? = some fr.f
  hh : H[fr.fi]? = some h
  pos : ∃ bl pre, fr.f.blocks[fr.blk]? = some bl ∧ bl.instrs = pre ++ fr.rest ∧
    ∀ id, DefSet fr.f fr.blk pre id → some id ≠ pend → ∀ i, fr.f.instrs[id]? = some i → Side.definesValue i.op = true →
      ∃ v, fr.regs[id]? = some v ∧ Sized P i.ty v
  regs : ∀ (id : Nat) (v : RVal), fr.regs[id]? = some v →
    RVOk ⟨P.globals.length, fr.params, mark⟩ (provOf h.provRegs id) v ∧
    TupOk P H fr.f h ⟨P.globals.length, fr.params, mark⟩ id v
  params : ∀ (i : Nat) (p : Param) (a : RVal), fr.f.params[i]? = some p → fr.params[i]? = some a →
    Sized P p.tyId a ∧ (p.k.pointerish = false → NoPtr a)

/-- the label context of a frame -/
abbrev fx (P : Program) (fr : Frame) (mark : Nat) : RCtx := ⟨P.globals.length, fr.params, mark⟩

/-- blocks a frame may store into: roots of its `writes` summary, memory allocated since it was
    entered, package-level variables -/
def Writable (P : Program) (h : FuncHints) (fr : Frame) (mark : Nat) (b : Nat) : Prop :=
  InRoots (fx P fr mark) (h.writes ||| Prov.fresh) b ∨ isGlobalBlock P b = true

/-- heap `hp'` differs from `hp` only in blocks satisfying `W` and in new blocks -/
def HeapStep (W : Nat → Prop) (hp hp' : Heap) : Prop :=
  hp.blocks.size ≤ hp'.blocks.size ∧ ∀ b, b < hp.blocks.size → ¬ W b → hp'.blocks[b]? = hp.blocks[b]?

theorem HeapStep.refl (W : Nat → Prop) (hp : Heap) : HeapStep W hp hp := ⟨Nat.le_refl _, fun _ _ _ => rfl⟩

theorem HeapStep.trans {W : Nat → Prop} {a b c : Heap} (h1 : HeapStep W a b) (h2 : HeapStep W b c) : HeapStep W a c :=
  ⟨Nat.le_trans h1.1 h2.1, fun x hx hn => (h2.2 x (Nat.lt_of_lt_of_le hx h1.1) hn).trans (h1.2 x hx hn)⟩

theorem HeapStep.mono {W W' : Nat → Prop} (hw : ∀ b, W b → W' b) {hp hp' : Heap} (h : HeapStep W hp hp') : HeapStep W' hp hp' :=
  ⟨h.1, fun b hb hn => h.2 b hb (fun hwb => hn (hw b hwb))⟩

theorem HeapStep.alloc (W : Nat → Prop) (hp : Heap) (vs : List Val) : HeapStep W hp (hp.alloc vs).1 := by
  have := Heap.alloc_spec hp vs
  exact ⟨by omega, fun b hb _ => this.2.2 b hb⟩

theorem HeapStep.write {W : Nat → Prop} {hp hp' : Heap} {blk off : Nat} {vs : List Val}
    (hw : hp.write blk off vs = some hp') (hW : W blk) : HeapStep W hp hp' := by
  have := Heap.write_spec hw
  refine ⟨by omega, fun b _ hnW => this.2.2 b ?_⟩
  intro e; subst e; exact hnW hW

theorem HeapStep.write_nil {W : Nat → Prop} {hp hp' : Heap} {blk off : Nat}
    (hw : hp.write blk off [] = some hp') : HeapStep W hp hp' := by
  have := Heap.write_spec hw
  exact ⟨by omega, fun b _ _ => Heap.write_nil hw b⟩

end EdVerif.Ssa.PS
