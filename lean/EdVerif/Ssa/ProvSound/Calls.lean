import EdVerif.Ssa.ProvSound.Extract
/-!
# Calls of modelled externals and builtins
-/
namespace EdVerif.Ssa.PS

open EdVerif.Ssa

section ops
variable {P : Program} {H : List FuncHints} {h : FuncHints} {fr : Frame} {frs : List Frame} {mark dm : Nat} {i : Instr} {hp : Heap}

/-- labels of the evaluated arguments of a call -/
theorem IC.args (ic : IC P H h fr mark dm i) {os : List Opnd} {tys : List Nat} {vs : List RVal}
    (hsub : ∀ o ∈ os, o ∈ i.op.operands) (he : evalOpnds P fr os tys = some vs) :
    vs.length = os.length ∧
    ∀ (j : Nat) (o : Opnd) (v : RVal), os[j]? = some o → vs[j]? = some v → RVOk (fx P fr mark) ((pc P H fr.f h).lab o) v := by
  obtain ⟨hl, hj⟩ := evalOpnds_spec P fr os tys vs he
  refine ⟨hl, ?_⟩
  intro j o v ho hv
  obtain ⟨v', hv', he'⟩ := hj j o ho
  rw [hv] at hv'; cases hv'
  exact ic.opnd (hsub o (List.mem_of_getElem? ho)) he'

theorem goodV_noPtr {v : RVal} {k : Nat} (hs : Side.sizeIs P i.ty k = true) (hl : v.length = k) (hn : NoPtr v) :
    GoodV P h fr mark i v :=
  ⟨hn.rvok _ _, Sized.of_sizeIs hs hl⟩

theorem noPtr_pair {a b : Val} (ha : ∀ x, ¬ PtrTo a x) (hb : ∀ x, ¬ PtrTo b x) : NoPtr [a, b] := by
  intro v hv; simp at hv; rcases hv with e | e <;> subst e <;> assumption

theorem stepBuiltin_local (ic : IC P H h fr mark dm i) {name : Nm} {args : List Opnd} {vs : List RVal}
    (hop : i.op = .call (.builtin name) args) (he : evalOpnds P fr args i.opTys = some vs) :
    LocalI P h hp fr frs mark i (stepBuiltin hp fr frs i name vs) := by
  have hs : Side.sizeIs P i.ty 1 = true := by have := ic.size; simpa [Side.resSizeOk, hop] using this
  obtain ⟨hlen, hargs⟩ := ic.args (by intro o ho; simpa [hop, Op.operands] using ho) he
  unfold stepBuiltin
  split
  · split
    · exact .reg _ _ _ (goodV_scalar hs (noPtr_int _)) (HeapStep.refl _ _)
    · exact .fault _
  · split
    · split
      · exact .reg _ _ _ (goodV_scalar hs (noPtr_int _)) (HeapStep.refl _ _)
      · exact .fault _
    · split
      · rename_i hn1 hn2 hn3
        split
        · rename_i b1 o1 l1 c1 b2 o2 l2 c2
          simp only
          split
          · rename_i ws hr
            split
            · split
              · rename_i hp' hw
                refine .reg _ _ _ (goodV_scalar hs (noPtr_int _)) ?_
                by_cases hz : ws = []
                · subst hz; exact HeapStep.write_nil hw
                · apply HeapStep.write hw
                  have hwl := Heap.read_length hr
                  have hpos : 0 < min l1 l2 := by
                    cases ws with
                    | nil => exact absurd rfl hz
                    | cons _ _ => simp at hwl; omega
                  -- the destination is the first argument
                  have hw : RootsLe ((pc P H fr.f h).lab (args.getD 0 .cother)) (h.writes ||| Prov.fresh) := by
                    have := ic.weff
                    simp only [pRule, hop, pCall, pCallBuiltin] at this
                    have e1 : (name == Ext.len) = false := by simpa using hn1
                    have e2 : (name == Ext.cap) = false := by simpa using hn2
                    simpa [e1, e2, hn3] using this
                  have hl0 : 0 < args.length := by rw [← hlen]; simp
                  have ho : args[0]? = some (args.getD 0 .cother) := by
                    rw [List.getD_eq_getElem?_getD, List.getElem?_eq_getElem hl0]; rfl
                  have := (hargs 0 _ [Val.slice b1 o1 l1 c1] ho (by simp)).mono hw
                  exact Or.inl (rvok_single_slice this (by omega))
              · exact .fault _
            · exact .fault _
          · exact .fault _
        · exact .fault _
      · exact .fault _

/-- first `Do` of a `sync.Once`: the flag cell is set and the closure is entered -/
def OnceStart (P : Program) (h : FuncHints) (hp : Heap) (fr : Frame) (frs : List Frame) (mark : Nat) (i : Instr) (r : Step) : Prop :=
  ∃ b o g gf nf hp' evs, Writable P h fr mark b ∧ hp.write b o [.opaque 1] = some hp' ∧ P.funcs[g]? = some gf ∧
    mkFrame g gf [] none = some nf ∧ GoodV P h fr mark i [] ∧
    r = .cont { heap := hp', stack := nf :: { fr with regs := regSet fr.regs i.id [] } :: frs } evs

theorem once_cell_writable {x : RCtx} {L W : Prov} {b : Nat} {P : Program} (hng : x.ng = P.globals.length)
    (hs : Prov.subset (Prov.minus (Prov.roots L) Prov.fresh) Prov.globalMask = true) (hb : InRoots x L b) :
    InRoots x (W ||| Prov.fresh) b ∨ isGlobalBlock P b = true := by
  have key : ∀ k, k ≠ 16 → k ≠ 18 → k ≠ 19 → L.testBit k = true → 20 ≤ k := by
    intro k h16 h18 h19 hk
    have : Prov.globalMask.testBit k = true := by
      apply subset_testBit hs
      rw [testBit_minus, testBit_roots, hk, testBit_fresh]
      have : decide (18 = k) = false := by simp; omega
      have : decide (19 = k) = false := by simp; omega
      have : decide (16 = k) = false := by simp; omega
      simp [*]
    rw [testBit_globalMask] at this
    simp at this; omega
  rcases hb with ⟨j, a, v, hj, hbit, _⟩ | ⟨hbit, hm⟩ | hbit | ⟨g, hg, hbit, hb⟩
  · have := key j (by omega) (by omega) (by omega) hbit; omega
  · exact Or.inl (Or.inr (Or.inl ⟨by simp [Nat.testBit_or, testBit_fresh], hm⟩))
  · have := key 17 (by omega) (by omega) (by omega) hbit; omega
  · right
    subst hb
    simp [isGlobalBlock]; omega

def LocalOrOnce (P : Program) (h : FuncHints) (hp : Heap) (fr : Frame) (frs : List Frame) (mark : Nat) (i : Instr) (r : Step) : Prop :=
  LocalI P h hp fr frs mark i r ∨ OnceStart P h hp fr frs mark i r

theorem stepExtern_local (ic : IC P H h fr mark dm i) {name : Nm} {args : List Opnd} {vs : List RVal}
    (hop : i.op = .call (.extern name) args) (he : evalOpnds P fr args i.opTys = some vs) :
    LocalOrOnce P h hp fr frs mark i (stepExtern P hp fr frs i name vs) := by
  have hsz := ic.size
  unfold Side.resSizeOk at hsz
  rw [hop] at hsz
  dsimp only at hsz
  obtain ⟨hlen, hargs⟩ := ic.args (by intro o ho; simpa [hop, Op.operands] using ho) he
  unfold stepExtern
  by_cases h1 : (name == Ext.mul64) = true
  · -- Mul64
    rw [if_pos h1]
    refine Or.inl ?_
    simp only [h1, Bool.true_or, if_true] at hsz
    split
    · exact .reg _ _ _ (goodV_noPtr hsz rfl (noPtr_pair (noPtr_int _) (noPtr_int _))) (HeapStep.refl _ _)
    · exact .fault _
  · rw [if_neg h1]
    have e1 : (name == Ext.mul64) = false := by simpa using h1
    by_cases h2 : (name == Ext.add64) = true
    · -- Add64
      rw [if_pos h2]
      refine Or.inl ?_
      simp only [h2, Bool.true_or, Bool.or_true, if_true] at hsz
      split
      · exact .reg _ _ _ (goodV_noPtr hsz rfl (noPtr_pair (noPtr_int _) (noPtr_int _))) (HeapStep.refl _ _)
      · exact .fault _
    · rw [if_neg h2]
      have e2 : (name == Ext.add64) = false := by simpa using h2
      by_cases h3 : (name == Ext.sub64) = true
      · -- Sub64
        rw [if_pos h3]
        refine Or.inl ?_
        simp only [h3, Bool.or_true, if_true] at hsz
        split
        · exact .reg _ _ _ (goodV_noPtr hsz rfl (noPtr_pair (noPtr_int _) (noPtr_int _))) (HeapStep.refl _ _)
        · exact .fault _
      · rw [if_neg h3]
        have e3 : (name == Ext.sub64) = false := by simpa using h3
        simp only [e1, e2, e3, Bool.or_self, Bool.false_eq_true, if_false] at hsz
        by_cases h4 : (name == Ext.ctByteEq) = true
        · -- ConstantTimeByteEq
          rw [if_pos h4]
          refine Or.inl ?_
          simp only [h4, Bool.true_or, if_true] at hsz
          split
          · exact .reg _ _ _ (goodV_scalar hsz (noPtr_int _)) (HeapStep.refl _ _)
          · exact .fault _
        · rw [if_neg h4]
          have e4 : (name == Ext.ctByteEq) = false := by simpa using h4
          by_cases h5 : (name == Ext.ctCompare) = true
          · -- ConstantTimeCompare
            rw [if_pos h5]
            refine Or.inl ?_
            simp only [h5, Bool.true_or, Bool.or_true, if_true] at hsz
            split
            · split
              · exact .reg _ _ _ (goodV_scalar hsz (noPtr_int _)) (HeapStep.refl _ _)
              · split
                · split
                  · exact .reg _ _ _ (goodV_scalar hsz (noPtr_int _)) (HeapStep.refl _ _)
                  · exact .fault _
                · exact .fault _
            · exact .fault _
          · rw [if_neg h5]
            have e5 : (name == Ext.ctCompare) = false := by simpa using h5
            by_cases h6 : (name == Ext.leUint64) = true
            · -- Uint64
              rw [if_pos h6]
              refine Or.inl ?_
              simp only [h6, Bool.true_or, Bool.or_true, if_true] at hsz
              split
              · split
                · exact .panic _ _
                · split
                  · exact .reg _ _ _ (goodV_scalar hsz (noPtr_int _)) (HeapStep.refl _ _)
                  · exact .fault _
              · exact .fault _
            · rw [if_neg h6]
              have e6 : (name == Ext.leUint64) = false := by simpa using h6
              by_cases h7 : (name == Ext.lePutUint64) = true
              · -- PutUint64
                rw [if_pos h7]
                refine Or.inl ?_
                have hn : name = Ext.lePutUint64 := by simpa using h7
                have e8 : (name == Ext.errorsNew) = false := by rw [hn]; decide
                have e9 : (name == Ext.onceDo) = false := by rw [hn]; decide
                simp only [e4, e5, e6, e8, e9, Bool.or_self, Bool.false_eq_true, if_false] at hsz
                split
                · rename_i a0 b o l c v
                  split
                  · exact .panic _ _
                  · rename_i hl8
                    split
                    · rename_i hp' hw
                      refine .reg _ _ _ (goodV_noPtr hsz rfl noPtr_nil) (HeapStep.write hw ?_)
                      have hw' : RootsLe ((pc P H fr.f h).lab (args.getD 1 .cother)) (h.writes ||| Prov.fresh) := by
                        have := ic.weff
                        simp only [pRule, hop, pCall, pCallExtern] at this
                        have e10 : Nm.isSuffix (nm! ".init") name = false := by rw [hn]; decide
                        simpa [e8, e10, h7] using this
                      have hl1 : 1 < args.length := by rw [← hlen]; simp
                      have ho : args[1]? = some (args.getD 1 .cother) := by
                        rw [List.getD_eq_getElem?_getD, List.getElem?_eq_getElem hl1]; rfl
                      have := (hargs 1 _ [Val.slice b o l c] ho (by simp)).mono hw'
                      exact Or.inl (rvok_single_slice this (by omega))
                    · exact .fault _
                · exact .fault _
              · rw [if_neg h7]
                by_cases h8 : (name == Ext.errorsNew) = true
                · -- errors.New
                  rw [if_pos h8]
                  refine Or.inl ?_
                  simp only [e4, e5, e6, h8, Bool.or_true, if_true] at hsz
                  split
                  · exact .reg _ _ _ (goodV_scalar hsz (noPtr_opaque _)) (HeapStep.refl _ _)
                  · exact .fault _
                · rw [if_neg h8]
                  have e8 : (name == Ext.errorsNew) = false := by simpa using h8
                  simp only [e4, e5, e6, e8, Bool.or_self, Bool.false_eq_true, if_false] at hsz
                  by_cases h9 : (name == Ext.onceDo) = true
                  · -- Once.Do
                    rw [if_pos h9]
                    simp only [h9, if_true, Bool.and_eq_true] at hsz
                    split
                    · rename_i b o g
                      split
                      · split
                        · rename_i hp' gf hw hgf
                          split
                          · rename_i nf hnf
                            refine Or.inr ?_
                            refine ⟨b, o, g, gf, nf, hp', _, ?_, hw, hgf, hnf, goodV_noPtr hsz.1 rfl noPtr_nil, rfl⟩
                            have hl0 : 0 < args.length := by rw [← hlen]; simp
                            have ho : args[0]? = some (args.getD 0 .cother) := by
                              rw [List.getD_eq_getElem?_getD, List.getElem?_eq_getElem hl0]; rfl
                            have := hargs 0 _ [Val.ptr b o] ho (by simp)
                            exact once_cell_writable rfl hsz.2 (rvok_single_ptr this)
                          · refine Or.inl ?_; exact .fault _
                        · refine Or.inl ?_; exact .fault _
                      · refine Or.inl ?_; exact .reg _ _ _ (goodV_noPtr hsz.1 rfl noPtr_nil) (HeapStep.refl _ _)
                      · refine Or.inl ?_; exact .fault _
                    · refine Or.inl ?_; exact .fault _
                  · rw [if_neg h9]
                    have e9 : (name == Ext.onceDo) = false := by simpa using h9
                    simp only [e9, Bool.false_eq_true, if_false] at hsz
                    refine Or.inl ?_
                    split
                    · exact .reg _ _ _ (goodV_noPtr hsz rfl noPtr_nil) (HeapStep.refl _ _)
                    · exact .fault _

end ops

end EdVerif.Ssa.PS
