import EdVerif.Ssa.ProvSound.Frame
/-!
# Transfer of control: phis
-/
namespace EdVerif.Ssa.PS

open EdVerif.Ssa

variable {P : Program} {H : List FuncHints} {h : FuncHints}

theorem pPhi_le (c : PCtx) : ∀ (es : List (Nat × Opnd)) (acc : Prov),
    RootsLe acc (pPhi c es acc) ∧ ∀ e ∈ es, RootsLe (c.lab e.2) (pPhi c es acc) := by
  intro es
  induction es with
  | nil => intro acc; exact ⟨RootsLe.refl _, fun e he => by cases he⟩
  | cons e es ih =>
    intro acc
    simp only [pPhi]
    obtain ⟨h1, h2⟩ := ih (acc ||| c.lab e.2)
    refine ⟨(RootsLe.or_left _ _).trans h1, ?_⟩
    intro e' he'
    rcases List.mem_cons.1 he' with e1 | e1
    · subst e1; exact (RootsLe.or_right _ _).trans h1
    · exact h2 e' e1

theorem phiEdge_mem {pred : Nat} : ∀ {es : List (Nat × Opnd)} {o : Opnd}, phiEdge pred es = some o → ∃ e ∈ es, e.2 = o := by
  intro es
  induction es with
  | nil => intro o h; simp [phiEdge] at h
  | cons e es ih =>
    intro o h
    simp only [phiEdge] at h
    split at h
    · cases h; exact ⟨e, by simp, rfl⟩
    · obtain ⟨e', he', ho⟩ := ih h
      exact ⟨e', by simp [he'], ho⟩

theorem evalPhis_spec (fr : Frame) (pred : Nat) : ∀ (phis : List Instr) (vals : List (Nat × RVal)),
    evalPhis P fr pred phis = some vals →
    (∀ j ∈ phis, ∃ e ∈ vals, e.1 = j.id) ∧
    ∀ e ∈ vals, ∃ j ∈ phis, ∃ es o, j.id = e.1 ∧ j.op = .phi es ∧ phiEdge pred es = some o ∧ evalOpnd P fr j.ty o = some e.2 := by
  intro phis
  induction phis with
  | nil => intro vals h; simp [evalPhis] at h; subst h; simp
  | cons i is ih =>
    intro vals h
    unfold evalPhis at h
    split at h
    · rename_i es hop
      cases ho : phiEdge pred es with
      | none => simp [ho] at h
      | some o =>
        cases hv : evalOpnd P fr i.ty o with
        | none => simp [ho, hv] at h
        | some v =>
          cases hr : evalPhis P fr pred is with
          | none => simp [ho, hr] at h
          | some r =>
            simp [ho, hv, hr] at h; subst h
            obtain ⟨h1, h2⟩ := ih r hr
            constructor
            · intro j hj
              rcases List.mem_cons.1 hj with e | e
              · subst e; exact ⟨(j.id, v), by simp, rfl⟩
              · obtain ⟨e', he', hid⟩ := h1 j e
                exact ⟨e', by simp [he'], hid⟩
            · intro e he
              rcases List.mem_cons.1 he with e1 | e1
              · subst e1; exact ⟨i, by simp, es, o, rfl, hop, ho, hv⟩
              · obtain ⟨j, hj, rest⟩ := h2 e e1
                exact ⟨j, by simp [hj], rest⟩
    · cases h

theorem phisSized_mem {f : Func} {dm pred : Nat} : ∀ {phis : List Instr}, Side.phisSized P f dm pred phis = true →
    ∀ j ∈ phis, ∀ es o, j.op = .phi es → phiEdge pred es = some o → Side.opndSized P f dm j.ty j.ty o = true := by
  intro phis
  induction phis with
  | nil => intro _ j hj; cases hj
  | cons i is ih =>
    intro hs j hj es o hop ho
    simp only [Side.phisSized, Bool.and_eq_true] at hs
    rcases List.mem_cons.1 hj with e | e
    · subst e
      have := hs.1
      simp only [hop, ho] at this
      exact this
    · exact ih hs.2 j e es o hop ho

/-- `jumpTo` from the terminator `i` of the top frame preserves the frame invariant -/
theorem jumpTo_inv (F : Facts P H) {fr0 : Frame} {mark : Nat} {i : Instr} {rest : List Instr} {bl : Block} {pre : List Instr}
    (inv : FrameInv P H h fr0 mark none) (ex : Exec P H h fr0 mark i rest bl pre) (hr : fr0.rest = i :: rest)
    (hnv : Side.definesValue i.op = false)
    {t : Nat} (hj : Side.jumpOk P fr0.f (Side.defSets fr0.f) (blockOffsets fr0.f.blocks 0) fr0.blk pre.length t = true)
    {fr' : Frame} (hjt : jumpTo P (popI fr0 rest) t = some fr') :
    FrameInv P H h fr' mark none ∧ fr'.fi = fr0.fi ∧ fr'.f = fr0.f ∧ fr'.params = fr0.params ∧ fr'.dest = fr0.dest := by
  obtain ⟨tb, vals, hb, hv, rfl⟩ := jumpTo_eq_some hjt
  refine ⟨?_, rfl, rfl, rfl, rfl⟩
  have hb' : fr0.f.blocks[t]? = some tb := hb
  obtain ⟨hsplit, hphi⟩ := splitPhis_spec tb.instrs
  obtain ⟨hcover, hvals⟩ := evalPhis_spec (P := P) _ _ _ _ hv
  simp only [Side.jumpOk, hb', Bool.and_eq_true, beq_iff_eq] at hj
  obtain ⟨hsub, hps⟩ := hj
  -- registers defined at the jump (the terminator itself counts: it defines no value)
  have hdm : DefdRegs P (popI fr0 rest) (Side.defMask (Side.defSets fr0.f) (blockOffsets fr0.f.blocks 0) fr0.blk (pre.length + 1)) := by
    intro id hbit j hjj hdv
    have hi' : bl.instrs = (pre ++ [i]) ++ rest := by rw [ex.hi]; simp
    have := (testBit_defMask (pre := pre ++ [i]) (ids_of_block F inv.hf inv.hh ex.hb hi') id).1 (by simpa using hbit)
    obtain ⟨_, pre0, hb0, hi0, hdef⟩ := (frameInv_noReg inv ex.ic.self hr hnv).pos
    have hbl : _ = bl := Option.some.inj (hb0.symm.trans ex.hb)
    subst hbl
    have hpre : pre0 = pre ++ [i] := by
      have : pre0 ++ rest = (pre ++ [i]) ++ rest := hi0.symm.trans hi'
      exact List.append_cancel_right this
    subst hpre
    exact hdef id this (by simp) j hjj hdv
  -- facts about each phi
  have hphiOk : ∀ e ∈ vals, ∃ j, fr0.f.instrs[e.1]? = some j ∧ (∃ es, j.op = .phi es) ∧
      RVOk (fx P fr0 mark) (provOf h.provRegs e.1) e.2 ∧ Sized P j.ty e.2 := by
    intro e he
    obtain ⟨j, hjm, es, o, hid, hop, hedge, hev⟩ := hvals e he
    obtain ⟨n, hn⟩ := List.getElem?_of_mem (List.mem_append_left (splitPhis tb.instrs).2 hjm)
    rw [← hsplit] at hn
    have hat : InstrAt fr0.f t n j := ⟨tb, hb', hn⟩
    have hside := sInstr_spec (F.side fr0.fi fr0.f h inv.hf inv.hh t n j hat)
    have hself : fr0.f.instrs[j.id]? = some j := instrs_at hat hside.id
    have hlab : RootsLe (pPhi (pc P H fr0.f h) es 0) (provOf h.provRegs j.id) := by
      have := RootsLe.of_subset_roots hside.lab
      simpa [Side.reqU, hop] using this
    obtain ⟨e', he', ho'⟩ := phiEdge_mem hedge
    have hle : RootsLe ((pc P H fr0.f h).lab o) (provOf h.provRegs j.id) :=
      (ho' ▸ (pPhi_le _ es 0).2 e' he').trans hlab
    have hglob : ∀ g, o = .global g → g < P.globals.length := by
      intro g hg
      apply globalsInRange_mem hside.glob g
      simp only [hop, Op.operands, List.mem_map]
      exact ⟨e', he', by rw [ho', hg]⟩
    refine ⟨j, hid ▸ hself, ⟨es, hop⟩, ?_, ?_⟩
    · rw [← hid]
      exact (evalOpnd_lab (H := H) ex.ic.regsOk ex.ic.paramsOk hglob hev).mono hle
    · exact evalOpnd_sized hdm ex.ic.paramsSized (phisSized_mem hps j hjm es o hop hedge) hev
  refine ⟨inv.hf, inv.hh, ⟨tb, (splitPhis tb.instrs).1, hb', hsplit, ?_⟩, ?_, inv.params⟩
  · -- definedness in the new block
    intro id hds _ j hjj hdv
    by_cases hass : ∃ e ∈ vals, e.1 = id
    · obtain ⟨e, he, hid, hval⟩ := assignAll_mem vals fr0.regs id hass
      obtain ⟨j', hj', _, _, hsz⟩ := hphiOk e he
      rw [hid] at hj'
      rw [hjj] at hj'; cases hj'
      exact ⟨e.2, hval, hsz⟩
    · have hold : (Side.defMask (Side.defSets fr0.f) (blockOffsets fr0.f.blocks 0) fr0.blk (pre.length + 1)).testBit id = true := by
        rcases hds with hd | ⟨k, hk, hkid⟩
        · have : ((Side.defSets fr0.f).getD t 0 &&& Side.defMask (Side.defSets fr0.f) (blockOffsets fr0.f.blocks 0) fr0.blk (pre.length + 1)).testBit id = true := by
            rw [hsub]; exact hd
          simp only [Nat.testBit_and, Bool.and_eq_true] at this
          exact this.2
        · obtain ⟨e, he, heid⟩ := hcover k hk
          exact absurd ⟨e, he, heid.trans hkid⟩ hass
      obtain ⟨w, hw, hsz⟩ := hdm id hold j hjj hdv
      refine ⟨w, assignAll_other vals fr0.regs id w ?_ hw, hsz⟩
      intro e he heid
      exact hass ⟨e, he, heid⟩
  · -- labels
    apply assignAll_forall (P := fun id v => RVOk (fx P fr0 mark) (provOf h.provRegs id) v ∧ TupOk P H fr0.f h (fx P fr0 mark) id v)
    · intro k; exact ⟨RVOk.nil _ _, TupOk.nil _ _ _ _ _ _⟩
    · exact inv.regs
    · intro e he
      obtain ⟨j, hj', ⟨es, hop⟩, hok, _⟩ := hphiOk e he
      refine ⟨hok, ?_⟩
      intro ic g cargs gh hic hcop _
      rw [hj'] at hic; cases hic
      rw [hop] at hcop; cases hcop

end EdVerif.Ssa.PS
