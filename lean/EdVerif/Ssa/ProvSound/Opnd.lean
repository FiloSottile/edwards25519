import EdVerif.Ssa.ProvSound.Defs
/-!
# Operands: labels and sizes of evaluated operands; unpacking of the side conditions
-/
namespace EdVerif.Ssa.PS

open EdVerif.Ssa

/-! ## `mapM` on `Option`, zero values -/

theorem mapM_some_forall {α β} {f : α → Option β} {Q : β → Prop} :
    ∀ (xs : List α) (ys : List β), xs.mapM f = some ys → (∀ x y, f x = some y → Q y) → ∀ y ∈ ys, Q y := by
  intro xs
  induction xs with
  | nil => intro ys h _ y hy; simp at h; subst h; cases hy
  | cons x xs ih =>
    intro ys h hq y hy
    rw [List.mapM_cons] at h
    cases hx : f x with
    | none => simp [hx] at h
    | some b =>
      cases hxs : xs.mapM f with
      | none => simp [hx, hxs] at h
      | some bs =>
        simp [hx, hxs] at h
        subst h
        rcases List.mem_cons.1 hy with e | e
        · subst e; exact hq x _ hx
        · exact ih bs hxs hq y e

theorem noPtr_append {a b : RVal} (ha : NoPtr a) (hb : NoPtr b) : NoPtr (a ++ b) := by
  intro v hv
  rcases List.mem_append.1 hv with h | h
  · exact ha v h
  · exact hb v h

theorem noPtr_nil : NoPtr [] := by intro v hv; cases hv

theorem noPtr_replicateFlat {z : RVal} (hz : NoPtr z) : ∀ n, NoPtr (replicateFlat n z)
  | 0 => noPtr_nil
  | n + 1 => noPtr_append hz (noPtr_replicateFlat hz n)

theorem noPtr_flatten {zs : List RVal} (h : ∀ z ∈ zs, NoPtr z) : NoPtr zs.flatten := by
  intro v hv
  obtain ⟨w, hw, hvw⟩ := List.mem_flatten.1 hv
  exact h w hw v hvw

theorem noPtr_single {v : Val} (h : ∀ b, ¬ PtrTo v b) : NoPtr [v] := by
  intro w hw; simp at hw; subst hw; exact h

theorem zerosF_noPtr (P : Program) : ∀ (fuel id : Nat) (zs : List Val), zerosF P fuel id = some zs → NoPtr zs := by
  intro fuel
  induction fuel with
  | zero => intro id zs h; simp [zerosF] at h
  | succ fuel ih =>
    intro id zs h
    unfold zerosF at h
    split at h
    all_goals first
      | (simp only [Option.some.injEq] at h; subst h; apply noPtr_single; intro b hb; simp [PtrTo] at hb)
      | skip
    · -- arr
      rename_i n e _
      cases he : zerosF P fuel e with
      | none => simp [he] at h
      | some z =>
        simp [he] at h; subst h
        exact noPtr_replicateFlat (ih e z he) n
    · -- struct
      rename_i fs _
      cases hm : fs.mapM (zerosF P fuel) with
      | none => simp [hm] at h
      | some zss =>
        simp [hm] at h; subst h
        apply noPtr_flatten
        exact mapM_some_forall fs zss hm (fun x y hxy => ih x y hxy)
    · cases h

theorem zeros_noPtr {P : Program} {t : Nat} {zs : List Val} (h : P.zeros t = some zs) : NoPtr zs :=
  zerosF_noPtr P _ _ _ h

/-! ## `idMask`, positions of instructions -/

theorem testBit_idMask : ∀ (is : List Instr) (m k : Nat),
    (Side.idMask is m).testBit k = true ↔ (m.testBit k = true ∨ ∃ j ∈ is, j.id = k) := by
  intro is
  induction is with
  | nil => intro m k; simp [Side.idMask]
  | cons i is ih =>
    intro m k
    simp only [Side.idMask]
    rw [ih]
    simp only [Nat.testBit_or, testBit_one_shl, Bool.or_eq_true, decide_eq_true_eq, List.mem_cons]
    constructor
    · rintro ((h | h) | ⟨j, hj, hk⟩)
      · exact Or.inl h
      · exact Or.inr ⟨i, Or.inl rfl, h⟩
      · exact Or.inr ⟨j, Or.inr hj, hk⟩
    · rintro (h | ⟨j, hj | hj, hk⟩)
      · exact Or.inl (Or.inl h)
      · subst hj; exact Or.inl (Or.inr hk)
      · exact Or.inr ⟨j, hj, hk⟩

theorem blockOffsets_spec : ∀ (bs : List Block) (o b : Nat) (bl : Block) (n : Nat) (i : Instr),
    bs[b]? = some bl → bl.instrs[n]? = some i →
    ∃ k, (blockOffsets bs o).getD b 0 = o + k ∧ (bs.flatMap (·.instrs))[k + n]? = some i := by
  intro bs
  induction bs with
  | nil => intro o b bl n i h; simp at h
  | cons c cs ih =>
    intro o b bl n i hb hi
    cases b with
    | zero =>
      simp at hb; subst hb
      refine ⟨0, by simp [blockOffsets], ?_⟩
      have hn : n < c.instrs.length := lt_length_of_getElem? hi
      simp only [List.flatMap_cons, Nat.zero_add]
      rw [List.getElem?_append_left hn]; exact hi
    | succ b =>
      simp at hb
      obtain ⟨k, hk1, hk2⟩ := ih (o + c.instrs.length) b bl n i hb hi
      refine ⟨c.instrs.length + k, ?_, ?_⟩
      · simp only [blockOffsets, List.getD_cons_succ]; rw [hk1]; omega
      · simp only [List.flatMap_cons]
        rw [List.getElem?_append_right (by omega)]
        rw [show c.instrs.length + k + n - c.instrs.length = k + n by omega]; exact hk2

theorem instrs_at {f : Func} {b n : Nat} {i : Instr} (hat : InstrAt f b n i)
    (hid : i.id = (blockOffsets f.blocks 0).getD b 0 + n) : f.instrs[i.id]? = some i := by
  obtain ⟨bl, hb, hi⟩ := hat
  obtain ⟨k, hk1, hk2⟩ := blockOffsets_spec f.blocks 0 b bl n i hb hi
  rw [hid, hk1, Nat.zero_add]; exact hk2

/-! ## the side conditions of one instruction -/

structure SideI (c : PCtx) (D offs : List Nat) (b n : Nat) (i : Instr) : Prop where
  id : i.id = offs.getD b 0 + n
  glob : Side.globalsInRange c.prog.globals.length i.op.operands = true
  lab : Prov.subset (Side.reqU c i).roots (provOf c.h.provRegs i.id) = true
  size : Side.resSizeOk c (Side.defMask D offs b n) i = true
  ctl : (match i.op with
         | .jump t => Side.jumpOk c.prog c.f D offs b n t
         | .if _ t e => Side.jumpOk c.prog c.f D offs b n t && Side.jumpOk c.prog c.f D offs b n e
         | .ret vs => Side.retSized c.prog c.f (Side.defMask D offs b n) vs c.f.resultTys && Side.retLab c vs c.h.returns
         | _ => true) = true

theorem sInstr_spec {c : PCtx} {D offs : List Nat} {b n : Nat} {i : Instr}
    (h : Side.sInstr c D offs b n i = []) : SideI c D offs b n i := by
  unfold Side.sInstr at h
  have hc := ite_nil h
  simp only [Bool.and_eq_true, beq_iff_eq] at hc
  obtain ⟨⟨⟨⟨h1, h2⟩, h3⟩, h4⟩, h5⟩ := hc
  exact ⟨h1, h2, h3, h4, h5⟩

theorem globalsInRange_mem {ng : Nat} : ∀ {os : List Opnd}, Side.globalsInRange ng os = true →
    ∀ g, Opnd.global g ∈ os → g < ng := by
  intro os
  induction os with
  | nil => intro _ g hg; cases hg
  | cons o os ih =>
    intro h g hg
    rcases List.mem_cons.1 hg with e | e
    · subst e
      simp only [Side.globalsInRange, Bool.and_eq_true, decide_eq_true_eq] at h
      exact h.1
    · apply ih _ g e
      cases o <;> simp only [Side.globalsInRange, Bool.and_eq_true] at h <;> first | exact h | exact h.2

/-! ## labels of evaluated operands -/

theorem paramsOk_of {P : Program} {fr : Frame} {mark : Nat} (hn : fr.f.params.length ≤ 16)
    (hp : ∀ (i : Nat) (p : Param) (a : RVal), fr.f.params[i]? = some p → fr.params[i]? = some a →
      Sized P p.tyId a ∧ (p.k.pointerish = false → NoPtr a)) :
    ∀ (i : Nat) (a : RVal), fr.params[i]? = some a → RVOk (fx P fr mark) (paramProv fr.f.params i) a := by
  intro i a ha
  unfold paramProv
  cases hpi : fr.f.params[i]? with
  | none => exact RVOk.loaded _ (by simp [testBit_loaded]) _
  | some p =>
    simp only
    by_cases hk : p.k.pointerish = true
    · simp only [hk, if_true]
      intro v hv b hb
      have hi : i < fr.f.params.length := lt_length_of_getElem? hpi
      exact Or.inl ⟨i, a, v, by omega, by simp [testBit_param], ha, hv, hb⟩
    · have hk' : p.k.pointerish = false := by simpa using hk
      simp only [hk', Bool.false_eq_true, if_false]
      exact ((hp i p a hpi ha).2 hk').rvok _ _

theorem evalOpnd_lab {P : Program} {H : List FuncHints} {h : FuncHints} {fr : Frame} {mark : Nat}
    (hregs : ∀ (id : Nat) (v : RVal), fr.regs[id]? = some v → RVOk (fx P fr mark) (provOf h.provRegs id) v)
    (hparams : ∀ (i : Nat) (a : RVal), fr.params[i]? = some a → RVOk (fx P fr mark) (paramProv fr.f.params i) a)
    {ty : Nat} {o : Opnd} {v : RVal} (hg : ∀ g, o = .global g → g < P.globals.length)
    (he : evalOpnd P fr ty o = some v) : RVOk (fx P fr mark) ((pc P H fr.f h).lab o) v := by
  cases o with
  | reg id => exact hregs id v he
  | param i => exact hparams i v he
  | freeVar i => simp [evalOpnd] at he
  | cint k n =>
    simp [evalOpnd] at he; subst he
    exact (noPtr_single (by intro b hb; simp [PtrTo] at hb)).rvok _ _
  | cbool b =>
    simp [evalOpnd] at he; subst he
    exact (noPtr_single (by intro b hb; simp [PtrTo] at hb)).rvok _ _
  | cstr s =>
    simp [evalOpnd] at he; subst he
    exact (noPtr_single (by intro b hb; simp [PtrTo] at hb)).rvok _ _
  | nil k =>
    simp [evalOpnd] at he; subst he
    refine (noPtr_single ?_).rvok _ _
    intro b hb
    split at hb <;> simp [PtrTo] at hb
  | zero k => exact (zeros_noPtr he).rvok _ _
  | cother => simp [evalOpnd] at he
  | global g =>
    simp [evalOpnd] at he; subst he
    intro v hv b hb
    simp at hv; subst hv
    simp [PtrTo] at hb
    exact Or.inr (Or.inr (Or.inr ⟨g, hg g rfl, by simp [PCtx.lab, testBit_global], hb.symm⟩))
  | fn f =>
    simp [evalOpnd] at he; subst he
    exact (noPtr_single (by intro b hb; simp [PtrTo] at hb)).rvok _ _
  | extern n => simp [evalOpnd] at he
  | builtin n => simp [evalOpnd] at he

/-! ## sizes of evaluated operands -/

/-- the registers of `dm` are defined and have the sizes of their types -/
def DefdRegs (P : Program) (fr : Frame) (dm : Nat) : Prop :=
  ∀ id, dm.testBit id = true → ∀ j, fr.f.instrs[id]? = some j → Side.definesValue j.op = true →
    ∃ v, fr.regs[id]? = some v ∧ Sized P j.ty v

theorem evalOpnd_sized {P : Program} {fr : Frame} {dm : Nat} (hd : DefdRegs P fr dm)
    (hp : ∀ (i : Nat) (p : Param) (a : RVal), fr.f.params[i]? = some p → fr.params[i]? = some a → Sized P p.tyId a)
    {useTy ty : Nat} {o : Opnd} {v : RVal}
    (hs : Side.opndSized P fr.f dm useTy ty o = true) (he : evalOpnd P fr useTy o = some v) : Sized P ty v := by
  cases o with
  | reg id =>
    simp only [Side.opndSized, Bool.and_eq_true] at hs
    obtain ⟨hbit, hs⟩ := hs
    cases hj : fr.f.instrs[id]? with
    | none => simp [hj] at hs
    | some j =>
      simp only [hj, Bool.and_eq_true] at hs
      obtain ⟨w, hw, hsz⟩ := hd id hbit j hj hs.1
      simp only [evalOpnd] at he
      rw [hw] at he; cases he
      exact Sized.of_sizeEq hs.2 hsz
  | param i =>
    simp only [Side.opndSized] at hs
    cases hj : fr.f.params[i]? with
    | none => simp [hj] at hs
    | some p =>
      simp only [hj] at hs
      exact Sized.of_sizeEq hs (hp i p v hj he)
  | zero k =>
    intro n hn
    simp only [evalOpnd] at he
    simp only [Side.opndSized, hn, he, beq_iff_eq] at hs
    exact hs
  | freeVar i => simp [evalOpnd] at he
  | cother => simp [evalOpnd] at he
  | extern n => simp [evalOpnd] at he
  | builtin n => simp [evalOpnd] at he
  | cint k n => simp [evalOpnd] at he; subst he; exact Sized.of_sizeIs hs rfl
  | cbool b => simp [evalOpnd] at he; subst he; exact Sized.of_sizeIs hs rfl
  | cstr s => simp [evalOpnd] at he; subst he; exact Sized.of_sizeIs hs rfl
  | nil k => simp [evalOpnd] at he; subst he; exact Sized.of_sizeIs hs rfl
  | global g => simp [evalOpnd] at he; subst he; exact Sized.of_sizeIs hs rfl
  | fn f => simp [evalOpnd] at he; subst he; exact Sized.of_sizeIs hs rfl

end EdVerif.Ssa.PS
