import EdVerif.Ssa.GlobSound.Facts
/-!
# Protected blocks; "this frame cannot store into a protected block"

`ProtG b`: block `b` holds a package-level variable that is not a once-table.  `NPG fi params m`: no block among the
roots of the `writes` summary of function `fi`, entered with `params` at heap size `m`, is protected.  `NPG` holds for
the outermost exported frame, is inherited by callees (through `substArgs` and the `writeSummary` check of `pInstr`)
and holds for the closure of a once-table run by `Once.Do`.
-/
namespace EdVerif.Ssa.GS

open EdVerif.Ssa EdVerif.Ssa.PS EdVerif.Ssa.ES

/-- block `b` holds a package-level variable that is not a once-table -/
def ProtG (P : Program) (T : List OnceTable) (b : Nat) : Prop :=
  ∃ g, g < P.globals.length ∧ b = g + 1 ∧ ∀ t ∈ T, t.g ≠ g

theorem ProtG.le {P : Program} {T : List OnceTable} {b : Nat} (h : ProtG P T b) : b ≤ P.globals.length := by
  obtain ⟨g, hg, hb, _⟩ := h; omega

/-- a frame of function `fi` entered with `params` when the heap had `m` blocks cannot store into a protected block -/
def NPG (P : Program) (H : List FuncHints) (T : List OnceTable) (fi : Nat) (params : Array RVal) (m : Nat) : Prop :=
  ∀ h, H[fi]? = some h → ∀ b, InRoots ⟨P.globals.length, params, m⟩ (h.writes ||| Prov.fresh) b → ¬ ProtG P T b

variable {P : Program} {H : List FuncHints} {T : List OnceTable}

/-- memory allocated after the frame was entered is not protected -/
theorem NPG.fresh {fi : Nat} {params : Array RVal} {m : Nat} (h : NPG P H T fi params m) {hh : FuncHints}
    (hhh : H[fi]? = some hh) {b : Nat} (hb : m ≤ b) : ¬ ProtG P T b :=
  h hh hhh b (Or.inr (Or.inl ⟨by simp [Nat.testBit_or, testBit_fresh], hb⟩))

/-- a block among the roots of a label covered by the `writes` summary is not protected -/
theorem NPG.of_le {fi : Nat} {params : Array RVal} {m : Nat} (h : NPG P H T fi params m) {hh : FuncHints}
    (hhh : H[fi]? = some hh) {L : Prov} (hle : RootsLe L (hh.writes ||| Prov.fresh)) {b : Nat}
    (hb : InRoots ⟨P.globals.length, params, m⟩ L b) : ¬ ProtG P T b :=
  h hh hhh b (hb.mono hle)

/-- the global of a once-table is not protected -/
theorem not_prot_table {g : Nat} {t : OnceTable} (ht : t ∈ T) (hg : t.g = g) : ¬ ProtG P T (g + 1) := by
  rintro ⟨g', _, hb, hall⟩
  have : g' = g := by omega
  subst this
  exact hall t ht hg

/-- the flag cell of a `Do` call: its label has only fresh roots and globals of once-tables -/
theorem once_cell_notProt {fi : Nat} {params : Array RVal} {m : Nat} (np : NPG P H T fi params m) {hh : FuncHints}
    (hhh : H[fi]? = some hh) {L : Prov}
    (hs : Prov.subset (Prov.minus (Prov.roots L) Prov.fresh) (GlobSide.tablesMask T) = true) {b : Nat}
    (hb : InRoots ⟨P.globals.length, params, m⟩ L b) : ¬ ProtG P T b := by
  have key : ∀ k, k ≠ 16 → k ≠ 18 → k ≠ 19 → L.testBit k = true → ∃ t ∈ T, 20 + t.g = k := by
    intro k h16 h18 h19 hk
    apply (testBit_tablesMask T k).1
    apply subset_testBit hs
    rw [testBit_minus, testBit_roots, hk, testBit_fresh]
    have : decide (18 = k) = false := by simp; omega
    have : decide (19 = k) = false := by simp; omega
    have : decide (16 = k) = false := by simp; omega
    simp [*]
  rcases hb with ⟨k, a, v, hk, hbit, _⟩ | ⟨_, hm⟩ | hbit | ⟨g, _, hbit, hbe⟩
  · obtain ⟨t, _, ht⟩ := key k (by omega) (by omega) (by omega) hbit
    omega
  · exact np.fresh hhh hm
  · obtain ⟨t, _, ht⟩ := key 17 (by omega) (by omega) (by omega) hbit
    omega
  · obtain ⟨t, htT, ht⟩ := key (20 + g) (by omega) (by omega) (by omega) hbit
    subst hbe
    exact not_prot_table htT (by omega)

/-- the instruction the top frame executes writes no protected block -/
theorem waddr_notProtG (G : GFacts P H T) {h : FuncHints} {fr : Frame} {m dm : Nat} {i : Instr} {b0 n0 : Nat}
    (ic : IC P H h fr m dm i) (hat : InstrAt fr.f b0 n0 i) (np : NPG P H T fr.fi fr.params m) {b : Nat}
    (hw : WAddr P fr i b) : ¬ ProtG P T b := by
  rcases waddr_root ic hw with ⟨o, _, hle, hin⟩ | ⟨args, vs, o, hop, he, hv⟩
  · exact np.of_le ic.hh hle hin
  · -- the flag cell of a `sync.Once`: in the variable of a once-table, or fresh
    obtain ⟨_, hargs⟩ := ic.args (by intro o ho; simpa [hop, Op.operands] using ho) he
    obtain ⟨a0, clo, rfl, _, hsub⟩ := once_spec (G.once fr.fi fr.f h ic.hf ic.hh b0 n0 i hat) hop
    exact once_cell_notProt np ic.hh hsub (rvok_single_ptr (hargs 0 a0 _ (by simp) hv))

/-- the frame of a callee inherits `NPG` from the caller -/
theorem callee_npg (G : GFacts P H T) {h : FuncHints} {fr : Frame} {m dm : Nat} {i : Instr}
    (ic : IC P H h fr m dm i) (np : NPG P H T fr.fi fr.params m)
    {g : Nat} {cargs : List Opnd} (hop : i.op = .call (.fn g) cargs) {vs : List RVal}
    (he : evalOpnds P fr cargs i.opTys = some vs) {gf : Func} (hgf : P.funcs[g]? = some gf)
    {mk : Nat} (hmk : m ≤ mk) : NPG P H T g vs.toArray mk := by
  intro gh hgh b hw
  have hnlg : gh.writes.testBit 17 = false := ic.facts.noLoaded g gf gh hgf hgh
  rcases hw with ⟨k, a, v, hk, hbit, ha, hv, hpt⟩ | ⟨_, hm⟩ | hbit | ⟨gg, hgl, hbit, hbe⟩
  · have hak : vs[k]? = some a := by
      have : vs.toArray[k]? = some a := ha
      simpa using this
    obtain ⟨o, _, hle, hin⟩ := callee_arg_root ic hop he hgh hk (testBit_or_fresh hbit (by omega)) hak hv hpt
    exact np.of_le ic.hh hle hin
  · have : mk ≤ b := hm
    exact np.fresh ic.hh (Nat.le_trans hmk this)
  · simp [Nat.testBit_or, testBit_fresh, hnlg] at hbit
  · -- a global root of the callee's summary is a global root of the caller's
    have hgl' : gg < P.globals.length := hgl
    have hng := G.ng
    have hbit' : gh.writes.testBit (20 + gg) = true := testBit_or_fresh hbit (by omega)
    refine np.of_le (L := Prov.global gg) ic.hh ?_ (Or.inr (Or.inr (Or.inr ⟨gg, hgl, by simp [testBit_global], hbe⟩)))
    refine RootsLe.trans ?_ (callee_weff ic hop hgh)
    intro q _ _ hq
    rw [testBit_global] at hq
    have hq' : 20 + gg = q := by simpa using hq
    subst hq'
    rw [testBit_substArgs]
    left
    rw [Nat.testBit_and, hbit', Nat.testBit_or, testBit_globalMask]
    have h2 : decide (20 + gg < 64) = true := by simp; omega
    simp [h2]

/-- a function that is not the package initialiser, entered without pointers to protected blocks among its arguments
    when the heap already contained the package-level variables -/
theorem entry_npg (F : Facts P H) (G : GFacts P H T) {g : Nat} {gf : Func} (hgf : P.funcs[g]? = some gf)
    (hni : isPkgInit gf = false) {params : Array RVal}
    (hpar : ∀ (k : Nat) a v b, params[k]? = some a → v ∈ a → PtrTo v b → ¬ ProtG P T b)
    {mk : Nat} (hmk : P.globals.length < mk) : NPG P H T g params mk := by
  intro gh hgh b hw
  have hnlg : gh.writes.testBit 17 = false := F.noLoaded g gf gh hgf hgh
  have hng := G.ng
  rcases hw with ⟨k, a, v, hk, hbit, ha, hv, hpt⟩ | ⟨_, hm⟩ | hbit | ⟨gg, hgl, hbit, hbe⟩
  · exact hpar k a v b ha hv hpt
  · intro hp
    have := hp.le
    have : mk ≤ b := hm
    omega
  · simp [Nat.testBit_or, testBit_fresh, hnlg] at hbit
  · have hgl' : gg < P.globals.length := hgl
    have hbit' : gh.writes.testBit (20 + gg) = true := testBit_or_fresh hbit (by omega)
    have hal : (allowedGlobalWrites T g gf).testBit (20 + gg) = true := by
      apply subset_testBit (G.gw g gf gh hgf hgh)
      rw [Nat.testBit_and, hbit', testBit_globalMask]
      have h2 : decide (20 + gg < 64) = true := by simp; omega
      simp [h2]
    obtain ⟨t, htT, _, htg⟩ := testBit_allowed hni hal
    subst hbe
    exact not_prot_table htT (by omega)

/-- the closure of a once-table, run by `Once.Do` -/
theorem closure_npg (F : Facts P H) (G : GFacts P H T) {g : Nat} {gf : Func} (hgf : P.funcs[g]? = some gf)
    (hclo : GlobSide.isClosure T g = true) {mk : Nat} (hmk : P.globals.length < mk) : NPG P H T g #[] mk := by
  have hfn := G.fnOk g gf hgf
  have hni : isPkgInit gf = false := by
    simpa [GlobSide.fnOk, hclo] using hfn
  refine entry_npg F G hgf hni ?_ hmk
  intro k a v b ha
  simp at ha

/-- an exported function whose arguments avoid the package-level variables -/
theorem root_npg (F : Facts P H) (G : GFacts P H T) {fi : Nat} {f : Func} (hf : P.funcs[fi]? = some f)
    (hexp : f.exported = true) {args : List RVal} (havoid : ArgsAvoidGlobals P args)
    {mk : Nat} (hmk : P.globals.length < mk) : NPG P H T fi args.toArray mk := by
  have hfn := G.fnOk fi f hf
  have hni : isPkgInit f = false := by
    simpa [GlobSide.fnOk, hexp] using hfn
  refine entry_npg F G hf hni ?_ hmk
  intro k a v b ha hv hpt hprot
  have ha' : args[k]? = some a := by simpa using ha
  have hav := havoid a (List.mem_of_getElem? ha') v hv
  have hle := hprot.le
  obtain ⟨g, hg, hb, _⟩ := hprot
  cases v <;> simp only [PtrTo] at hpt
  · subst hpt
    simp [isGlobalBlock] at hav
    omega
  · obtain ⟨e, _⟩ := hpt
    subst e
    simp [isGlobalBlock] at hav
    omega

end EdVerif.Ssa.GS
