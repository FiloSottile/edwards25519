import EdVerif.Ssa.GlobSpec
import EdVerif.Ssa.ErrSound.ErrStep
/-!
# What `globalsOkSimple` says, per function / instruction; bit facts about the once-tables
-/
namespace EdVerif.Ssa.GS

open EdVerif.Ssa EdVerif.Ssa.PS

/-- the facts the proof uses about a program whose globals verdict is `true` (`T` = the resolved once-tables) -/
structure GFacts (P : Program) (H : List FuncHints) (T : List OnceTable) : Prop where
  ng : P.globals.length ≤ 44
  gw : ∀ (fi : Nat) f h, P.funcs[fi]? = some f → H[fi]? = some h →
    Prov.subset (h.writes &&& Prov.globalMask) (allowedGlobalWrites T fi f) = true
  fnOk : ∀ (fi : Nat) f, P.funcs[fi]? = some f → GlobSide.fnOk T fi f = true
  once : ∀ (fi : Nat) f h, P.funcs[fi]? = some f → H[fi]? = some h → ∀ b n i, InstrAt f b n i →
    GlobSide.sInstr { prog := P, hints := H, f := f, h := h } T i = []

theorem gfacts_of_ok {P : Program} {H : List FuncHints} {pol : GlobalsPolicy} (h : globalsOkSimple P H pol = true) :
    GFacts P H (onceTablesOf P pol) := by
  simp only [globalsOkSimple, Bool.and_eq_true, decide_eq_true_eq] at h
  obtain ⟨⟨⟨h1, _⟩, h3⟩, h4⟩ := h
  refine ⟨h3, ?_, ?_, ?_⟩
  · intro fi f h' hf hh'
    have := (allClean_at h1 hf hh' rfl).1
    simp only [List.append_eq_nil_iff] at this
    exact ite_nil this.1.1
  · intro fi f hf
    obtain ⟨h', _, hc⟩ := allClean_fn h4 hf
    exact ite_nil (hc _ rfl).1
  · intro fi f h' hf hh'
    exact (allClean_at h4 hf hh' rfl).2

/-! ## bits of the once-tables -/

theorem testBit_tablesMask (T : List OnceTable) (k : Nat) :
    (GlobSide.tablesMask T).testBit k = true ↔ ∃ t ∈ T, 20 + t.g = k := by
  induction T with
  | nil => simp [GlobSide.tablesMask]
  | cons t ts ih =>
    simp only [GlobSide.tablesMask, Nat.testBit_or, Bool.or_eq_true, testBit_global, decide_eq_true_eq, ih,
      List.mem_cons, exists_eq_or_imp]

theorem testBit_allowedFold (fi : Nat) (k : Nat) : ∀ (T : List OnceTable) (acc : Prov),
    (T.foldl (fun acc t => if t.clo == fi then acc ||| Prov.global t.g else acc) acc).testBit k = true →
      acc.testBit k = true ∨ ∃ t ∈ T, t.clo = fi ∧ 20 + t.g = k := by
  intro T
  induction T with
  | nil => intro acc h; exact Or.inl h
  | cons t ts ih =>
    intro acc h
    simp only [List.foldl_cons] at h
    rcases ih _ h with h1 | ⟨t', ht', h2⟩
    · by_cases hc : (t.clo == fi) = true
      · rw [if_pos hc] at h1
        simp only [Nat.testBit_or, Bool.or_eq_true, testBit_global, decide_eq_true_eq] at h1
        rcases h1 with h1 | h1
        · exact Or.inl h1
        · exact Or.inr ⟨t, List.mem_cons_self, by simpa using hc, h1⟩
      · rw [if_neg hc] at h1
        exact Or.inl h1
    · exact Or.inr ⟨t', List.mem_cons_of_mem _ ht', h2⟩

/-- a function that is not the package initialiser may only write the globals of the once-tables it is the closure of -/
theorem testBit_allowed {T : List OnceTable} {fi : Nat} {f : Func} (hn : isPkgInit f = false) {k : Nat}
    (h : (allowedGlobalWrites T fi f).testBit k = true) : ∃ t ∈ T, t.clo = fi ∧ 20 + t.g = k := by
  unfold allowedGlobalWrites at h
  rw [hn] at h
  simp only [Bool.false_eq_true, if_false] at h
  rcases testBit_allowedFold fi k T 0 h with h1 | h1
  · simp at h1
  · exact h1

theorem isClosure_iff {T : List OnceTable} {fi : Nat} : GlobSide.isClosure T fi = true ↔ ∃ t ∈ T, t.clo = fi := by
  simp [GlobSide.isClosure, List.any_eq_true]

/-- what `GlobSide.sInstr` says about a `Do` call -/
theorem once_spec {c : PCtx} {T : List OnceTable} {i : Instr} {args : List Opnd}
    (h : GlobSide.sInstr c T i = []) (hop : i.op = .call (.extern Ext.onceDo) args) :
    ∃ a0 clo, args = [a0, .fn clo] ∧ GlobSide.isClosure T clo = true ∧
      Prov.subset (Prov.minus (c.lab a0).roots Prov.fresh) (GlobSide.tablesMask T) = true := by
  unfold GlobSide.sInstr at h
  rw [hop] at h
  simp only [beq_self_eq_true, if_true] at h
  split at h
  · rename_i a0 clo
    have := ite_nil h
    simp only [Bool.and_eq_true] at this
    exact ⟨a0, clo, rfl, this.1, this.2⟩
  · cases h

end EdVerif.Ssa.GS
