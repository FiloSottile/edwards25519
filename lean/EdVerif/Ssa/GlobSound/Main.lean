import EdVerif.Ssa.GlobSound.Step
/-!
# Soundness of the globals-discipline checker: `GlobalsStatement`
-/
namespace EdVerif.Ssa.GS

open EdVerif.Ssa EdVerif.Ssa.PS EdVerif.Ssa.ES

variable {P : Program} {H : List FuncHints} {T : List OnceTable}

theorem run_unch (F : Facts P H) (G : GFacts P H T) {bot : PS.Callee} {heap0 : Heap}
    (hhg : P.globals.length < heap0.blocks.size) (fuel : Nat) (s : State) (ms : List Nat)
    (hinv : GInv P H T bot heap0 s ms) : ∀ h', (run P fuel s).heap? = some h' → Unch P T heap0 h' := by
  refine run_invariant (Inv := fun s => ∃ ms, GInv P H T bot heap0 s ms)
    (Post := fun o => ∀ h', o.heap? = some h' → Unch P T heap0 h') ?_ ?_ fuel s ⟨ms, hinv⟩
  · rintro s ⟨ms, hinv⟩
    have hstep := g_step F G hhg hinv
    generalize step P s = r at hstep ⊢
    cases r with
    | cont _ _ => exact hstep
    | done _ _ _ => intro h' he; cases he; exact hstep
    | panic _ _ _ => intro h' he; cases he; exact hstep
    | fault _ => intro h' he; cases he
  · rintro s ⟨_, hinv⟩ h' he; cases he; exact hinv.unch

end EdVerif.Ssa.GS

namespace EdVerif.Ssa

open EdVerif.Ssa.PS EdVerif.Ssa.GS

/-- **C18 F1–F3 / C19 (no hidden state)**, soundness of `provSelector` + `globalsSelector` (+ side conditions) w.r.t. the
    execution semantics -/
theorem globals_sound : GlobalsStatement := by
  intro prog hints pol hprov hglob fi f hf hexp heap args s hargs havoid hheap hs fuel h' hh' g hg hnt
  have F := facts_of_ok hprov
  have G := gfacts_of_ok hglob
  have hhg : prog.globals.length < heap.blocks.size := hheap
  obtain ⟨h, hh, hheap0, hinv⟩ := init_inv F hf hargs hs
  obtain ⟨fr, hm, rfl⟩ := callState_eq_some hf hs
  obtain ⟨_, _, rfl⟩ := mkFrame_eq_some hm
  have ginv : GInv prog hints (onceTablesOf prog pol) _ heap ⟨heap, [_]⟩ [heap.blocks.size] :=
    { sinv := hinv,
      np := ⟨root_npg F G hf hexp havoid hhg, trivial⟩,
      size := Nat.le_refl _,
      unch := fun _ _ => rfl }
  exact run_unch F G hhg fuel _ _ ginv h' hh' (g + 1) ⟨g, hg, rfl, hnt⟩

end EdVerif.Ssa
