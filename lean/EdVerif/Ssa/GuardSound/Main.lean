import EdVerif.Ssa.GuardSound.Phase1
import EdVerif.Ssa.GuardSound.Window
/-!
# Soundness of the guard-dominance checker (+ side conditions): `GuardStatement`
-/
namespace EdVerif.Ssa.GS

open EdVerif.Ssa EdVerif.Ssa.PS EdVerif.Ssa.ES EdVerif.Ssa.GuardSide

/-! ## what the side conditions say -/

theorem paramIdx?_lt (nm : Nm) : ∀ (ps : List Param) (i k : Nat), paramIdx? nm ps i = some k → k < i + ps.length := by
  intro ps
  induction ps with
  | nil => intro i k h; simp [paramIdx?] at h
  | cons p ps ih =>
    intro i k h
    simp only [paramIdx?] at h
    split at h
    · cases h; simp
    · have := ih (i + 1) k h
      simp; omega

theorem namesMask_bit (ps : List Param) : ∀ (ns : List Nm) (m j : Nat), (namesMask ps ns m).testBit j = true →
    m.testBit j = true ∨ j < ps.length := by
  intro ns
  induction ns with
  | nil => intro m j h; exact Or.inl h
  | cons n ns ih =>
    intro m j h
    simp only [namesMask] at h
    rcases ih _ j h with h1 | h1
    · split at h1
      · rename_i i hi
        simp only [Nat.testBit_or, Bool.or_eq_true, testBit_one_shl, decide_eq_true_eq] at h1
        rcases h1 with h1 | h1
        · exact Or.inl h1
        · subst h1
          have := paramIdx?_lt n ps 0 i hi
          exact Or.inr (by omega)
      · exact Or.inl h1
    · exact Or.inr h1

theorem sitesOk_get (P : Program) (pol : GuardPolicy) (gi : Nat) (f : Func) (G : Nat) : ∀ (ps : List Param) (j0 k : Nat) (p : Param),
    sitesOk P pol gi f G ps j0 = true → ps[k]? = some p → G.testBit (j0 + k) = true →
    siteIn P pol gi f (j0 + k) p f.blocks 0 = true := by
  intro ps
  induction ps with
  | nil => intro j0 k p _ h; simp at h
  | cons q qs ih =>
    intro j0 k p h hk hG
    simp only [sitesOk, Bool.and_eq_true, Bool.or_eq_true, Bool.not_eq_true'] at h
    cases k with
    | zero =>
      simp at hk; subst hk
      simp only [Nat.add_zero] at hG ⊢
      rcases h.1 with h1 | h1
      · rw [hG] at h1; cases h1
      · exact h1
    | succ k =>
      simp at hk
      have := ih (j0 + 1) k p h.2 hk (by rw [show j0 + 1 + k = j0 + (k + 1) by omega]; exact hG)
      rw [show j0 + 1 + k = j0 + (k + 1) by omega] at this
      exact this

theorem siteIn_spec (P : Program) (pol : GuardPolicy) (gi : Nat) (f : Func) (j : Nat) (p : Param) : ∀ (bs : List Block) (B0 : Nat),
    siteIn P pol gi f j p bs B0 = true →
    ∃ B bl, bs[B]? = some bl ∧ preSite P pol gi j p bl.instrs = true ∧ regionOk f (B0 + B) = true := by
  intro bs
  induction bs with
  | nil => intro B0 h; simp [siteIn] at h
  | cons b bs ih =>
    intro B0 h
    simp only [siteIn, Bool.or_eq_true, Bool.and_eq_true] at h
    rcases h with ⟨h1, h2⟩ | h
    · exact ⟨0, b, by simp, h1, by simpa using h2⟩
    · obtain ⟨B, bl, hb, h1, h2⟩ := ih (B0 + 1) h
      exact ⟨B + 1, bl, by simpa using hb, h1, by rw [show B0 + (B + 1) = B0 + 1 + B by omega]; exact h2⟩

theorem delegArgs_spec (cm : Nat) (gps : List Param) (j tyId : Nat) : ∀ (as : List Opnd) (k0 : Nat),
    delegArgs cm gps j tyId as k0 = true →
    ∃ k q, as[k]? = some (.param j) ∧ cm.testBit (k0 + k) = true ∧ gps[k0 + k]? = some q ∧ q.tyId = tyId := by
  intro as
  induction as with
  | nil => intro k0 h; simp [delegArgs] at h
  | cons o as ih =>
    intro k0 h
    simp only [delegArgs, Bool.or_eq_true] at h
    rcases h with h | h
    · split at h
      · rename_i j'
        simp only [Bool.and_eq_true, beq_iff_eq] at h
        obtain ⟨⟨hj, hcm⟩, hq⟩ := h
        subst hj
        split at hq
        · rename_i q hq'
          exact ⟨0, q, by simp, by simpa using hcm, by simpa using hq', by simpa using hq⟩
        · cases hq
      · cases h
    · obtain ⟨k, q, h1, h2, h3, h4⟩ := ih (k0 + 1) h
      exact ⟨k + 1, q, by simpa using h1, by rw [show k0 + (k + 1) = k0 + 1 + k by omega]; exact h2,
        by rw [show k0 + (k + 1) = k0 + 1 + k by omega]; exact h3, h4⟩

theorem calleeMask_spec {P : Program} {pol : GuardPolicy} {g k : Nat} {gf : Func} (hgf : P.funcs[g]? = some gf)
    (h : (calleeGuardedMask P pol g).testBit k = true) :
    ∃ names, lookupGuarded gf.name pol.guarded = some names ∧ (namesMask gf.params names 0).testBit k = true := by
  unfold calleeGuardedMask at h
  rw [hgf] at h
  simp only at h
  split at h
  · rename_i names hn
    exact ⟨names, hn, h⟩
  · simp at h

/-! ## the site -/

section site
variable {P : Program} {pol : GuardPolicy} {gi j : Nat} {p : Param} {f : Func} {args : Array RVal} {heap0 : Heap} {a : RVal}

theorem site_safe (GS : GuardSafe P gi) (hpj : f.params[j]? = some p) (haj : args[j]? = some a)
    (hform : ArgForm P f j a) (hu : ArgUninit heap0 a) :
    ∀ m, DelegSafe P pol m → SiteGoal P pol gi j p f args heap0 (m + 1) := by
  intro m DS fr hp hf hpar hext hsite
  have hfm := hform p hpj
  cases hrest : fr.rest with
  | nil => rw [hrest] at hsite; simp [siteStart] at hsite
  | cons i rest =>
    rw [hrest] at hsite
    simp only [siteStart] at hsite
    split at hsite
    · -- the variadic array
      rename_i hpf ek hop
      simp only [Bool.and_eq_true] at hsite
      obtain ⟨⟨hptr, harrOk⟩, hfill⟩ := hsite
      -- the argument is a pointer
      have hap : ∃ pb po, a = [.ptr pb po] := by
        unfold isPtrTy at hptr
        split at hptr
        · rename_i e he
          rw [he] at hfm
          exact hfm
        · cases hptr
      obtain ⟨pb, po, e⟩ := hap
      subst e
      -- the array type
      unfold arrTyOk at harrOk
      split at harrOk
      · rename_i aty hT
        split at harrOk
        · rename_i n e harr
          simp only [Bool.and_eq_true, decide_eq_true_eq, beq_iff_eq] at harrOk
          obtain ⟨hn, hsz⟩ := harrOk
          have hs1 : step P ⟨hp, [fr]⟩ = _ := step_alloc_eq hrest hop
          rcases stepAlloc_cases P hp (popI fr rest) [] i with ⟨w, hc⟩ | ⟨e', zs, _, _, hc⟩
          · exact Safe.of_fault (hs1.trans hc) _
          · refine Safe.of_cont (hs1.trans hc) ?_
            refine fill_safe hT harr hsz hn GS haj hu rest.length rest (Nat.le_refl _) 0 false _ _ hp.blocks.size m rfl hfill ?_
            refine ⟨hpar, regSet_self _ _ _, hext.1, Heap.alloc_ext zs hext, ?_⟩
            intro h; cases h
        · cases harrOk
      · cases harrOk
    · -- a call
      rename_i g cargs hop
      have hs1 : step P ⟨hp, [fr]⟩ = _ := step_call_eq hrest hop
      rcases stepCall_fn_cases P hp (popI fr rest) [] i g cargs with ⟨w, hc⟩ | ⟨vs, gf, nf, hvs, hgf, hnf, hc⟩
      · exact Safe.of_fault (hs1.trans hc) _
      · refine Safe.of_cont (hs1.trans hc) ?_
        obtain ⟨s0, hcs, hlift⟩ := lift_call (hp := hp) (rest := [popI fr rest]) hgf hnf
        apply hlift m
        have hpa : (popI fr rest).params[j]? = some a := by
          show fr.params[j]? = some a
          rw [hpar]; exact haj
        split at hsite
        · -- the guard itself, on the slice parameter
          rename_i hg
          have hg' : g = gi := by simpa using hg
          subst hg'
          split at hsite
          · rename_i j'
            simp only [Bool.and_eq_true, beq_iff_eq] at hsite
            obtain ⟨hj, hsl⟩ := hsite
            subst hj
            have hasl : ∃ b o len cap, a = [.slice b o len cap] := by
              unfold isSliceTy at hsl
              split at hsl
              · rename_i e he
                rw [he] at hfm
                exact hfm
              · cases hsl
            obtain ⟨v, ws, hv, hws, e⟩ := evalOpnds_cons_some hvs
            subst e
            simp only [evalOpnds, Option.some.injEq] at hws
            subst hws
            simp only [evalOpnd] at hv
            rw [hpa] at hv
            cases hv
            intro m' _
            exact GS hp a s0 hasl (hext.argUninit hu) hcs m'
          · cases hsite
        · -- a delegating call
          rename_i hg
          split at hsite
          · rename_i gf' hgf'
            rw [hgf] at hgf'
            cases hgf'
            obtain ⟨k, q, hk, hcm, hq, hqt⟩ := delegArgs_spec _ _ _ _ _ _ hsite
            simp only [Nat.zero_add] at hcm hq
            obtain ⟨names, hnames, hbit⟩ := calleeMask_spec hgf hcm
            obtain ⟨hvk, _⟩ := evalOpnds_param _ _ _ _ _ hvs hk
            rw [hpa] at hvk
            refine DS g gf names k hp vs a s0 hgf hnames hbit hvk ?_ (hext.argUninit hu) hcs
            intro q' hq'
            rw [hq] at hq'
            cases hq'
            rw [hqt]
            exact hfm
          · cases hsite
    · cases hsite

end site

/-! ## the induction -/

section main
variable {P : Program} {pol : GuardPolicy} {gi : Nat}

/-- a reader of the policy entered with an uninitialized point in a guarded position is safe for `n` steps -/
def Claim (P : Program) (pol : GuardPolicy) (n : Nat) : Prop :=
  ∀ (g : Nat) (gf : Func) (names : List Nm) (k : Nat) (hp : Heap) (vs : List RVal) (a : RVal) (s0 : State),
    P.funcs[g]? = some gf → lookupGuarded gf.name pol.guarded = some names → (namesMask gf.params names 0).testBit k = true →
    vs[k]? = some a → ArgForm P gf k a → ArgUninit hp a → callState P hp g vs = some s0 → Safe P n s0

theorem claim_all
    (hside : ∀ (fi : Nat) f names, P.funcs[fi]? = some f → lookupGuarded f.name pol.guarded = some names →
      sitesOk P pol gi f (namesMask f.params names 0) f.params 0 = true)
    (GS : GuardSafe P gi) : ∀ n, Claim P pol n := by
  intro n
  induction n using Nat.strongRecOn with
  | _ n ih =>
    intro fi f names j heap args a s hf hnames hbit haj hform hu hs
    -- the declaration of parameter `j` and its site
    have hjlt : j < f.params.length := by
      rcases namesMask_bit f.params names 0 j hbit with h | h
      · simp at h
      · exact h
    have hpj : f.params[j]? = some f.params[j] := List.getElem?_eq_getElem hjlt
    have hsites := hside fi f names hf hnames
    have hin := sitesOk_get P pol gi f _ f.params 0 j _ hsites hpj (by simpa using hbit)
    simp only [Nat.zero_add] at hin
    obtain ⟨B, bl, hBl, hpre, hreg⟩ := siteIn_spec P pol gi f j _ f.blocks 0 hin
    simp only [Nat.zero_add] at hreg
    -- the initial state
    obtain ⟨_, hmk, rfl⟩ := callState_eq_some hf hs
    obtain ⟨b0, hb0, rfl⟩ := mkFrame_eq_some hmk
    have haj' : args.toArray[j]? = some a := by simpa using haj
    refine phase1 (P := P) (pol := pol) (gi := gi) (j := j) (p := f.params[j]) (f := f) (args := args.toArray) (heap0 := heap)
      hBl hpre hreg n _ heap rfl rfl (HeapExt.refl _) ?_ ?_
    · by_cases hB0 : B = 0
      · subst hB0
        rw [hb0] at hBl
        cases hBl
        exact Or.inl ⟨rfl, hpre⟩
      · have R := region_of_ok hreg hB0
        exact Or.inr ⟨hB0, R.entry, b0, hb0, R.quiet 0 b0 hb0 R.entry⟩
    · intro m hm
      cases m with
      | zero => intro fr hp _ _ _ _; exact Safe.zero _ _
      | succ m =>
        refine site_safe GS hpj haj' hform hu m ?_
        intro g gf names' k hp vs a' s0 h1 h2 h3 h4 h5 h6 h7 m' hm'
        exact ih m' (by omega) g gf names' k hp vs a' s0 h1 h2 h3 h4 h5 h6 h7

end main

end EdVerif.Ssa.GS

namespace EdVerif.Ssa

open EdVerif.Ssa.PS EdVerif.Ssa.GS

/-- the core of **C15**: neither the provenance verdict nor `ArgsOk` is needed -/
theorem guard_sound_core {prog : Program} {hints : List FuncHints} {pol : GuardPolicy}
    (hguard : guardOkSimple prog hints pol = true) {gi : Nat} (hgi : prog.funcIdx? pol.guardFn = some gi)
    (hspec : GuardFnSpec prog gi)
    {fi : Nat} {f : Func} {names : List Nm} (hf : prog.funcs[fi]? = some f) (hnames : lookupGuarded f.name pol.guarded = some names)
    {j : Nat} (hbit : (namesMask f.params names 0).testBit j = true)
    {heap : Heap} {args : List RVal} {s : State} (hs : callState prog heap fi args = some s)
    (harg : ∃ a, args[j]? = some a ∧ ArgForm prog f j a ∧ ArgUninit heap a) :
    ∀ fuel s' rets, run prog fuel s ≠ .done s' rets := by
  obtain ⟨a, haj, hform, hu⟩ := harg
  intro fuel
  simp only [guardOkSimple, Bool.and_eq_true] at hguard
  refine claim_all (P := prog) (pol := pol) (gi := gi) ?_ ?_ fuel fi f names j heap args a s hf hnames hbit haj hform hu hs
  · intro fi' f' names' hf' hnames'
    obtain ⟨h, _, hc⟩ := allClean_fn hguard.2 hf'
    have hsel : GuardSide.sideSelector prog pol fi' f' h =
        some { fnKinds := if GuardSide.sitesOk prog pol gi f' (namesMask f'.params names' 0) f'.params 0 then [] else [K.malformed],
               instr := fun _ _ _ => [] } := by
      simp only [GuardSide.sideSelector, hnames', hgi, Option.getD_some]
    exact ite_nil (hc _ hsel).1
  · intro hp sl s0 hsl hun hcs m
    exact (hspec hp sl s0 hcs).2 (by obtain ⟨b, o, len, cap, e⟩ := hsl; exact ⟨b, o, len, cap, e, hun⟩) m

/-- **C15**, soundness of the guard-dominance checker (+ side conditions) w.r.t. the execution semantics -/
theorem guard_sound : GuardStatement := by
  intro prog hints pol _ hguard gi hgi hspec fi f names hf hnames j hbit heap args s _ hs harg
  exact guard_sound_core hguard hgi hspec hf hnames hbit hs harg

end EdVerif.Ssa
