import EdVerif.Ssa.ErrSound.Graph
/-!
# `reach` with blocked nodes computes a closed set

`ES.reach_fix` for the start set `{0}` and one blocked node `B ≠ 0`.
-/
namespace EdVerif.Ssa.GS

open EdVerif.Ssa EdVerif.Ssa.PS EdVerif.Ssa.ES

/-- no element of `s` is blocked -/
def Disj (bl s : Nat) : Prop := ∀ k, s.testBit k = true → bl.testBit k = false

theorem closeN_disj (masks : List Nat) (bl : Nat) : ∀ (n s : Nat), Disj bl s → Disj bl (closeN masks bl n s) := by
  intro n
  induction n with
  | zero => intro s hd; simpa [closeN] using hd
  | succ n ih =>
    intro s hd
    simp only [closeN]
    split
    · exact hd
    · exact ih _ (closeStep_disj masks bl s)

theorem disj_one_shl {B : Nat} (hB : B ≠ 0) : Disj (1 <<< B) 1 := by
  intro k hk
  have hk0 : k = 0 := by
    have : (1 <<< 0).testBit k = true := by simpa using hk
    rw [testBit_one_shl] at this
    exact (of_decide_eq_true this).symm
  subst hk0
  rw [testBit_one_shl]
  simp [hB]

/-- `avoiding f B` (for `B ≠ 0`) contains the entry block and is closed under the successor masks up to `B` -/
theorem avoiding_entry {f : Func} {B : Nat} (hB : B ≠ 0) : (avoiding f B).testBit 0 = true := by
  unfold avoiding
  have : (B == 0) = false := by simpa using hB
  simp only [this, Bool.false_eq_true, if_false]
  exact closeN_ge _ _ _ 1 (disj_one_shl hB) 0 (by decide)

theorem avoiding_fix {f : Func} {B : Nat} (hB : B ≠ 0) :
    closeStep (succMasks f.blocks) (1 <<< B) (avoiding f B) = avoiding f B := by
  unfold avoiding
  have : (B == 0) = false := by simpa using hB
  simp only [this, Bool.false_eq_true, if_false]
  exact reach_fix _ _ 1 (disj_one_shl hB)

end EdVerif.Ssa.GS
