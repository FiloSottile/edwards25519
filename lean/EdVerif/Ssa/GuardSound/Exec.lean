import EdVerif.Ssa.GuardSound.Quiet
/-!
# Exact outcomes of single instructions (for the variadic-array window and the guard function)

Each lemma says: the step is a fault / a panic, or it continues in an explicitly given state.
-/
namespace EdVerif.Ssa.GS

open EdVerif.Ssa EdVerif.Ssa.PS EdVerif.Ssa.ES EdVerif.Ssa.GuardSide

/-! ## cells -/

theorem Heap.write_cell_lt {h h' : Heap} {blk off c : Nat} {vs : List Val} (hw : h.write blk off vs = some h') (hc : c < off) :
    h'.cell? blk c = h.cell? blk c := by
  obtain ⟨bl, b', h1, h2, h3⟩ := Heap.write_block hw
  unfold Heap.cell?
  rw [h1, h3]
  simp only [Option.bind_some]
  exact (writeCells_spec _ _ _ _ h2).2 c hc

theorem Heap.write_cell_head {h h' : Heap} {blk off : Nat} {v : Val} {vs : List Val} (hw : h.write blk off (v :: vs) = some h') :
    h'.cell? blk off = some v := by
  obtain ⟨bl, b', h1, h2, h3⟩ := Heap.write_block hw
  unfold Heap.cell?
  rw [h3]
  simp only [Option.bind_some]
  exact writeCells_head h2

theorem Heap.write_ext {h0 h h' : Heap} {blk off : Nat} {vs : List Val} (hw : h.write blk off vs = some h')
    (hge : h0.blocks.size ≤ blk) (he : HeapExt h0 h) : HeapExt h0 h' :=
  he.step (HeapStep.write (W := (· = blk)) hw rfl) (fun _ e => e ▸ hge)

theorem Heap.alloc_ext {h0 h : Heap} (vs : List Val) (he : HeapExt h0 h) : HeapExt h0 (h.alloc vs).1 :=
  he.step (HeapStep.alloc (fun _ => False) h vs) (fun _ e => e.elim)

/-! ## dispatch -/

section dispatch
variable {P : Program} {hp : Heap} {fr0 : Frame} {frs : List Frame} {i : Instr} {rest : List Instr}

theorem step_alloc_eq (hr : fr0.rest = i :: rest) {hf : Bool} {ek : VK} (hop : i.op = .alloc hf ek) :
    step P ⟨hp, fr0 :: frs⟩ = stepAlloc P hp (popI fr0 rest) frs i := by
  unfold step; simp only [hr, hop]

theorem step_indexAddr_eq (hr : fr0.rest = i :: rest) {xk : VK} {x ix : Opnd} (hop : i.op = .indexAddr xk x ix) :
    step P ⟨hp, fr0 :: frs⟩ = stepIndexAddr P hp (popI fr0 rest) frs i x ix := by
  unfold step; simp only [hr, hop]

theorem step_store_eq (hr : fr0.rest = i :: rest) {vk : VK} {a v : Opnd} (hop : i.op = .store vk a v) :
    step P ⟨hp, fr0 :: frs⟩ = stepStore P hp (popI fr0 rest) frs i a v := by
  unfold step; simp only [hr, hop]

theorem step_slice_eq (hr : fr0.rest = i :: rest) {xk : VK} {x : Opnd} {lo hi mx : Option Opnd} (hop : i.op = .slice xk x lo hi mx) :
    step P ⟨hp, fr0 :: frs⟩ = stepSlice P hp (popI fr0 rest) frs i x lo hi mx := by
  unfold step; simp only [hr, hop]

theorem step_call_eq (hr : fr0.rest = i :: rest) {c : Callee} {args : List Opnd} (hop : i.op = .call c args) :
    step P ⟨hp, fr0 :: frs⟩ = stepCall P hp (popI fr0 rest) frs i c args := by
  unfold step; simp only [hr, hop]

theorem step_load_eq (hr : fr0.rest = i :: rest) {x : Opnd} (hop : i.op = .load x) :
    step P ⟨hp, fr0 :: frs⟩ = stepLoad P hp (popI fr0 rest) frs i x := by
  unfold step; simp only [hr, hop]

theorem step_fieldAddr_eq (hr : fr0.rest = i :: rest) {x : Opnd} {fld : Nat} {nm : Nm} (hop : i.op = .fieldAddr x fld nm) :
    step P ⟨hp, fr0 :: frs⟩ = stepFieldAddr P hp (popI fr0 rest) frs i x fld := by
  unfold step; simp only [hr, hop]

theorem step_binop_eq (hr : fr0.rest = i :: rest) {op : BinOp} {xk : VK} {x y : Opnd} (hop : i.op = .binop op xk x y) :
    step P ⟨hp, fr0 :: frs⟩ = stepBinop P hp (popI fr0 rest) frs i op xk x y := by
  unfold step; simp only [hr, hop]

theorem step_makeInterface_eq (hr : fr0.rest = i :: rest) {x : Opnd} (hop : i.op = .makeInterface x) :
    step P ⟨hp, fr0 :: frs⟩ = stepMakeInterface P hp (popI fr0 rest) frs i x := by
  unfold step; simp only [hr, hop]

end dispatch

/-! ## outcomes -/

section outcomes
variable {P : Program} {hp : Heap} {fr : Frame} {frs : List Frame} {i : Instr}

theorem stepAlloc_cases (P : Program) (hp : Heap) (fr : Frame) (frs : List Frame) (i : Instr) :
    (∃ w, stepAlloc P hp fr frs i = .fault w) ∨
    ∃ e zs, P.tyOf i.ty = .ptr e ∧ P.zeros e = some zs ∧
      stepAlloc P hp fr frs i = contReg fr frs i.id [.ptr hp.blocks.size 0] (hp.alloc zs).1 [] := by
  unfold stepAlloc
  split
  · rename_i e he
    split
    · rename_i zs hz
      split
      · exact Or.inl ⟨_, rfl⟩
      · exact Or.inr ⟨e, zs, he, hz, rfl⟩
    · exact Or.inl ⟨_, rfl⟩
  · exact Or.inl ⟨_, rfl⟩

theorem checkIndex_some {w : Nat} {sg : Bool} {v len k : Nat} (h : checkIndex w sg v len = some k) (hv : v < 2 ^ (w - 1)) :
    k = v ∧ v < len := by
  unfold checkIndex at h
  have hi : asInt w sg v = (v : Int) := by
    unfold asInt toInt
    cases sg <;> simp [hv]
  simp only [hi] at h
  split at h
  · cases h
  · split at h
    · rename_i h2
      simp only [Option.some.injEq] at h
      simp only [Int.toNat_natCast] at h h2
      exact ⟨h.symm, h2⟩
    · cases h

/-- `IndexAddr` into an array through a pointer, with a constant index -/
theorem stepIndexAddr_arr {x ix : Opnd} {b o v aty len e sz : Nat}
    (hx : evalOpnd P fr (i.opTys.headD 0) x = some [.ptr b o])
    (hix : evalOpnd P fr (i.opTys.tail.headD 0) ix = some [.int v])
    (hty : P.tyOf (i.opTys.headD 0) = .ptr aty) (harr : P.tyOf aty = .arr len e) (hsz : P.size e = some sz) :
    (∃ w, stepIndexAddr P hp fr frs i x ix = .fault w) ∨
    (∃ s c evs, stepIndexAddr P hp fr frs i x ix = .panic s c evs) ∨
    (∃ w sg k, intOfTy P (i.opTys.tail.headD 0) = some (w, sg) ∧ checkIndex w sg v len = some k ∧
      stepIndexAddr P hp fr frs i x ix = contReg fr frs i.id [.ptr b (o + k * sz)] hp [ev fr K.index [.int v]]) := by
  unfold stepIndexAddr
  simp only [hx, hix]
  cases hio : intOfTy P (i.opTys.tail.headD 0) with
  | none => exact Or.inl ⟨_, rfl⟩
  | some ws =>
    obtain ⟨w, sg⟩ := ws
    simp only [hty, harr, hsz]
    cases hc : checkIndex w sg v len with
    | none => exact Or.inr (Or.inl ⟨_, _, _, rfl⟩)
    | some k => exact Or.inr (Or.inr ⟨w, sg, k, rfl, hc, rfl⟩)

theorem stepStore_ptr {a v : Opnd} {b o : Nat}
    (ha : evalOpnd P fr (i.opTys.headD 0) a = some [.ptr b o]) :
    (∃ w, stepStore P hp fr frs i a v = .fault w) ∨
    (∃ vs h, evalOpnd P fr (i.opTys.tail.headD 0) v = some vs ∧ hp.write b o vs = some h ∧
      stepStore P hp fr frs i a v = contNoReg fr frs h [ev fr EK.addr [.ptr b o, .int vs.length]]) := by
  unfold stepStore
  simp only [ha]
  cases hv : evalOpnd P fr (i.opTys.tail.headD 0) v with
  | none => exact Or.inl ⟨_, rfl⟩
  | some vs =>
    simp only
    cases hw : hp.write b o vs with
    | none => exact Or.inl ⟨_, rfl⟩
    | some h => exact Or.inr ⟨vs, h, rfl, hw, rfl⟩

/-- `a[:]` of an array through a pointer -/
theorem stepSlice_arr {x : Opnd} {b o aty n e sz : Nat}
    (hx : evalOpnd P fr (i.opTys.headD 0) x = some [.ptr b o])
    (hty : P.tyOf (i.opTys.headD 0) = .ptr aty) (harr : P.tyOf aty = .arr n e) (hsz : P.size e = some sz) :
    stepSlice P hp fr frs i x none none none = contReg fr frs i.id [.slice b o n n] hp [ev fr K.sliceBound []] := by
  unfold stepSlice
  simp only [hx, hty, harr, hsz, evalBound]
  simp

theorem stepCall_fn_cases (P : Program) (hp : Heap) (fr : Frame) (frs : List Frame) (i : Instr) (g : Nat) (cargs : List Opnd) :
    (∃ w, stepCall P hp fr frs i (.fn g) cargs = .fault w) ∨
    ∃ vs gf nf, evalOpnds P fr cargs i.opTys = some vs ∧ P.funcs[g]? = some gf ∧ mkFrame g gf vs (some i.id) = some nf ∧
      stepCall P hp fr frs i (.fn g) cargs = .cont ⟨hp, nf :: fr :: frs⟩ [ev fr EK.call [.fn g]] := by
  unfold stepCall
  cases hv : evalOpnds P fr cargs i.opTys with
  | none => exact Or.inl ⟨_, rfl⟩
  | some vs =>
    simp only
    cases hg : P.funcs[g]? with
    | none => exact Or.inl ⟨_, rfl⟩
    | some gf =>
      simp only
      cases hn : mkFrame g gf vs (some i.id) with
      | none => exact Or.inl ⟨_, rfl⟩
      | some nf => exact Or.inr ⟨vs, gf, nf, rfl, rfl, hn, rfl⟩

/-- the value of argument `k` of a call, when the operand is a parameter -/
theorem evalOpnds_param {fr : Frame} (os : List Opnd) (tys : List Nat) (vs : List RVal) (k jj : Nat)
    (h : evalOpnds P fr os tys = some vs) (hk : os[k]? = some (.param jj)) :
    vs[k]? = fr.params[jj]? ∧ (fr.params[jj]?).isSome := by
  obtain ⟨v, hv, he⟩ := (evalOpnds_spec P fr os tys vs h).2 k _ hk
  have he' : fr.params[jj]? = some v := he
  rw [hv, he']
  exact ⟨rfl, rfl⟩

end outcomes

/-! ## exact outcomes (all operands known) -/

section exact
variable {P : Program} {hp : Heap} {fr0 fr : Frame} {frs : List Frame} {i : Instr} {rest : List Instr}

theorem step_jump_eq (hr : fr0.rest = i :: rest) {t : Nat} (hop : i.op = .jump t) :
    step P ⟨hp, fr0 :: frs⟩ =
      (match jumpTo P (popI fr0 rest) t with
       | some fr' => .cont { heap := hp, stack := fr' :: frs } []
       | none => .fault "jump: target") := by
  unfold step; simp only [hr, hop]; rfl

theorem step_if_eq (hr : fr0.rest = i :: rest) {c : Opnd} {t e : Nat} (hop : i.op = .if c t e) {b : Bool}
    (hc : evalOpnd P (popI fr0 rest) (i.opTys.headD 0) c = some [.bool b]) :
    step P ⟨hp, fr0 :: frs⟩ =
      (match jumpTo P (popI fr0 rest) (if b then t else e) with
       | some fr' => .cont { heap := hp, stack := fr' :: frs } [ev (popI fr0 rest) K.branch [.bool b]]
       | none => .fault "if: target") := by
  unfold step; simp only [hr, hop, hc]; rfl

theorem step_panic_eq (hr : fr0.rest = i :: rest) {x : Opnd} (hop : i.op = .panic x) {v : Val}
    (hx : evalOpnd P (popI fr0 rest) (i.opTys.headD 0) x = some [v]) :
    step P ⟨hp, fr0 :: frs⟩ = .panic ⟨hp, popI fr0 rest :: frs⟩ v [ev (popI fr0 rest) EK.panic [v]] := by
  unfold step; simp only [hr, hop, hx]

theorem stepBuiltin_len (b o l c : Nat) :
    stepBuiltin hp fr frs i Ext.len [[.slice b o l c]] = contReg fr frs i.id [.int l] hp [] := by
  unfold stepBuiltin; simp

theorem stepBinop_add {x y : Opnd} {w : Nat} {sg : Bool} {a b : Nat}
    (hx : evalOpnd P fr (i.opTys.headD 0) x = some [.int a]) (hy : evalOpnd P fr (i.opTys.tail.headD 0) y = some [.int b]) :
    stepBinop P hp fr frs i .add (.int w sg) x y = contReg fr frs i.id [.int (wrap w (a + b))] hp [] := by
  unfold stepBinop; simp only [hx, hy, intBinop]

theorem stepBinop_lt {x y : Opnd} {w : Nat} {sg : Bool} {a b : Nat}
    (hx : evalOpnd P fr (i.opTys.headD 0) x = some [.int a]) (hy : evalOpnd P fr (i.opTys.tail.headD 0) y = some [.int b]) :
    stepBinop P hp fr frs i .lt (.int w sg) x y = contReg fr frs i.id [.bool (decide (asInt w sg a < asInt w sg b))] hp [] := by
  unfold stepBinop; simp only [hx, hy, intBinop]

theorem stepBinop_agg_eq {x y : Opnd} {h : Bool} {vx vy : RVal}
    (hx : evalOpnd P fr (i.opTys.headD 0) x = some vx) (hy : evalOpnd P fr (i.opTys.tail.headD 0) y = some vy) :
    stepBinop P hp fr frs i .eq (.agg h) x y =
      contReg fr frs i.id [.bool (decide (vx = vy))] hp [ev fr K.aggCompare [.bool (decide (vx = vy))]] := by
  unfold stepBinop; simp only [hx, hy]

theorem stepIndexAddr_slice {x ix : Opnd} {b o len cap v w k e sz : Nat} {sg : Bool}
    (hx : evalOpnd P fr (i.opTys.headD 0) x = some [.slice b o len cap])
    (hix : evalOpnd P fr (i.opTys.tail.headD 0) ix = some [.int v])
    (hio : intOfTy P (i.opTys.tail.headD 0) = some (w, sg))
    (hty : P.tyOf (i.opTys.headD 0) = .slice e) (hsz : P.size e = some sz) (hci : checkIndex w sg v len = some k) :
    stepIndexAddr P hp fr frs i x ix = contReg fr frs i.id [.ptr b (o + k * sz)] hp [ev fr K.index [.int v]] := by
  unfold stepIndexAddr; simp only [hx, hix, hio, hty, hsz, hci]

theorem stepLoad_ok {x : Opnd} {b o : Nat} {zs vs : List Val}
    (hx : evalOpnd P fr (i.opTys.headD 0) x = some [.ptr b o]) (hz : P.zeros i.ty = some zs)
    (hrd : hp.read b o zs.length = some vs) (hc : listEqClasses vs zs = true) :
    stepLoad P hp fr frs i x = contReg fr frs i.id vs hp [ev fr EK.addr [.ptr b o, .int zs.length]] := by
  unfold stepLoad; simp only [hx, hz, hrd, hc, if_true]

theorem stepFieldAddr_ok {x : Opnd} {fld b o st off sz : Nat} {fs : List Nat}
    (hx : evalOpnd P fr (i.opTys.headD 0) x = some [.ptr b o]) (hty : P.tyOf (i.opTys.headD 0) = .ptr st)
    (hst : P.tyOf st = .struct fs) (hfs : P.fieldSpan fs fld = some (off, sz)) :
    stepFieldAddr P hp fr frs i x fld = contReg fr frs i.id [.ptr b (o + off)] hp [] := by
  unfold stepFieldAddr; simp only [hx, hty, hst, hfs]

theorem stepMakeInterface_ok {x : Opnd} {v : Val}
    (hx : evalOpnd P fr (i.opTys.headD 0) x = some [v]) (hc : v.cls = .addr) :
    stepMakeInterface P hp fr frs i x = contReg fr frs i.id [v] hp [] := by
  unfold stepMakeInterface; simp only [hx, hc, if_true]

end exact

/-! ## reading known cells -/

theorem readCells_of (bl : Array Val) : ∀ (vs : List Val) (off : Nat),
    (∀ t (ht : t < vs.length), bl[off + t]? = some vs[t]) → readCells bl off vs.length = some vs := by
  intro vs
  induction vs with
  | nil => intro off _; rfl
  | cons v vs ih =>
    intro off h
    simp only [List.length_cons, readCells]
    have h0 := h 0 (by simp)
    simp only [Nat.add_zero, List.getElem_cons_zero] at h0
    rw [h0]
    have := ih (off + 1) (by
      intro t ht
      have := h (t + 1) (by simp; omega)
      simp only [List.getElem_cons_succ] at this
      rw [show off + 1 + t = off + (t + 1) by omega]; exact this)
    simp [this]

theorem Heap.read_of_cells {h : Heap} {b o : Nat} (vs : List Val) (hpos : 0 < vs.length)
    (hc : ∀ t (ht : t < vs.length), h.cell? b (o + t) = some vs[t]) : h.read b o vs.length = some vs := by
  have h0 := hc 0 hpos
  unfold Heap.cell? at h0
  cases hb : h.blocks[b]? with
  | none => rw [hb] at h0; simp at h0
  | some bl =>
    unfold Heap.read
    simp only [hb, Option.bind_eq_bind, Option.bind_some]
    apply readCells_of
    intro t ht
    have := hc t ht
    unfold Heap.cell? at this
    rw [hb] at this
    simpa using this

/-! ## safe for every fuel -/

def AllSafe (P : Program) (s : State) : Prop := ∀ n, Safe P n s

theorem AllSafe.of_fault {P : Program} {s : State} {w : String} (h : step P s = .fault w) : AllSafe P s :=
  fun n => Safe.of_fault h n

theorem AllSafe.of_panic {P : Program} {s s1 : State} {c : Val} {ev : List Event} (h : step P s = .panic s1 c ev) : AllSafe P s :=
  fun n => Safe.of_panic h n

theorem AllSafe.of_cont {P : Program} {s s1 : State} {ev : List Event} (h : step P s = .cont s1 ev) (h1 : AllSafe P s1) : AllSafe P s := by
  intro n
  cases n with
  | zero => exact Safe.zero _ _
  | succ n => exact Safe.of_cont h (h1 n)

/-! ## functions without stores and calls never change existing memory -/

/-- quiet, or a `Return` -/
def calm (i : Instr) : Bool :=
  quiet i || (match i.op with | .ret _ => true | _ => false)

theorem splitPhis_mem : ∀ (is : List Instr) (i : Instr), i ∈ (splitPhis is).2 → i ∈ is := by
  intro is
  induction is with
  | nil => intro i h; exact h
  | cons j js ih =>
    intro i h
    unfold splitPhis at h
    split at h
    · exact List.mem_cons_of_mem _ (ih i h)
    · exact h

theorem calm_heap {P : Program} {f : Func} {heap0 : Heap} (hcalm : ∀ bl ∈ f.blocks, ∀ i ∈ bl.instrs, calm i = true) :
    ∀ (n : Nat) (fr : Frame) (hp h' : Heap), fr.f = f → (∀ i ∈ fr.rest, calm i = true) → HeapExt heap0 hp →
      (run P n ⟨hp, [fr]⟩).heap? = some h' → HeapExt heap0 h' := by
  intro n
  induction n with
  | zero =>
    intro fr hp h' _ _ hext hrun
    simp only [run, Outcome.heap?, Option.some.injEq] at hrun
    subst hrun; exact hext
  | succ n ih =>
    intro fr hp h' hf hc hext hrun
    cases hrest : fr.rest with
    | nil =>
      simp only [run, step_nil_rest hrest, Outcome.heap?] at hrun
      cases hrun
    | cons i rest =>
      have hci := hc i (by rw [hrest]; simp)
      have hcr : ∀ j ∈ rest, calm j = true := fun j hj => hc j (by rw [hrest]; exact List.mem_cons_of_mem _ hj)
      by_cases hq : quiet i = true
      · have hs := quiet_step (P := P) (hp := hp) (frs := []) hrest hq
        generalize hst : step P ⟨hp, [fr]⟩ = r at hs
        cases hs with
        | fault w => simp only [run, hst, Outcome.heap?] at hrun; cases hrun
        | panic st c evs =>
          simp only [run, hst, Outcome.heap?, Option.some.injEq] at hrun
          subst hrun; exact hext
        | next fr' hp' evs h1 h2 h3 h4 h5 _ =>
          simp only [run, hst] at hrun
          exact ih fr' hp' h' (h1.trans hf) (by rw [h4]; exact hcr) (hext.trans h5) hrun
        | jump t tb fr' evs ht htb h1 h2 h3 h4 _ =>
          simp only [run, hst] at hrun
          refine ih fr' hp h' (h1.trans hf) ?_ hext hrun
          rw [h4]
          intro j hj
          rw [hf] at htb
          exact hcalm tb (List.mem_of_getElem? htb) j (splitPhis_mem _ _ hj)
      · have hret : ∃ vals, i.op = .ret vals := by
          unfold calm at hci
          simp only [hq, Bool.false_or] at hci
          split at hci
          · rename_i vals hop; exact ⟨vals, hop⟩
          · cases hci
        obtain ⟨vals, hop⟩ := hret
        have hst : step P ⟨hp, [fr]⟩ = stepRet P hp { fr with rest := rest } [] vals := step_ret hrest hop
        cases hv : evalOpnds P ({ fr with rest := rest } : Frame) vals ({ fr with rest := rest } : Frame).f.resultTys with
        | none =>
          rw [stepRet_none hv] at hst
          simp only [run, hst, Outcome.heap?] at hrun; cases hrun
        | some vs =>
          rw [stepRet_nil hv] at hst
          simp only [run, hst, Outcome.heap?, Option.some.injEq] at hrun
          subst hrun; exact hext

end EdVerif.Ssa.GS
