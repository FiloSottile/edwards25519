import EdVerif.Ssa.SemLemmas
/-!
# A callee that never finishes on its own never returns to its caller

`step` looks only at the top frame; the frames below are handed through, and the `dest` field of a frame is
read only when that frame returns to a caller.  Hence a run of a stack `top ++ rest` follows the run of `top`
alone (with another `dest` in its bottom frame) until `top` is exhausted: if the standalone run is never
`.done`, the lifted run never gets back into `rest`, in particular it is never `.done`.
-/
namespace EdVerif.Ssa.GS

open EdVerif.Ssa

@[reducible] def setDest (d : Option Nat) (fr : Frame) : Frame := { fr with dest := d }

section eval
variable {P : Program} {d : Option Nat} {fr : Frame}

@[simp] theorem evalOpnd_setDest (ty : Nat) (o : Opnd) : evalOpnd P (setDest d fr) ty o = evalOpnd P fr ty o := by
  cases o <;> rfl

@[simp] theorem evalOpnds_setDest : ∀ (os : List Opnd) (tys : List Nat), evalOpnds P (setDest d fr) os tys = evalOpnds P fr os tys := by
  intro os
  induction os with
  | nil => intro tys; rfl
  | cons o os ih => intro tys; simp only [evalOpnds, evalOpnd_setDest, ih]

@[simp] theorem evalBound_setDest (ty dflt : Nat) (o : Option Opnd) :
    evalBound P (setDest d fr) ty dflt o = evalBound P fr ty dflt o := by
  cases o with
  | none => rfl
  | some o => simp only [evalBound, evalOpnd_setDest]

@[simp] theorem evalPhis_setDest (pred : Nat) : ∀ (is : List Instr), evalPhis P (setDest d fr) pred is = evalPhis P fr pred is := by
  intro is
  induction is with
  | nil => rfl
  | cons i is ih =>
    simp only [evalPhis]
    split
    · simp only [evalOpnd_setDest, ih]
    · rfl

theorem jumpTo_setDest (t : Nat) : jumpTo P (setDest d fr) t = (jumpTo P fr t).map (setDest d) := by
  unfold jumpTo
  show (do
    let b ← fr.f.blocks[t]?
    let vals ← evalPhis P (setDest d fr) fr.blk (splitPhis b.instrs).1
    pure ({ setDest d fr with regs := assignAll fr.regs vals, blk := t, rest := (splitPhis b.instrs).2 } : Frame)) = _
  cases fr.f.blocks[t]? with
  | none => rfl
  | some b =>
    simp only [evalPhis_setDest, Option.bind_eq_bind, Option.bind_some]
    cases evalPhis P fr fr.blk (splitPhis b.instrs).1 with
    | none => rfl
    | some vals => rfl

end eval

/-- outcomes of one step of `fr :: frs` and of `setDest d fr :: frs'` -/
inductive StepRel (d0 d : Option Nat) (frs frs' : List Frame) : Step → Step → Prop
  | fault (w : String) : StepRel d0 d frs frs' (.fault w) (.fault w)
  | panic (s s' : State) (c c' : Val) (ev ev' : List Event) : StepRel d0 d frs frs' (.panic s c ev) (.panic s' c' ev')
  | cont (h : Heap) (x : Frame) (ev : List Event) : x.dest = d0 →
      StepRel d0 d frs frs' (.cont ⟨h, x :: frs⟩ ev) (.cont ⟨h, setDest d x :: frs'⟩ ev)
  | push (h : Heap) (nf x : Frame) (ev : List Event) : x.dest = d0 →
      StepRel d0 d frs frs' (.cont ⟨h, nf :: x :: frs⟩ ev) (.cont ⟨h, nf :: setDest d x :: frs'⟩ ev)

section helpers
variable {P : Program} {hp : Heap} {fr : Frame} {frs frs' : List Frame} {i : Instr} {d0 d : Option Nat}

theorem contReg_rel (hd : fr.dest = d0) (id : Nat) (v : RVal) (h : Heap) (evs : List Event) :
    StepRel d0 d frs frs' (contReg fr frs id v h evs) (contReg (setDest d fr) frs' id v h evs) :=
  StepRel.cont h { fr with regs := regSet fr.regs id v } evs hd

theorem contNoReg_rel (hd : fr.dest = d0) (h : Heap) (evs : List Event) :
    StepRel d0 d frs frs' (contNoReg fr frs h evs) (contNoReg (setDest d fr) frs' h evs) :=
  StepRel.cont h fr evs hd

macro "rel_leaves " hd:term : tactic =>
  `(tactic| all_goals first
      | exact StepRel.fault _
      | exact StepRel.panic _ _ _ _ _ _
      | exact contReg_rel $hd _ _ _ _
      | exact contNoReg_rel $hd _ _)

theorem stepAlloc_rel (hd : fr.dest = d0) :
    StepRel d0 d frs frs' (stepAlloc P hp fr frs i) (stepAlloc P hp (setDest d fr) frs' i) := by
  unfold stepAlloc
  repeat' split
  rel_leaves hd

theorem stepBinop_rel (hd : fr.dest = d0) (op : BinOp) (xk : VK) (x y : Opnd) :
    StepRel d0 d frs frs' (stepBinop P hp fr frs i op xk x y) (stepBinop P hp (setDest d fr) frs' i op xk x y) := by
  unfold stepBinop
  simp only [evalOpnd_setDest]
  repeat' split
  rel_leaves hd

theorem stepUnop_rel (hd : fr.dest = d0) (op : UnOp) (x : Opnd) :
    StepRel d0 d frs frs' (stepUnop P hp fr frs i op x) (stepUnop P hp (setDest d fr) frs' i op x) := by
  unfold stepUnop
  simp only [evalOpnd_setDest]
  repeat' split
  rel_leaves hd

theorem stepConvert_rel (hd : fr.dest = d0) (fk : VK) (x : Opnd) :
    StepRel d0 d frs frs' (stepConvert P hp fr frs i fk x) (stepConvert P hp (setDest d fr) frs' i fk x) := by
  unfold stepConvert
  simp only [evalOpnd_setDest]
  repeat' split
  rel_leaves hd

theorem stepLoad_rel (hd : fr.dest = d0) (x : Opnd) :
    StepRel d0 d frs frs' (stepLoad P hp fr frs i x) (stepLoad P hp (setDest d fr) frs' i x) := by
  unfold stepLoad
  simp only [evalOpnd_setDest]
  repeat' split
  rel_leaves hd

theorem stepStore_rel (hd : fr.dest = d0) (a v : Opnd) :
    StepRel d0 d frs frs' (stepStore P hp fr frs i a v) (stepStore P hp (setDest d fr) frs' i a v) := by
  unfold stepStore
  simp only [evalOpnd_setDest]
  repeat' split
  rel_leaves hd

theorem stepFieldAddr_rel (hd : fr.dest = d0) (x : Opnd) (fld : Nat) :
    StepRel d0 d frs frs' (stepFieldAddr P hp fr frs i x fld) (stepFieldAddr P hp (setDest d fr) frs' i x fld) := by
  unfold stepFieldAddr
  simp only [evalOpnd_setDest]
  repeat' split
  rel_leaves hd

theorem stepField_rel (hd : fr.dest = d0) (x : Opnd) (fld : Nat) :
    StepRel d0 d frs frs' (stepField P hp fr frs i x fld) (stepField P hp (setDest d fr) frs' i x fld) := by
  unfold stepField
  simp only [evalOpnd_setDest]
  repeat' split
  rel_leaves hd

theorem stepIndexAddr_rel (hd : fr.dest = d0) (x ix : Opnd) :
    StepRel d0 d frs frs' (stepIndexAddr P hp fr frs i x ix) (stepIndexAddr P hp (setDest d fr) frs' i x ix) := by
  unfold stepIndexAddr
  simp only [evalOpnd_setDest]
  repeat' split
  rel_leaves hd

theorem stepIndex_rel (hd : fr.dest = d0) (x ix : Opnd) :
    StepRel d0 d frs frs' (stepIndex P hp fr frs i x ix) (stepIndex P hp (setDest d fr) frs' i x ix) := by
  unfold stepIndex
  simp only [evalOpnd_setDest]
  repeat' split
  rel_leaves hd

theorem stepSlice_rel (hd : fr.dest = d0) (x : Opnd) (lo hi mx : Option Opnd) :
    StepRel d0 d frs frs' (stepSlice P hp fr frs i x lo hi mx) (stepSlice P hp (setDest d fr) frs' i x lo hi mx) := by
  unfold stepSlice
  simp only [evalOpnd_setDest, evalBound_setDest]
  repeat' split
  rel_leaves hd

theorem stepMakeSlice_rel (hd : fr.dest = d0) (l c : Opnd) :
    StepRel d0 d frs frs' (stepMakeSlice P hp fr frs i l c) (stepMakeSlice P hp (setDest d fr) frs' i l c) := by
  unfold stepMakeSlice
  simp only [evalOpnd_setDest]
  repeat' split
  rel_leaves hd

theorem stepSliceToArrayPointer_rel (hd : fr.dest = d0) (x : Opnd) :
    StepRel d0 d frs frs' (stepSliceToArrayPointer P hp fr frs i x) (stepSliceToArrayPointer P hp (setDest d fr) frs' i x) := by
  unfold stepSliceToArrayPointer
  simp only [evalOpnd_setDest]
  repeat' split
  rel_leaves hd

theorem stepMakeInterface_rel (hd : fr.dest = d0) (x : Opnd) :
    StepRel d0 d frs frs' (stepMakeInterface P hp fr frs i x) (stepMakeInterface P hp (setDest d fr) frs' i x) := by
  unfold stepMakeInterface
  simp only [evalOpnd_setDest]
  repeat' split
  rel_leaves hd

theorem stepBuiltin_rel (hd : fr.dest = d0) (name : Nm) (vs : List RVal) :
    StepRel d0 d frs frs' (stepBuiltin hp fr frs i name vs) (stepBuiltin hp (setDest d fr) frs' i name vs) := by
  unfold stepBuiltin
  repeat' first | split | dsimp only
  rel_leaves hd

theorem stepExtern_rel (hd : fr.dest = d0) (name : Nm) (vs : List RVal) :
    StepRel d0 d frs frs' (stepExtern P hp fr frs i name vs) (stepExtern P hp (setDest d fr) frs' i name vs) := by
  unfold stepExtern
  by_cases h1 : (name == Ext.mul64) = true
  · simp only [if_pos h1]; repeat' split
    rel_leaves hd
  simp only [if_neg h1]
  by_cases h2 : (name == Ext.add64) = true
  · simp only [if_pos h2]; repeat' split
    rel_leaves hd
  simp only [if_neg h2]
  by_cases h3 : (name == Ext.sub64) = true
  · simp only [if_pos h3]; repeat' split
    rel_leaves hd
  simp only [if_neg h3]
  by_cases h4 : (name == Ext.ctByteEq) = true
  · simp only [if_pos h4]; repeat' split
    rel_leaves hd
  simp only [if_neg h4]
  by_cases h5 : (name == Ext.ctCompare) = true
  · simp only [if_pos h5]; repeat' split
    rel_leaves hd
  simp only [if_neg h5]
  by_cases h6 : (name == Ext.leUint64) = true
  · simp only [if_pos h6]; repeat' split
    rel_leaves hd
  simp only [if_neg h6]
  by_cases h7 : (name == Ext.lePutUint64) = true
  · simp only [if_pos h7]; repeat' split
    rel_leaves hd
  simp only [if_neg h7]
  by_cases h8 : (name == Ext.errorsNew) = true
  · simp only [if_pos h8]; repeat' split
    rel_leaves hd
  simp only [if_neg h8]
  by_cases h9 : (name == Ext.onceDo) = true
  · simp only [if_pos h9]; repeat' split
    all_goals first
      | exact StepRel.fault _
      | exact contReg_rel hd _ _ _ _
      | exact StepRel.push _ _ { fr with regs := regSet fr.regs i.id [] } _ hd
  simp only [if_neg h9]
  repeat' split
  rel_leaves hd

theorem stepCall_rel (hd : fr.dest = d0) (callee : Callee) (args : List Opnd) :
    StepRel d0 d frs frs' (stepCall P hp fr frs i callee args) (stepCall P hp (setDest d fr) frs' i callee args) := by
  unfold stepCall
  simp only [evalOpnds_setDest]
  split
  · split
    · split
      · split
        · exact StepRel.push _ _ fr _ hd
        · exact StepRel.fault _
      · exact StepRel.fault _
    · exact stepExtern_rel hd _ _
    · exact stepBuiltin_rel hd _ _
    · exact StepRel.fault _
    · exact StepRel.fault _
  · exact StepRel.fault _

theorem jumpCont_rel (hd : fr.dest = d0) (t : Nat) (evs : List Event) (w : String) :
    StepRel d0 d frs frs'
      (match jumpTo P fr t with
       | some fr' => .cont { heap := hp, stack := fr' :: frs } evs
       | none => .fault w)
      (match jumpTo P (setDest d fr) t with
       | some fr' => .cont { heap := hp, stack := fr' :: frs' } evs
       | none => .fault w) := by
  rw [jumpTo_setDest (P := P) (d := d) (fr := fr) t]
  cases hj : jumpTo P fr t with
  | none => exact StepRel.fault _
  | some fr' =>
    obtain ⟨_, _, _, _, rfl⟩ := jumpTo_eq_some hj
    exact StepRel.cont _ _ _ hd

theorem stepIf_rel (hd : fr.dest = d0) (ty : Nat) (c : Opnd) (t el : Nat) :
    StepRel d0 d frs frs'
      (match evalOpnd P fr ty c with
       | some [.bool b] =>
         match jumpTo P fr (if b then t else el) with
         | some fr' => .cont { heap := hp, stack := fr' :: frs } [ev fr K.branch [.bool b]]
         | none => .fault "if: target"
       | _ => .fault "if: condition")
      (match evalOpnd P (setDest d fr) ty c with
       | some [.bool b] =>
         match jumpTo P (setDest d fr) (if b then t else el) with
         | some fr' => .cont { heap := hp, stack := fr' :: frs' } [ev (setDest d fr) K.branch [.bool b]]
         | none => .fault "if: target"
       | _ => .fault "if: condition") := by
  simp only [evalOpnd_setDest]
  split
  · exact jumpCont_rel hd _ _ _
  · exact StepRel.fault _

theorem stepChangeType_rel (hd : fr.dest = d0) (ty : Nat) (x : Opnd) :
    StepRel d0 d frs frs'
      (match evalOpnd P fr ty x with
       | some v => contReg fr frs i.id v hp []
       | none => .fault "changeType")
      (match evalOpnd P (setDest d fr) ty x with
       | some v => contReg (setDest d fr) frs' i.id v hp []
       | none => .fault "changeType") := by
  simp only [evalOpnd_setDest]
  split
  · exact contReg_rel hd _ _ _ _
  · exact StepRel.fault _

theorem stepPanic_rel (ty : Nat) (x : Opnd) :
    StepRel d0 d frs frs'
      (match evalOpnd P fr ty x with
       | some [v] => .panic ⟨hp, fr :: frs⟩ v [ev fr EK.panic [v]]
       | _ => .fault "panic: operand")
      (match evalOpnd P (setDest d fr) ty x with
       | some [v] => .panic ⟨hp, setDest d fr :: frs'⟩ v [ev (setDest d fr) EK.panic [v]]
       | _ => .fault "panic: operand") := by
  simp only [evalOpnd_setDest]
  split
  · exact StepRel.panic _ _ _ _ _ _
  · exact StepRel.fault _

end helpers

/-- one step of a non-returning instruction -/
theorem step_rel {P : Program} {hp : Heap} {fr0 : Frame} {frs frs' : List Frame} {d : Option Nat}
    {i : Instr} {rest : List Instr} (hr : fr0.rest = i :: rest) (hnr : ∀ vals, i.op ≠ .ret vals) :
    StepRel fr0.dest d frs frs' (step P ⟨hp, fr0 :: frs⟩) (step P ⟨hp, setDest d fr0 :: frs'⟩) := by
  have hd : ({ fr0 with rest := rest } : Frame).dest = fr0.dest := rfl
  unfold step
  simp only [hr]
  cases hop : i.op with
  | alloc hpf ek => exact stepAlloc_rel hd
  | binop op xk x y => exact stepBinop_rel hd _ _ _ _
  | unop op x => exact stepUnop_rel hd _ _
  | load x => exact stepLoad_rel hd _
  | call callee args => exact stepCall_rel hd _ _
  | changeType x => exact stepChangeType_rel hd _ _
  | convert fk x => exact stepConvert_rel hd _ _
  | sliceToArrayPointer x => exact stepSliceToArrayPointer_rel hd _
  | extract x idx => exact stepField_rel hd _ _
  | fieldAddr x f fname => exact stepFieldAddr_rel hd _ _
  | field x f fname => exact stepField_rel hd _ _
  | indexAddr xk x ix => exact stepIndexAddr_rel hd _ _
  | index x ix => exact stepIndex_rel hd _ _
  | lookup x ix => exact StepRel.fault _
  | slice xk x lo hi mx => exact stepSlice_rel hd _ _ _ _
  | makeSlice l c => exact stepMakeSlice_rel hd _ _
  | makeClosure fn bs => exact StepRel.fault _
  | makeInterface x => exact stepMakeInterface_rel hd _
  | phi es => exact StepRel.fault _
  | store vk a v => exact stepStore_rel hd _ _
  | «if» c t e => exact stepIf_rel hd _ _ _ _
  | jump t => exact jumpCont_rel hd _ _ _
  | ret vals => exact absurd hop (hnr vals)
  | panic x => exact stepPanic_rel _ _
  | unsupported w os => exact StepRel.fault _

/-! ## runs -/

theorem step_nil_rest {P : Program} {hp : Heap} {fr0 : Frame} {frs : List Frame} (hr : fr0.rest = []) :
    step P ⟨hp, fr0 :: frs⟩ = .fault "fell off a block" := by
  unfold step
  simp only [hr]

theorem step_ret {P : Program} {hp : Heap} {fr0 : Frame} {frs : List Frame} {i : Instr} {rest : List Instr} {vals : List Opnd}
    (hr : fr0.rest = i :: rest) (hop : i.op = .ret vals) :
    step P ⟨hp, fr0 :: frs⟩ = stepRet P hp { fr0 with rest := rest } frs vals := by
  unfold step
  simp only [hr, hop]

theorem run_succ_cont {P : Program} {s s1 : State} {ev : List Event} (h : step P s = .cont s1 ev) (n : Nat) :
    run P (n + 1) s = run P n s1 := by
  simp only [run, h]

/-- the caller's frame after a callee with destination `dest` returned `vs` -/
def retInto (caller : Frame) (dest : Option Nat) (vs : List RVal) : Frame :=
  match dest with
  | some id => { caller with regs := regSet caller.regs id (retValue vs) }
  | none => caller

theorem stepRet_none {P : Program} {hp : Heap} {fr : Frame} {frs : List Frame} {vals : List Opnd}
    (h : evalOpnds P fr vals fr.f.resultTys = none) : stepRet P hp fr frs vals = .fault "return: operands" := by
  unfold stepRet; simp only [h]

theorem stepRet_nil {P : Program} {hp : Heap} {fr : Frame} {vals : List Opnd} {vs : List RVal}
    (h : evalOpnds P fr vals fr.f.resultTys = some vs) :
    stepRet P hp fr [] vals = .done { heap := hp, stack := [] } vs [ev fr EK.ret []] := by
  unfold stepRet; simp only [h]

theorem stepRet_cons {P : Program} {hp : Heap} {fr caller : Frame} {tl : List Frame} {vals : List Opnd} {vs : List RVal}
    (h : evalOpnds P fr vals fr.f.resultTys = some vs) :
    stepRet P hp fr (caller :: tl) vals = .cont { heap := hp, stack := retInto caller fr.dest vs :: tl } [ev fr EK.ret []] := by
  unfold stepRet; simp only [h, retInto]
  cases fr.dest <;> rfl

theorem retInto_setDest (c : Frame) (d dd : Option Nat) (vs : List RVal) :
    retInto (setDest d c) dd vs = setDest d (retInto c dd vs) := by
  cases dd <;> rfl

/-- the stack `s0` with another `dest` in its bottom frame, on top of `rest` -/
inductive StackRel (d : Option Nat) (rest : List Frame) : List Frame → List Frame → Prop
  | base (x : Frame) : StackRel d rest [x] (setDest d x :: rest)
  | cons (y : Frame) {s s' : List Frame} : StackRel d rest s s' → StackRel d rest (y :: s) (y :: s')

theorem setDest_self {x : Frame} {d : Option Nat} (h : x.dest = d) : setDest d x = x := by
  cases x; simp only [setDest] at *; subst h; rfl

/-- **lifting**: if the run of `s0` is never `.done` within `n` steps, neither is the run of `s0` (with another
    `dest` at the bottom) on top of `rest` -/
theorem lift_run {P : Program} {d : Option Nat} {rest : List Frame} :
    ∀ (n : Nat) (s0 s1 : List Frame) (hp : Heap), StackRel d rest s0 s1 →
      (∀ m, m ≤ n → ∀ s' r, run P m ⟨hp, s0⟩ ≠ .done s' r) → ∀ s' r, run P n ⟨hp, s1⟩ ≠ .done s' r := by
  intro n
  induction n with
  | zero => intro s0 s1 hp _ _ s' r h; simp [run] at h
  | succ n ih =>
    intro s0 s1 hp hrel hsafe s' r hrun
    -- what a related pair of `cont` outcomes gives
    have next : ∀ (t0 t1 : List Frame) (h : Heap) (ev ev' : List Event), StackRel d rest t0 t1 →
        step P ⟨hp, s0⟩ = .cont ⟨h, t0⟩ ev → step P ⟨hp, s1⟩ = .cont ⟨h, t1⟩ ev' → False := by
      intro t0 t1 h ev ev' hr2 h0 h1
      rw [run_succ_cont h1] at hrun
      refine ih t0 t1 h hr2 ?_ s' r hrun
      intro m hm s'' r'' hm2
      rw [← run_succ_cont h0] at hm2
      exact hsafe (m + 1) (by omega) s'' r'' hm2
    have nofault : ∀ w, step P ⟨hp, s1⟩ = .fault w → False := by
      intro w h1
      simp [run, h1] at hrun
    cases hrel with
    | base x =>
      cases hxr : x.rest with
      | nil => exact nofault _ (step_nil_rest (fr0 := setDest d x) hxr)
      | cons i is =>
        by_cases hret : ∃ vals, i.op = .ret vals
        · obtain ⟨vals, hop⟩ := hret
          have h0 : step P ⟨hp, [x]⟩ = stepRet P hp { x with rest := is } [] vals := step_ret hxr hop
          have h1 : step P ⟨hp, setDest d x :: rest⟩ = stepRet P hp (setDest d { x with rest := is }) rest vals :=
            step_ret (fr0 := setDest d x) hxr hop
          cases hv : evalOpnds P ({ x with rest := is } : Frame) vals ({ x with rest := is } : Frame).f.resultTys with
          | none =>
            have hv1 : evalOpnds P (setDest d { x with rest := is }) vals (setDest d { x with rest := is }).f.resultTys = none := by
              rw [evalOpnds_setDest]; exact hv
            rw [stepRet_none hv1] at h1
            exact nofault _ h1
          | some vs =>
            rw [stepRet_nil hv] at h0
            exact hsafe 1 (by omega) { heap := hp, stack := [] } vs (by simp only [run, h0])
        · have hnr : ∀ vals, i.op ≠ .ret vals := fun vals h => hret ⟨vals, h⟩
          have hsr := step_rel (P := P) (hp := hp) (frs := []) (frs' := rest) (d := d) hxr hnr
          generalize h0 : step P ⟨hp, [x]⟩ = r0 at hsr
          generalize h1 : step P ⟨hp, setDest d x :: rest⟩ = r1 at hsr
          cases hsr with
          | fault w => exact nofault _ h1
          | panic => simp [run, h1] at hrun
          | cont h y ev hy => exact next [y] _ h ev ev (.base y) h0 h1
          | push h nf y ev hy => exact next [nf, y] _ h ev ev (.cons nf (.base y)) h0 h1
    | cons y hs =>
      rename_i s s'
      cases hyr : y.rest with
      | nil => exact nofault _ (step_nil_rest hyr)
      | cons i is =>
        by_cases hret : ∃ vals, i.op = .ret vals
        · obtain ⟨vals, hop⟩ := hret
          have h0 : step P ⟨hp, y :: s⟩ = stepRet P hp { y with rest := is } s vals := step_ret hyr hop
          have h1 : step P ⟨hp, y :: s'⟩ = stepRet P hp { y with rest := is } s' vals := step_ret hyr hop
          cases hv : evalOpnds P ({ y with rest := is } : Frame) vals ({ y with rest := is } : Frame).f.resultTys with
          | none =>
            rw [stepRet_none hv] at h1
            exact nofault _ h1
          | some vs =>
            cases hs with
            | base x =>
              rw [stepRet_cons hv] at h0 h1
              rw [retInto_setDest] at h1
              exact next [_] _ hp _ _ (.base _) h0 h1
            | cons z ht =>
              rw [stepRet_cons hv] at h0 h1
              exact next (_ :: _) _ hp _ _ (.cons _ ht) h0 h1
        · have hnr : ∀ vals, i.op ≠ .ret vals := fun vals h => hret ⟨vals, h⟩
          have hsr := step_rel (P := P) (hp := hp) (frs := s) (frs' := s') (d := y.dest) hyr hnr
          have ey : setDest y.dest y = y := setDest_self rfl
          rw [ey] at hsr
          generalize h0 : step P ⟨hp, y :: s⟩ = r0 at hsr
          generalize h1 : step P ⟨hp, y :: s'⟩ = r1 at hsr
          cases hsr with
          | fault w => exact nofault _ h1
          | panic => simp [run, h1] at hrun
          | cont h x ev hx =>
            rw [setDest_self hx] at h1
            exact next (x :: s) _ h ev ev (.cons x hs) h0 h1
          | push h nf x ev hx =>
            rw [setDest_self hx] at h1
            exact next (nf :: x :: s) _ h ev ev (.cons nf (.cons x hs)) h0 h1

/-- fuel-indexed "never returns normally" -/
def Safe (P : Program) (n : Nat) (s : State) : Prop := ∀ s' r, run P n s ≠ .done s' r

theorem Safe.zero (P : Program) (s : State) : Safe P 0 s := by intro s' r h; simp [run] at h

theorem Safe.of_fault {P : Program} {s : State} {w : String} (h : step P s = .fault w) (n : Nat) : Safe P n s := by
  intro s' r hr
  cases n with
  | zero => simp [run] at hr
  | succ n => simp [run, h] at hr

theorem Safe.of_panic {P : Program} {s s1 : State} {c : Val} {ev : List Event} (h : step P s = .panic s1 c ev) (n : Nat) : Safe P n s := by
  intro s' r hr
  cases n with
  | zero => simp [run] at hr
  | succ n => simp [run, h] at hr

theorem Safe.of_cont {P : Program} {s s1 : State} {ev : List Event} (h : step P s = .cont s1 ev) {n : Nat}
    (h1 : Safe P n s1) : Safe P (n + 1) s := by
  intro s' r hr
  rw [run_succ_cont h] at hr
  exact h1 s' r hr

/-- a call of `g`: if the callee alone is safe for `n` steps, so is the stack with the callee on top -/
theorem lift_call {P : Program} {hp : Heap} {g : Nat} {gf : Func} {vs : List RVal} {id : Nat} {nf : Frame} {rest : List Frame}
    (hgf : P.funcs[g]? = some gf) (hnf : mkFrame g gf vs (some id) = some nf) :
    ∃ s0, callState P hp g vs = some s0 ∧
      ∀ n, (∀ m, m ≤ n → Safe P m s0) → Safe P n ⟨hp, nf :: rest⟩ := by
  obtain ⟨b, hb, rfl⟩ := mkFrame_eq_some hnf
  refine ⟨⟨hp, [{ fi := g, f := gf, regs := #[], params := vs.toArray, blk := 0, rest := b.instrs, dest := none }]⟩, ?_, ?_⟩
  · unfold callState mkFrame
    simp [hgf, hb]
  · intro n hsafe
    exact lift_run (d := some id) (rest := rest) n _ _ hp
      (StackRel.base { fi := g, f := gf, regs := #[], params := vs.toArray, blk := 0, rest := b.instrs, dest := none }) hsafe

end EdVerif.Ssa.GS
