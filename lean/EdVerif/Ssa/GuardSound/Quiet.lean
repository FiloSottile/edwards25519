import EdVerif.Ssa.ErrSound.Graph
import EdVerif.Ssa.GuardSpec
import EdVerif.Ssa.GuardSound.Lift
import EdVerif.Ssa.GuardSound.Reach
/-!
# Before the site: quiet instructions, the block graph

A *quiet* instruction keeps the frame alone on the stack, keeps every block of the heap that exists, and
does not return.  The region `avoiding f B` is closed under the successor lists up to `B`.
-/
namespace EdVerif.Ssa.GS

open EdVerif.Ssa EdVerif.Ssa.PS EdVerif.Ssa.ES EdVerif.Ssa.GuardSide

/-! ## heaps that only grew -/

/-- every block of `h` is still there, unchanged -/
def HeapExt (h h' : Heap) : Prop :=
  h.blocks.size ≤ h'.blocks.size ∧ ∀ b, b < h.blocks.size → h'.blocks[b]? = h.blocks[b]?

theorem HeapExt.refl (h : Heap) : HeapExt h h := ⟨Nat.le_refl _, fun _ _ => rfl⟩

theorem HeapExt.trans {a b c : Heap} (h1 : HeapExt a b) (h2 : HeapExt b c) : HeapExt a c :=
  ⟨Nat.le_trans h1.1 h2.1, fun k hk => (h2.2 k (Nat.lt_of_lt_of_le hk h1.1)).trans (h1.2 k hk)⟩

/-- a step that writes only blocks that did not exist in `h0` -/
theorem HeapExt.step {W : Nat → Prop} {h0 hp hp' : Heap} (he : HeapExt h0 hp) (h : HeapStep W hp hp')
    (hW : ∀ b, W b → h0.blocks.size ≤ b) : HeapExt h0 hp' :=
  ⟨Nat.le_trans he.1 h.1, fun b hb =>
    (h.2 b (Nat.lt_of_lt_of_le hb he.1) (fun hw => Nat.not_lt.2 (hW b hw) hb)).trans (he.2 b hb)⟩

theorem HeapExt.of_heapStep {W : Nat → Prop} {hp hp' : Heap} (h : HeapStep W hp hp') (hW : ∀ b, ¬ W b) : HeapExt hp hp' :=
  (HeapExt.refl hp).step h (fun b hb => absurd hb (hW b))

theorem cell_lt {h : Heap} {b o : Nat} {v : Val} (hc : h.cell? b o = some v) : b < h.blocks.size := by
  unfold Heap.cell? at hc
  rcases Nat.lt_or_ge b h.blocks.size with h' | h'
  · exact h'
  · rw [Array.getElem?_eq_none h'] at hc; simp at hc

theorem HeapExt.cell {h h' : Heap} (he : HeapExt h h') {b o : Nat} {v : Val} (hc : h.cell? b o = some v) :
    h'.cell? b o = some v := by
  have hb := cell_lt hc
  unfold Heap.cell? at hc ⊢
  rw [he.2 b hb]; exact hc

theorem HeapExt.uninit {h h' : Heap} (he : HeapExt h h') {b o : Nat} (hu : UninitAt h b o) : UninitAt h' b o :=
  fun k hk => he.cell (hu k hk)

theorem HeapExt.argUninit {h h' : Heap} (he : HeapExt h h') {a : RVal} (hu : ArgUninit h a) : ArgUninit h' a := by
  unfold ArgUninit at hu ⊢
  split
  · rename_i b o
    simp only at hu
    exact he.uninit hu
  · rename_i b o len cap
    simp only at hu
    obtain ⟨hl, i, pb, po, hi, hc, hu'⟩ := hu
    exact ⟨hl, i, pb, po, hi, he.cell hc, he.uninit hu'⟩
  · rename_i h1 h2
    split at hu
    · exact absurd rfl (h1 _ _)
    · exact absurd rfl (h2 _ _ _ _)
    · exact hu

/-! ## one quiet step -/

theorem quiet_noWAddr {P : Program} {i : Instr} (hq : quiet i = true) (fr : Frame) (b : Nat) : ¬ WAddr P fr i b := by
  unfold WAddr
  unfold quiet at hq
  cases hop : i.op with
  | store vk a v => simp [hop] at hq
  | call callee args =>
    cases callee with
    | builtin n =>
      simp only [hop] at hq ⊢
      rintro ⟨hn, _⟩
      subst hn
      revert hq
      decide
    | fn g => simp [hop] at hq
    | extern n => simp [hop] at hq
    | dynamic v => simp [hop] at hq
    | invoke v m => simp [hop] at hq
  | _ => simp

/-- outcome of a quiet instruction `i` of the frame `fr0` (rest `i :: rest`) alone on the stack `frs` -/
inductive QStep (P : Program) (hp : Heap) (fr0 : Frame) (frs : List Frame) (i : Instr) (rest : List Instr) : Step → Prop
  | fault (w : String) : QStep P hp fr0 frs i rest (.fault w)
  | panic (st : List Frame) (c : Val) (evs : List Event) : QStep P hp fr0 frs i rest (.panic ⟨hp, st⟩ c evs)
  | next (fr' : Frame) (hp' : Heap) (evs : List Event) : fr'.f = fr0.f → fr'.params = fr0.params → fr'.blk = fr0.blk →
      fr'.rest = rest → HeapExt hp hp' → (∀ k v, k ≠ i.id → fr0.regs[k]? = some v → fr'.regs[k]? = some v) →
      QStep P hp fr0 frs i rest (.cont ⟨hp', fr' :: frs⟩ evs)
  | jump (t : Nat) (tb : Block) (fr' : Frame) (evs : List Event) : JumpTarget i.op t → fr0.f.blocks[t]? = some tb →
      fr'.f = fr0.f → fr'.params = fr0.params → fr'.blk = t → fr'.rest = (splitPhis tb.instrs).2 →
      jumpTo P (popI fr0 rest) t = some fr' →
      QStep P hp fr0 frs i rest (.cont ⟨hp, fr' :: frs⟩ evs)

theorem quiet_step {P : Program} {hp : Heap} {fr0 : Frame} {frs : List Frame} {i : Instr} {rest : List Instr}
    (hr : fr0.rest = i :: rest) (hq : quiet i = true) : QStep P hp fr0 frs i rest (step P ⟨hp, fr0 :: frs⟩) := by
  have hs := step_shape (P := P) (hp := hp) (frs := frs) hr
  generalize step P ⟨hp, fr0 :: frs⟩ = r at hs
  have hW := quiet_noWAddr (P := P) hq (popI fr0 rest)
  cases hs with
  | fault w => exact .fault w
  | panic c evs => exact .panic _ c evs
  | reg v hp' evs _ hh _ _ =>
    refine .next { popI fr0 rest with regs := regSet (popI fr0 rest).regs i.id v } hp' evs rfl rfl rfl rfl (HeapExt.of_heapStep hh hW) ?_
    intro k w hk hw
    exact regSet_other hk hw
  | noreg hp' evs hh _ => exact .next (popI fr0 rest) hp' evs rfl rfl rfl rfl (HeapExt.of_heapStep hh hW) (fun _ _ _ h => h)
  | jump t fr' evs ht hj =>
    obtain ⟨tb, vals, hb, _, e⟩ := jumpTo_eq_some hj
    subst e
    exact .jump t tb _ evs ht hb rfl rfl rfl rfl hj
  | call g gf cargs vs nf evs hop _ _ _ => simp [quiet, hop] at hq
  | once b o g gf nf hp' args evs hop _ _ _ _ => simp [quiet, hop] at hq
  | ret vals vs hop _ => simp [quiet, hop] at hq

theorem jumpTarget_isCtl {op : Op} {t : Nat} (h : JumpTarget op t) : isCtl op = true := by
  cases op <;> simp [JumpTarget] at h <;> rfl

theorem jumpTarget_mem {op : Op} {t : Nat} {succs : List Nat} (h : JumpTarget op t) (hs : targetsIn succs op = true) : t ∈ succs := by
  cases op <;> simp [JumpTarget] at h
  · rename_i c t1 e1
    simp only [targetsIn, Bool.and_eq_true] at hs
    rcases h with h | h
    · subst h; exact (memNat_iff _ _).1 hs.1
    · subst h; exact (memNat_iff _ _).1 hs.2
  · subst h
    simp only [targetsIn] at hs
    exact (memNat_iff _ _).1 hs

/-! ## the block graph: `avoiding f B` is closed under the successor lists, up to `B` -/

theorem succMasks_get : ∀ (bs : List Block) (j : Nat) (bl : Block), bs[j]? = some bl →
    (succMasks bs)[j]? = some (listMask bl.succs 0) := by
  intro bs
  induction bs with
  | nil => intro j bl h; simp at h
  | cons b bs ih =>
    intro j bl h
    cases j with
    | zero => simp at h; subst h; simp [succMasks]
    | succ j => simp at h; simpa [succMasks] using ih j bl h

theorem regionQuiet_get (A : Nat) : ∀ (bs : List Block) (b0 j : Nat) (bl : Block), regionQuiet A bs b0 = true →
    bs[j]? = some bl → A.testBit (b0 + j) = true → allQuiet bl.succs bl.instrs = true := by
  intro bs
  induction bs with
  | nil => intro b0 j bl _ h; simp at h
  | cons c cs ih =>
    intro b0 j bl h hj hA
    simp only [regionQuiet, Bool.and_eq_true, Bool.or_eq_true, Bool.not_eq_true'] at h
    cases j with
    | zero =>
      simp at hj; subst hj
      rcases h.1 with h1 | h1
      · simp only [Nat.add_zero] at hA; rw [hA] at h1; cases h1
      · exact h1
    | succ j =>
      simp at hj
      exact ih (b0 + 1) j bl h.2 hj (by rw [show b0 + 1 + j = b0 + (j + 1) by omega]; exact hA)

/-- what `regionOk` says for `B ≠ 0` -/
structure Region (f : Func) (B : Nat) : Prop where
  entry : (avoiding f B).testBit 0 = true
  closed : ∀ b bl t, f.blocks[b]? = some bl → (avoiding f B).testBit b = true → t ∈ bl.succs →
    (avoiding f B).testBit t = true ∨ t = B
  quiet : ∀ b bl, f.blocks[b]? = some bl → (avoiding f B).testBit b = true → allQuiet bl.succs bl.instrs = true

theorem region_of_ok {f : Func} {B : Nat} (h : regionOk f B = true) (hB : B ≠ 0) : Region f B := by
  unfold regionOk at h
  rw [forceNat_eq] at h
  simp only [Bool.or_eq_true, beq_iff_eq] at h
  rcases h with h | h3
  · exact absurd h hB
  · refine ⟨avoiding_entry hB, ?_, ?_⟩
    · intro b bl t hb hA ht
      have := closed_of_fix (avoiding_fix hB) (succMasks_get f.blocks b bl hb) hA
        ((testBit_listMask bl.succs 0 t).2 (Or.inr ht))
      rcases this with h | h
      · exact Or.inl h
      · right
        rw [testBit_one_shl] at h
        exact (of_decide_eq_true h).symm
    · intro b bl hb hA
      exact regionQuiet_get _ f.blocks 0 b bl h3 hb (by simpa using hA)

/-! ## leading phis -/

theorem splitPhis_allQuiet (succs : List Nat) : ∀ (is : List Instr), allQuiet succs is = true →
    allQuiet succs (splitPhis is).2 = true := by
  intro is
  induction is with
  | nil => intro h; exact h
  | cons i is ih =>
    intro h
    simp only [allQuiet, Bool.and_eq_true] at h
    unfold splitPhis
    split
    · exact ih h.2
    · simp only [allQuiet, Bool.and_eq_true]; exact h

theorem splitPhis_preSite (P : Program) (pol : GuardPolicy) (gi j : Nat) (p : Param) : ∀ (is : List Instr),
    preSite P pol gi j p is = true → preSite P pol gi j p (splitPhis is).2 = true := by
  intro is
  induction is with
  | nil => intro h; exact h
  | cons i is ih =>
    intro h
    unfold splitPhis
    split
    · rename_i es hop
      simp only [preSite, siteStart, hop, Bool.false_or, Bool.and_eq_true] at h
      exact ih h.2
    · exact h

end EdVerif.Ssa.GS
