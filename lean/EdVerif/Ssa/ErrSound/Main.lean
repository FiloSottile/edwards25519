import EdVerif.Ssa.ErrSound.ErrStep
/-!
# Soundness of the error-path checker: `ErrorAtomicStatement`
-/
namespace EdVerif.Ssa.ES

open EdVerif.Ssa EdVerif.Ssa.PS

variable {P : Program} {H : List FuncHints} {pol : ErrorPathPolicy}

theorem err_step (F : Facts P H) (X : XFacts P H) (hok : errorPathsOkSimple P H pol = true) {bot : PS.Callee} {D : Desig}
    (SF : SetterFacts P H pol D.fi D.f D.h) {s : State} {ms : List Nat}
    (hinv : SInv P H bot s ms) (hx : XStack P H s.stack) (hE : ErrInv P H pol D s ms) :
    ErrGoal P H pol bot D ms (step P s) := by
  obtain ⟨above, sf, msAbove, E⟩ := hE
  obtain ⟨hp, stack⟩ := s
  have hst : stack = above ++ sf :: D.below := E.stack
  have hms : ms = msAbove ++ D.h0.blocks.size :: D.msBelow := E.marks
  subst hst; subst hms
  cases above with
  | nil =>
    have : msAbove = [] := List.eq_nil_of_length_eq_zero E.len
    subst this
    exact err_step_top F X hok SF hinv hx E
  | cons tf above' =>
    cases msAbove with
    | nil => have := E.len; simp at this
    | cons mt msAbove' => exact err_step_above F X SF hinv hx E

/-- what is known when the designated frame has returned `vs` (heap `hp1`) -/
def ConclBelow (P : Program) (H : List FuncHints) (bot : PS.Callee) (D : Desig) (n : Nat) (s' : State) (rets : List RVal)
    (hp1 : Heap) (vs : List RVal) : List Frame → Prop
  | [] => s'.heap = hp1 ∧ rets = vs
  | caller :: brest => ∃ j, j < n ∧ run P j ⟨hp1, retInto caller D.dest vs :: brest⟩ = .done s' rets ∧
      SInv P H bot ⟨hp1, retInto caller D.dest vs :: brest⟩ D.msBelow ∧ XStack P H (retInto caller D.dest vs :: brest)

def Concl (P : Program) (H : List FuncHints) (bot : PS.Callee) (D : Desig) (n : Nat) (s' : State) (rets : List RVal) : Prop :=
  ∃ hp1 vs, ResProp P D vs hp1 ∧ D.h0.blocks.size ≤ hp1.blocks.size ∧ ConclBelow P H bot D n s' rets hp1 vs D.below

theorem ConclBelow.mono {bot : PS.Callee} {D : Desig} {n n' : Nat} (hn : n ≤ n') {s' : State} {rets : List RVal} {hp1 : Heap} {vs : List RVal} :
    ∀ {l : List Frame}, ConclBelow P H bot D n s' rets hp1 vs l → ConclBelow P H bot D n' s' rets hp1 vs l := by
  intro l h
  cases l with
  | nil => exact h
  | cons c r =>
    obtain ⟨j, hj, h1, h2, h3⟩ := h
    exact ⟨j, by omega, h1, h2, h3⟩

theorem Concl.mono {bot : PS.Callee} {D : Desig} {n n' : Nat} (hn : n ≤ n') {s' : State} {rets : List RVal}
    (h : Concl P H bot D n s' rets) : Concl P H bot D n' s' rets := by
  obtain ⟨hp1, vs, h1, h2, h3⟩ := h
  exact ⟨hp1, vs, h1, h2, h3.mono hn⟩

/-- the run from a state in which a setter frame is designated, to the return of that frame -/
theorem run_err (F : Facts P H) (X : XFacts P H) (hok : errorPathsOkSimple P H pol = true) {bot : PS.Callee} :
    ∀ (n : Nat) (s : State) (ms : List Nat) (D : Desig), SetterFacts P H pol D.fi D.f D.h →
      SInv P H bot s ms → XStack P H s.stack → ErrInv P H pol D s ms →
      ∀ s' rets, run P n s = .done s' rets → Concl P H bot D n s' rets := by
  intro n
  induction n using Nat.strongRecOn with
  | _ n ih =>
    intro s ms D SF hinv hx hE s' rets hrun
    cases n with
    | zero => simp [run] at hrun
    | succ n =>
      have hg := err_step F X hok SF hinv hx hE
      unfold run at hrun
      cases hs : step P s with
      | cont s1 ev =>
        rw [hs] at hg hrun
        simp only at hrun
        obtain ⟨ms1, hinv1, hx1, hcase⟩ := hg
        rcases hcase with hE1 | ⟨caller, brest, vs, hbelow, hstack, hms1, hres, hsz⟩ | ⟨D', sf', DG⟩
        · exact (ih n (Nat.lt_succ_self n) s1 ms1 D SF hinv1 hx1 hE1 s' rets hrun).mono (Nat.le_succ n)
        · refine ⟨s1.heap, vs, hres, hsz, ?_⟩
          rw [hbelow]
          obtain ⟨hp1, st1⟩ := s1
          simp only at hstack
          subst hstack
          subst hms1
          exact ⟨n, Nat.lt_succ_self n, hrun, hinv1, hx1⟩
        · have hc := ih n (Nat.lt_succ_self n) s1 ms1 D' DG.setter hinv1 hx1 DG.inv s' rets hrun
          obtain ⟨hp1, vs, hres, hsz, hb⟩ := hc
          rw [DG.below] at hb
          obtain ⟨j, hj, hrun2, hinv2, hx2⟩ := hb
          rw [DG.msb] at hinv2
          have hE2 := DG.resume hp1 vs hres hsz
          exact (ih j (by omega) _ ms D SF hinv2 hx2 hE2 s' rets hrun2).mono (by omega)
      | done s1 rets1 ev =>
        rw [hs] at hg hrun
        simp only [Outcome.done.injEq] at hrun
        obtain ⟨e1, e2⟩ := hrun
        subst e1; subst e2
        obtain ⟨hbelow, hres, hsz⟩ := hg
        refine ⟨s1.heap, rets1, hres, hsz, ?_⟩
        rw [hbelow]
        exact ⟨rfl, rfl⟩
      | panic s1 c ev => rw [hs] at hrun; simp at hrun
      | fault w => rw [hs] at hrun; simp at hrun

end EdVerif.Ssa.ES

namespace EdVerif.Ssa

open EdVerif.Ssa.PS EdVerif.Ssa.ES

/-- **C14**, soundness of `errorPathsSelector` (+ side conditions) w.r.t. the execution semantics -/
theorem error_atomic_sound : ErrorAtomicStatement := by
  intro prog hints pol hprov herr fi f hf hset heap args s hargs hs fuel s' rets hrun
  have F := facts_of_ok hprov
  have X : XFacts prog hints := by
    simp only [errorPathsOkSimple, Bool.and_eq_true] at herr
    exact xfacts_of_ok herr.2
  obtain ⟨h, SF⟩ := setterFacts_of_ok herr hf hset
  obtain ⟨h', hh', _, hinv⟩ := init_inv F hf hargs hs
  have : h' = h := by rw [SF.hh] at hh'; cases hh'; rfl
  subst this
  -- the initial state
  obtain ⟨_, hmk, rfl⟩ := callState_eq_some hf hs
  obtain ⟨b0, hb0, rfl⟩ := mkFrame_eq_some hmk
  have hx : XStack prog hints [{ fi := fi, f := f, regs := #[], params := args.toArray, blk := 0, rest := b0.instrs, dest := none }] := by
    refine ⟨?_, ?_, trivial⟩
    · intro _ _ id v hv; simp at hv
    · intro fr hfr; simp at hfr
  have hE : ErrInv prog hints pol ⟨fi, f, h', args.toArray, none, heap, [], []⟩
      ⟨heap, [{ fi := fi, f := f, regs := #[], params := args.toArray, blk := 0, rest := b0.instrs, dest := none }]⟩
      [heap.blocks.size] := by
    refine ⟨[], _, [],
      { stack := rfl, marks := rfl, len := rfl, fi := rfl, f := rfl, params := rfl, dest := rfl, size := Nat.le_refl _,
        path := ?_, npf := by intro _ k fr m hk; simp at hk, pend := by intro c hc; simp at hc }⟩
    intro bl' pre' hb' hi'
    obtain rfl : bl' = b0 := Option.some.inj (hb'.symm.trans hb0)
    have e2 : pre' = [] := by
      have h1 : bl'.instrs = pre' ++ bl'.instrs := hi'
      exact List.append_left_eq_self.1 h1.symm
    subst e2
    refine ⟨fun _ => Unch.refl _, fun d _ _ => ⟨fun _ => Unch.refl _, ?_⟩⟩
    intro ci hci; cases hci
  obtain ⟨hp1, vs, ⟨r0, rest, hvs, hdr, _⟩, _, hb⟩ :=
    run_err F X herr fuel _ _ ⟨fi, f, h', args.toArray, none, heap, [], []⟩ SF hinv hx hE s' rets hrun
  obtain ⟨e1, e2⟩ := hb
  subst e1; subst e2
  refine ⟨r0, rest, hvs, ?_⟩
  rcases hdr with ⟨hnil, hun⟩ | hp0
  · exact Or.inl ⟨hnil, hun⟩
  · right
    have h0 : args[0]? = some r0 := by simpa using hp0
    cases args with
    | nil => simp at h0
    | cons a0 as => simp at h0; exact ⟨a0, as, rfl, h0.symm⟩

end EdVerif.Ssa
