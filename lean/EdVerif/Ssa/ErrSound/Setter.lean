import EdVerif.Ssa.ErrSound.Exact
/-!
# What `errorPathsOkSimple` says about one setter of the policy
-/
namespace EdVerif.Ssa.ES

open EdVerif.Ssa EdVerif.Ssa.PS

/-- blocks from which an error return is reachable (as the checker computes them) -/
def errBackOf (c : PCtx) (pol : ErrorPathPolicy) : Nat :=
  reach (predMasks c.f.blocks) 0 (scanReturns c pol c.f.blocks 0 (0, [])).1

/-- per delegated return: blocks from which it is reachable, id of the delegating call -/
def delBackOf (c : PCtx) (pol : ErrorPathPolicy) : List (Nat × Nat) :=
  (scanReturns c pol c.f.blocks 0 (0, [])).2.map fun d => (reach (predMasks c.f.blocks) 0 (1 <<< d.1), d.2)

structure SetterFacts (P : Program) (H : List FuncHints) (pol : ErrorPathPolicy) (fi : Nat) (f : Func) (h : FuncHints) : Prop where
  hf : P.funcs[fi]? = some f
  hh : H[fi]? = some h
  inputW : Prov.subset (h.writes &&& Prov.paramMask) (Prov.param 0) = true
  recv : paramProv f.params 0 = Prov.param 0
  res0 : ∃ n, P.size (f.resultTys.headD 0) = some n ∧ 1 ≤ n
  einstr : ∀ b n i, InstrAt f b n i →
    eInstr (pc P H f h) pol (errBackOf (pc P H f h) pol) (delBackOf (pc P H f h) pol) b i = []
  sinstr : ∀ b n i, InstrAt f b n i → ErrSide.sInstr (pc P H f h) pol b n i = []

theorem setterFacts_of_ok {P : Program} {H : List FuncHints} {pol : ErrorPathPolicy}
    (hok : errorPathsOkSimple P H pol = true) {fi : Nat} {f : Func} (hf : P.funcs[fi]? = some f)
    (hset : pol.setters.any (· == f.name) = true) : ∃ h, SetterFacts P H pol fi f h := by
  simp only [errorPathsOkSimple, Bool.and_eq_true] at hok
  obtain ⟨⟨h1, h2⟩, _⟩ := hok
  obtain ⟨h, hh, hc1⟩ := allClean_fn h1 hf
  obtain ⟨c1, e1⟩ := hc1 _ (if_pos hset)
  obtain ⟨c2, e2⟩ := allClean_at h2 hf hh (if_pos hset)
  have k2 := ite_nil c2
  simp only [Bool.and_eq_true] at k2
  obtain ⟨k21, k22⟩ := k2
  refine ⟨h, ⟨hf, hh, ite_nil c1, by simpa using k21, ?_, e1, e2⟩⟩
  cases hs : P.size (f.resultTys.headD 0) with
  | none => rw [hs] at k22; cases k22
  | some n => rw [hs] at k22; exact ⟨n, rfl, of_decide_eq_true k22⟩

/-! ## the per-instruction conditions, unpacked -/

theorem sInstr_spec' {c : PCtx} {pol : ErrorPathPolicy} {b n : Nat} {i : Instr} (h : ErrSide.sInstr c pol b n i = []) :
    ∃ bl, c.f.blocks[b]? = some bl ∧
      (i.op.isTerminator = true → n + 1 = bl.instrs.length) ∧
      (∀ t, JumpTarget i.op t → ErrSide.predOk c.f b t = true) ∧
      (∀ v0 vs, i.op = .ret (v0 :: vs) → ErrSide.nilOk v0 = true ∧ ErrSide.delOk c pol n i v0 = true) := by
  unfold ErrSide.sInstr at h
  cases hb : c.f.blocks[b]? with
  | none => simp [hb] at h
  | some bl =>
    simp only [hb] at h
    have hc := ite_nil h
    simp only [Bool.and_eq_true, Bool.or_eq_true, Bool.not_eq_true', beq_iff_eq] at hc
    obtain ⟨ht, hm⟩ := hc
    refine ⟨bl, rfl, ?_, ?_, ?_⟩
    · intro hterm
      rcases ht with h1 | h1
      · rw [hterm] at h1; cases h1
      · exact h1
    · intro t hj
      cases hop : i.op <;> simp only [hop, JumpTarget, Bool.and_eq_true] at hj hm
      · rcases hj with e | e <;> subst e
        · exact hm.1
        · exact hm.2
      · subst hj; exact hm
    · intro v0 vs hop
      simp only [hop, Bool.and_eq_true] at hm
      exact hm

theorem any_false_mem {α} {p : α → Bool} {l : List α} (h : l.any p = false) : ∀ x ∈ l, p x = false := by
  intro x hx
  cases hp : p x with
  | false => rfl
  | true =>
    have : l.any p = true := List.any_eq_true.2 ⟨x, hx, hp⟩
    rw [h] at this; cases this

theorem eInstr_spec {c : PCtx} {pol : ErrorPathPolicy} {errBack : Nat} {delBack : List (Nat × Nat)} {b : Nat} {i : Instr}
    (h : eInstr c pol errBack delBack b i = []) :
    (∀ vals, i.op = .ret vals → ∃ v0 vs, vals = v0 :: vs ∧
      (classifyRet c pol v0 = .error ∨ classifyRet c pol v0 = .success ∨ ∃ cid, classifyRet c pol v0 = .delegated cid)) ∧
    (touchesRecv c i = true → errBack.testBit b = false ∧ ∀ d ∈ delBack, d.1.testBit b = true → d.2 = i.id) := by
  unfold eInstr at h
  simp only [List.append_eq_nil_iff] at h
  obtain ⟨h1, h2⟩ := h
  constructor
  · intro vals hop
    simp only [hop] at h1
    cases vals with
    | nil => simp at h1
    | cons v0 vs =>
      refine ⟨v0, vs, rfl, ?_⟩
      simp only at h1
      cases hc : classifyRet c pol v0 with
      | error => exact Or.inl rfl
      | success => exact Or.inr (Or.inl rfl)
      | delegated cid => exact Or.inr (Or.inr ⟨cid, rfl⟩)
      | bad => simp [hc] at h1
  · intro ht
    by_cases hcond : (touchesRecv c i && (errBack.testBit b || delBack.any (fun d => d.2 != i.id && d.1.testBit b))) = true
    · rw [if_pos hcond] at h2; cases h2
    have hc := hcond
    simp only [ht, Bool.true_and, Bool.or_eq_true, not_or, Bool.not_eq_true] at hc
    refine ⟨hc.1, ?_⟩
    intro d hd hbit
    have := any_false_mem hc.2 d hd
    simp only [hbit, Bool.and_true, bne_eq_false_iff_eq] at this
    exact this

/-! ## `classifyRet` -/

theorem isSetterCall_spec {c : PCtx} {pol : ErrorPathPolicy} {ci : Instr} (h : isSetterCallOnRecv c pol ci = true) :
    ∃ g rest gf, ci.op = .call (.fn g) (.param 0 :: rest) ∧ c.prog.funcs[g]? = some gf ∧ pol.setters.any (· == gf.name) = true := by
  unfold isSetterCallOnRecv at h
  split at h
  · rename_i g rest hop
    split at h
    · rename_i gf hgf
      exact ⟨g, rest, gf, hop, hgf, h⟩
    · cases h
  · cases h

theorem classifyRet_error {c : PCtx} {pol : ErrorPathPolicy} {v0 : Opnd} (h : classifyRet c pol v0 = .error) : ∃ k, v0 = .nil k := by
  unfold classifyRet at h
  split at h
  · exact ⟨_, rfl⟩
  · cases h
  · repeat' split at h
    all_goals cases h
  · cases h

theorem classifyRet_success {c : PCtx} {pol : ErrorPathPolicy} {v0 : Opnd} (h : classifyRet c pol v0 = .success) :
    v0 = .param 0 ∨ ∃ r, v0 = .reg r ∧ c.lab v0 = Prov.param 0 := by
  unfold classifyRet at h
  split at h
  · cases h
  · exact Or.inl rfl
  · rename_i r
    split at h
    · rename_i hl
      exact Or.inr ⟨r, rfl, by simpa using hl⟩
    · repeat' split at h
      all_goals cases h
  · cases h

theorem classifyRet_delegated {c : PCtx} {pol : ErrorPathPolicy} {v0 : Opnd} {cid : Nat} (h : classifyRet c pol v0 = .delegated cid) :
    ∃ r ir ci, v0 = .reg r ∧ c.f.instrs[r]? = some ir ∧ ir.op = .extract (.reg cid) 0 ∧
      c.f.instrs[cid]? = some ci ∧ isSetterCallOnRecv c pol ci = true := by
  unfold classifyRet at h
  split at h
  · cases h
  · cases h
  · rename_i r
    split at h
    · cases h
    · split at h
      · rename_i ir hir
        split at h
        · rename_i cid' hop
          split at h
          · rename_i ci hci
            split at h
            · rename_i hs
              cases h
              exact ⟨r, ir, ci, rfl, hir, hop, hci, hs⟩
            · cases h
          · cases h
        · cases h
      · cases h
  · cases h

/-! ## derived facts -/

section derived
variable {P : Program} {H : List FuncHints} {pol : ErrorPathPolicy} {fi : Nat} {f : Func} {h : FuncHints}

theorem getLast_of_split {α} {l pre rest : List α} {i : α} (h : l = pre ++ i :: rest) (hlen : pre.length + 1 = l.length) :
    rest = [] ∧ l.getLast? = some i := by
  have : rest.length = 0 := by
    have := congrArg List.length h
    simp at this; omega
  have hr : rest = [] := List.eq_nil_of_length_eq_zero this
  subst hr
  exact ⟨rfl, by rw [h]; simp⟩

/-- `If`/`Jump` edges: the checker's sets are closed backwards along them -/
theorem SetterFacts.closedE (SF : SetterFacts P H pol fi f h) {b n : Nat} {i : Instr} (hat : InstrAt f b n i)
    {t : Nat} (hj : JumpTarget i.op t) (ht : t < f.blocks.length)
    (hS : (errBackOf (pc P H f h) pol).testBit t = true) : (errBackOf (pc P H f h) pol).testBit b = true := by
  obtain ⟨_, _, _, hjmp, _⟩ := sInstr_spec' (SF.sinstr b n i hat)
  exact predClosed (reach_fix _ 0 _ (fun _ _ => Nat.zero_testBit _)) (hjmp t hj) ht hS

theorem SetterFacts.closedD (SF : SetterFacts P H pol fi f h) {b n : Nat} {i : Instr} (hat : InstrAt f b n i)
    {t : Nat} (hj : JumpTarget i.op t) (ht : t < f.blocks.length)
    {d : Nat × Nat} (hd : d ∈ delBackOf (pc P H f h) pol) (hS : d.1.testBit t = true) : d.1.testBit b = true := by
  obtain ⟨_, _, _, hjmp, _⟩ := sInstr_spec' (SF.sinstr b n i hat)
  unfold delBackOf at hd
  obtain ⟨e, _, hde⟩ := List.mem_map.1 hd
  subst hde
  exact predClosed (reach_fix _ 0 _ (fun _ _ => Nat.zero_testBit _)) (hjmp t hj) ht hS

/-- a terminator is the last instruction of its block -/
theorem SetterFacts.termLast (SF : SetterFacts P H pol fi f h) {b : Nat} {bl : Block} {pre rest : List Instr} {i : Instr}
    (hb : f.blocks[b]? = some bl) (hi : bl.instrs = pre ++ i :: rest) (hterm : i.op.isTerminator = true) :
    rest = [] ∧ bl.instrs.getLast? = some i := by
  obtain ⟨bl', hb', hlast, _, _⟩ := sInstr_spec' (SF.sinstr b pre.length i (instrAt_of_split hb hi))
  obtain rfl : bl' = bl := Option.some.inj (hb'.symm.trans hb)
  exact getLast_of_split hi (hlast hterm)

theorem SetterFacts.errSeed (_SF : SetterFacts P H pol fi f h) {b : Nat} {bl : Block} {i : Instr} {v0 : Opnd} {vs : List Opnd}
    (hb : f.blocks[b]? = some bl) (hl : bl.instrs.getLast? = some i) (hop : i.op = .ret (v0 :: vs))
    (hc : classifyRet (pc P H f h) pol v0 = .error) : (errBackOf (pc P H f h) pol).testBit b = true := by
  obtain ⟨_, _, h3, _⟩ := scanReturns_spec (pc P H f h) pol f.blocks 0 (0, [])
  have := (h3 b bl i v0 vs hb hl hop).1 hc
  rw [Nat.zero_add] at this
  exact reach_ge _ _ _ this

theorem SetterFacts.delSeed (_SF : SetterFacts P H pol fi f h) {b : Nat} {bl : Block} {i : Instr} {v0 : Opnd} {vs : List Opnd}
    (hb : f.blocks[b]? = some bl) (hl : bl.instrs.getLast? = some i) (hop : i.op = .ret (v0 :: vs))
    {cid : Nat} (hc : classifyRet (pc P H f h) pol v0 = .delegated cid) :
    ∃ d ∈ delBackOf (pc P H f h) pol, d.2 = cid ∧ d.1.testBit b = true := by
  obtain ⟨_, _, h3, _⟩ := scanReturns_spec (pc P H f h) pol f.blocks 0 (0, [])
  have := (h3 b bl i v0 vs hb hl hop).2 cid hc
  rw [Nat.zero_add] at this
  refine ⟨(reach (predMasks f.blocks) 0 (1 <<< b), cid), ?_, rfl, ?_⟩
  · unfold delBackOf
    exact List.mem_map.2 ⟨(b, cid), this, rfl⟩
  · exact reach_ge _ _ _ (by simp)

/-- where a delegated return comes from: its block `bd` holds, in this order, the delegating call (a call
    of a setter of the policy on the receiver), the `Extract #0` of its result, and ends in the `Return` -/
theorem SetterFacts.delSite (SF : SetterFacts P H pol fi f h) (F : Facts P H) {d : Nat × Nat}
    (hd : d ∈ delBackOf (pc P H f h) pol) :
    ∃ bd bl n kc ci, f.blocks[bd]? = some bl ∧ bl.instrs.length = n + 1 ∧ kc < n ∧ bl.instrs[kc]? = some ci ∧ ci.id = d.2 ∧
      d.1 = reach (predMasks f.blocks) 0 (1 <<< bd) ∧
      (∃ iret vals, bl.instrs[n]? = some iret ∧ iret.op = .ret vals) ∧
      ∃ g rest gf, ci.op = .call (.fn g) (.param 0 :: rest) ∧ P.funcs[g]? = some gf ∧ pol.setters.any (· == gf.name) = true := by
  unfold delBackOf at hd
  obtain ⟨e, he, hde⟩ := List.mem_map.1 hd
  obtain ⟨_, _, _, h4⟩ := scanReturns_spec (pc P H f h) pol f.blocks 0 (0, [])
  rcases h4 e he with hnil | ⟨bd, bl, i, v0, vs, hb, he1, hl, hop, hc⟩
  · cases hnil
  · rw [Nat.zero_add] at he1
    subst hde
    -- the return is the last instruction
    obtain ⟨init, hinit⟩ : ∃ init, bl.instrs = init ++ [i] := by
      cases hbi : bl.instrs.reverse with
      | nil =>
        have : bl.instrs = [] := by simpa using hbi
        rw [this] at hl; cases hl
      | cons x xs =>
        have h1 : bl.instrs = xs.reverse ++ [x] := by
          have := congrArg List.reverse hbi
          simpa using this
        rw [h1] at hl
        simp at hl
        subst hl
        exact ⟨_, h1⟩
    have hat : InstrAt f bd init.length i := ⟨bl, hb, by rw [hinit]; simp⟩
    have hid := (sInstr_spec (F.side fi f h SF.hf SF.hh bd init.length i hat)).id
    obtain ⟨_, _, _, _, hret⟩ := sInstr_spec' (SF.sinstr bd init.length i hat)
    have hdel := (hret v0 vs hop).2
    obtain ⟨r, ir, ci, hv0, _, _, hci, hset⟩ := classifyRet_delegated hc
    subst hv0
    unfold ErrSide.delOk at hdel
    simp only [hc, Bool.and_eq_true, decide_eq_true_eq] at hdel
    obtain ⟨⟨hd1, hd2⟩, hd3⟩ := hdel
    -- the call sits at position `kc` of this block
    have hlen : bl.instrs.length = init.length + 1 := by rw [hinit]; simp
    have hkc : e.2 - (blockOffsets f.blocks 0).getD bd 0 < init.length := by omega
    have hkc' : e.2 - (blockOffsets f.blocks 0).getD bd 0 < bl.instrs.length := by omega
    have hget := List.getElem?_eq_getElem hkc'
    have hatc : InstrAt f bd (e.2 - (blockOffsets f.blocks 0).getD bd 0) bl.instrs[e.2 - (blockOffsets f.blocks 0).getD bd 0] :=
      ⟨bl, hb, hget⟩
    have hidc := (sInstr_spec (F.side fi f h SF.hf SF.hh bd _ _ hatc)).id
    have hcid : bl.instrs[e.2 - (blockOffsets f.blocks 0).getD bd 0].id = e.2 := by rw [hidc]; omega
    have hself := instrs_at hatc hidc
    rw [hcid] at hself
    have hcieq : ci = bl.instrs[e.2 - (blockOffsets f.blocks 0).getD bd 0] := Option.some.inj (hci.symm.trans hself)
    refine ⟨bd, bl, init.length, _, _, hb, hlen, hkc, hget, hcid, by rw [he1], ?_, ?_⟩
    · exact ⟨i, _, by rw [hinit]; simp, hop⟩
    · rw [← hcieq]
      exact isSetterCall_spec hset

end derived

end EdVerif.Ssa.ES
