import EdVerif.Ssa.ErrSound.Setter
/-!
# The error-path invariant for one designated setter frame

`Desig` fixes a frame of a setter of the policy somewhere on the stack (the frames `below` it never
change while it lives) and the heap `h0` at its entry.  `ErrInv` says: as long as the frame sits in a
block from which an error return is reachable, no block that existed at entry (and is not a
package-level variable) has changed; for a delegated return the same holds until the delegating call,
and afterwards the call's first result is known (`Phase2`).
-/
namespace EdVerif.Ssa.ES

open EdVerif.Ssa EdVerif.Ssa.PS

structure Desig where
  fi : Nat
  f : Func
  h : FuncHints
  /-- the arguments the frame was entered with -/
  params : Array RVal
  dest : Option Nat
  /-- heap at entry -/
  h0 : Heap
  below : List Frame
  msBelow : List Nat

section defs
variable (P : Program) (H : List FuncHints) (pol : ErrorPathPolicy)

def Unch (D : Desig) (hp : Heap) : Prop := AllUnchanged P D.h0 hp

/-- blocks that must not change on an error path -/
def Prot (D : Desig) (b : Nat) : Prop := b < D.h0.blocks.size ∧ isGlobalBlock P b = false

/-- the first result `w0` of the setter (or of the setter it delegated to) -/
def DelRes (D : Desig) (w0 : RVal) (hp : Heap) : Prop := (w0 = [.nil] ∧ Unch P D hp) ∨ D.params[0]? = some w0

def Res0Sized (f : Func) (cid : Nat) (w0 : RVal) : Prop :=
  ∀ ic g cargs gf t, f.instrs[cid]? = some ic → ic.op = .call (.fn g) cargs → P.funcs[g]? = some gf →
    gf.resultTys[0]? = some t → Sized P t w0

/-- after the delegating call `cid` returned -/
def Phase2 (D : Desig) (regs : Array RVal) (pre : List Instr) (hp : Heap) (cid : Nat) : Prop :=
  ∃ w0 wrest, regs[cid]? = some (w0 ++ wrest) ∧ Res0Sized P D.f cid w0 ∧ DelRes P D w0 hp ∧
    ∀ j ∈ pre, j.op = .extract (.reg cid) 0 → cid < j.id → regs[j.id]? = some w0

def PathInv (D : Desig) (blk : Nat) (regs : Array RVal) (pre : List Instr) (hp : Heap) : Prop :=
  ((errBackOf (pc P H D.f D.h) pol).testBit blk = true → Unch P D hp) ∧
  ∀ d ∈ delBackOf (pc P H D.f D.h) pol, d.1.testBit blk = true →
    ((¬ ∃ ci ∈ pre, ci.id = d.2) → Unch P D hp) ∧ (∀ ci ∈ pre, ci.id = d.2 → Phase2 P D regs pre hp d.2)

def Relevant (D : Desig) (blk : Nat) : Prop :=
  (errBackOf (pc P H D.f D.h) pol).testBit blk = true ∨ ∃ d ∈ delBackOf (pc P H D.f D.h) pol, d.1.testBit blk = true

/-- frame `fr` (mark `m`) cannot store into a protected block -/
def NPF (D : Desig) (fr : Frame) (m : Nat) : Prop :=
  ∀ h, H[fr.fi]? = some h → ∀ b, Writable P h fr m b → ¬ Prot P D b

structure EI (D : Desig) (s : State) (ms : List Nat) (above : List Frame) (sf : Frame) (msAbove : List Nat) : Prop where
  stack : s.stack = above ++ sf :: D.below
  marks : ms = msAbove ++ D.h0.blocks.size :: D.msBelow
  len : msAbove.length = above.length
  fi : sf.fi = D.fi
  f : sf.f = D.f
  params : sf.params = D.params
  dest : sf.dest = D.dest
  size : D.h0.blocks.size ≤ s.heap.blocks.size
  path : ∀ bl pre, D.f.blocks[sf.blk]? = some bl → bl.instrs = pre ++ sf.rest → PathInv P H pol D sf.blk sf.regs pre s.heap
  npf : Relevant P H pol D sf.blk → ∀ (k : Nat) fr m, above[k]? = some fr → msAbove[k]? = some m → NPF P H D fr m
  pend : ∀ c, above.getLast? = some c → ∀ dd, c.dest = some dd →
    ∀ d ∈ delBackOf (pc P H D.f D.h) pol, d.1.testBit sf.blk = true → dd ≠ d.2

def ErrInv (D : Desig) (s : State) (ms : List Nat) : Prop := ∃ above sf msAbove, EI P H pol D s ms above sf msAbove

/-- what the designated frame returns -/
def ResProp (D : Desig) (vs : List RVal) (hp : Heap) : Prop :=
  ∃ r0 rest, vs = r0 :: rest ∧ DelRes P D r0 hp ∧ ∀ t, D.f.resultTys[0]? = some t → Sized P t r0

end defs

section lemmas
variable {P : Program} {H : List FuncHints} {pol : ErrorPathPolicy}

theorem Unch.refl (D : Desig) : Unch P D D.h0 := fun _ _ _ => rfl

theorem Unch.step {D : Desig} {hp hp' : Heap} {W : Nat → Prop} (hu : Unch P D hp) (hs : HeapStep W hp hp')
    (hW : ∀ b, W b → ¬ Prot P D b) (hsz : D.h0.blocks.size ≤ hp.blocks.size) : Unch P D hp' := by
  intro b hb hg
  exact (hs.2 b (by omega) (fun hw => hW b hw ⟨hb, hg⟩)).trans (hu b hb hg)

theorem Unch.trans {D : Desig} {hp hp' : Heap} (hu : Unch P D hp) (hs : AllUnchanged P hp hp')
    (hsz : D.h0.blocks.size ≤ hp.blocks.size) : Unch P D hp' := by
  intro b hb hg
  exact (hs b (by omega) hg).trans (hu b hb hg)

theorem DelRes.heap {D : Desig} {w0 : RVal} {hp hp' : Heap} (h : DelRes P D w0 hp) (hu : Unch P D hp → Unch P D hp') :
    DelRes P D w0 hp' := by
  rcases h with ⟨h1, h2⟩ | h
  · exact Or.inl ⟨h1, hu h2⟩
  · exact Or.inr h

theorem Phase2.heap {D : Desig} {regs : Array RVal} {pre : List Instr} {hp hp' : Heap} {cid : Nat}
    (h : Phase2 P D regs pre hp cid) (hu : Unch P D hp → Unch P D hp') : Phase2 P D regs pre hp' cid := by
  obtain ⟨w0, wrest, h1, h2, h3, h4⟩ := h
  exact ⟨w0, wrest, h1, h2, h3.heap hu, h4⟩

/-- the heap may change as long as `Unch` survives wherever the frame's block is relevant -/
theorem PathInv.heap {D : Desig} {blk : Nat} {regs : Array RVal} {pre : List Instr} {hp hp' : Heap}
    (h : PathInv P H pol D blk regs pre hp) (hu : Relevant P H pol D blk → Unch P D hp → Unch P D hp') :
    PathInv P H pol D blk regs pre hp' := by
  refine ⟨fun hb => hu (Or.inl hb) (h.1 hb), ?_⟩
  intro d hd hb
  have hr : Relevant P H pol D blk := Or.inr ⟨d, hd, hb⟩
  obtain ⟨h1, h2⟩ := h.2 d hd hb
  exact ⟨fun hn => hu hr (h1 hn), fun ci hci hid => (h2 ci hci hid).heap (hu hr)⟩

theorem testBit_and_paramMask (w k : Nat) : (w &&& Prov.paramMask).testBit k = (w.testBit k && decide (k < 16)) := by
  rw [Nat.testBit_and, testBit_paramMask]

/-- a block among the roots of a label without the receiver bit, all of whose roots the setter may write
    through, is not protected: the setter's `writes` has no parameter but the receiver -/
theorem inRoots_notProt {D : Desig} {fr : Frame} {L : Prov} {b : Nat}
    (hin : InRoots (fx P fr D.h0.blocks.size) L b) (h0 : L.testBit 0 = false)
    (hle : RootsLe L (D.h.writes ||| Prov.fresh))
    (hinp : Prov.subset (D.h.writes &&& Prov.paramMask) (Prov.param 0) = true)
    (hnl : D.h.writes.testBit 17 = false) : ¬ Prot P D b := by
  rintro ⟨hb, hg⟩
  rcases hin with ⟨k, a, v, hk, hbit, _, _, _⟩ | ⟨_, hm⟩ | hbit | ⟨g, hgl, _, hbe⟩
  · have hk0 : k ≠ 0 := by intro e; subst e; rw [h0] at hbit; cases hbit
    have h1 := hle k (by omega) (by omega) hbit
    simp only [Nat.testBit_or, testBit_fresh, Bool.or_eq_true, decide_eq_true_eq] at h1
    rcases h1 with h1 | h1
    · have : (D.h.writes &&& Prov.paramMask).testBit k = true := by
        rw [testBit_and_paramMask, h1]; simp [hk]
      have := subset_testBit hinp this
      rw [testBit_param] at this
      simp at this
      exact hk0 this.symm
    · omega
  · have : D.h0.blocks.size ≤ b := hm
    omega
  · have h1 := hle 17 (by omega) (by omega) hbit
    simp [Nat.testBit_or, testBit_fresh, hnl] at h1
  · subst hbe
    have : g < P.globals.length := hgl
    simp [isGlobalBlock] at hg
    omega

theorem anyL_false {p : Opnd → Bool} : ∀ {os : List Opnd}, anyL p os = false → ∀ o ∈ os, p o = false := by
  intro os
  induction os with
  | nil => intro _ o ho; cases ho
  | cons x xs ih =>
    intro h o ho
    simp only [anyL, Bool.or_eq_false_iff] at h
    rcases List.mem_cons.1 ho with e | e
    · subst e; exact h.1
    · exact ih h.2 o e

theorem getD_mem_of_lt {os : List Opnd} {k : Nat} (hk : k < os.length) : os[k]? = some (os.getD k .cother) ∧ os.getD k .cother ∈ os := by
  have h1 : os[k]? = some (os.getD k .cother) := by
    rw [List.getD_eq_getElem?_getD, List.getElem?_eq_getElem hk]; rfl
  exact ⟨h1, List.mem_of_getElem? h1⟩

/-- the operand that holds the address `op` stores through -/
def AddrOpnd : Op → Opnd → Prop
  | .store _ a _, o => o = a
  | .call (.builtin n) args, o => n = Ext.copy ∧ o ∈ args
  | .call (.extern n) args, o => n = Ext.lePutUint64 ∧ o ∈ args
  | _, _ => False

/-- the block an instruction writes is among the roots of the label of its address operand, and the `writes` summary
    covers that label (the `writeSummary` check of `pInstr`); the other case is the flag cell of `Once.Do` -/
theorem waddr_root {h : FuncHints} {fr : Frame} {m dm : Nat} {i : Instr} (ic : IC P H h fr m dm i) {b : Nat}
    (hw : WAddr P fr i b) :
    (∃ o, AddrOpnd i.op o ∧ RootsLe ((pc P H fr.f h).lab o) (h.writes ||| Prov.fresh) ∧
      InRoots (fx P fr m) ((pc P H fr.f h).lab o) b) ∨
    (∃ args vs o, i.op = .call (.extern Ext.onceDo) args ∧ evalOpnds P fr args i.opTys = some vs ∧
      vs[0]? = some [.ptr b o]) := by
  have hweff := ic.weff
  unfold WAddr at hw
  cases hop : i.op <;> simp only [hop] at hw
  case store vk a v =>
    obtain ⟨o, he⟩ := hw
    simp only [pRule, hop] at hweff
    exact Or.inl ⟨a, rfl, hweff, rvok_single_ptr (ic.opnd (by simp [hop, Op.operands]) he)⟩
  case call callee args =>
    cases callee <;> simp only at hw
    case builtin n =>
      obtain ⟨hn, vs, o, l, c, he, hv, hne⟩ := hw
      obtain ⟨hlen, hargs⟩ := ic.args (by intro o ho; simpa [hop, Op.operands] using ho) he
      have hl0 : 0 < args.length := by rw [← hlen]; exact lt_length_of_getElem? hv
      obtain ⟨ho, hmem⟩ := getD_mem_of_lt hl0
      have hn1 : (n == Ext.len) = false := by rw [hn]; decide
      have hn2 : (n == Ext.cap) = false := by rw [hn]; decide
      have hn3 : (n == Ext.copy) = true := by rw [hn]; decide
      simp only [pRule, hop, pCall, pCallBuiltin, hn1, hn2, hn3, Bool.or_self, Bool.false_eq_true, if_false, if_true] at hweff
      exact Or.inl ⟨_, ⟨hn, hmem⟩, hweff, rvok_single_slice (hargs 0 _ _ ho hv) hne⟩
    case extern n =>
      obtain ⟨vs, he, hcase⟩ := hw
      obtain ⟨hlen, hargs⟩ := ic.args (by intro o ho; simpa [hop, Op.operands] using ho) he
      rcases hcase with ⟨hn, o, l, c, hv, hne⟩ | ⟨hn, o, hv⟩
      · have hl1 : 1 < args.length := by rw [← hlen]; exact lt_length_of_getElem? hv
        obtain ⟨ho, hmem⟩ := getD_mem_of_lt hl1
        have e1 : (n == Ext.errorsNew) = false := by rw [hn]; decide
        have e2 : Nm.isSuffix (nm! ".init") n = false := by rw [hn]; decide
        have e3 : (n == Ext.lePutUint64) = true := by rw [hn]; decide
        simp only [pRule, hop, pCall, pCallExtern, e1, e2, e3, Bool.and_false, Bool.false_eq_true, if_false, if_true] at hweff
        exact Or.inl ⟨_, ⟨hn, hmem⟩, hweff, rvok_single_slice (hargs 1 _ _ ho hv) hne⟩
      · subst hn
        exact Or.inr ⟨args, vs, o, rfl, he, hv⟩

/-- an instruction that does not touch the receiver does not store through an operand derived from it -/
theorem addrOpnd_noRecv {c : PCtx} {i : Instr} {o : Opnd} (ha : AddrOpnd i.op o) (hnt : touchesRecv c i = false) :
    (c.lab o).testBit 0 = false := by
  unfold touchesRecv at hnt
  cases hop : i.op <;> simp only [hop, AddrOpnd] at ha hnt
  case store vk a v => subst ha; exact hnt
  case call callee args =>
    cases callee <;> simp only at ha hnt
    case builtin n =>
      obtain ⟨hn, ho⟩ := ha
      subst hn
      exact anyL_false hnt o ho
    case extern n => exact anyL_false hnt o ha.2

/-- an instruction of the setter frame that does not touch the receiver writes no protected block -/
theorem waddr_notProt {D : Desig} {fr : Frame} {dm : Nat} {i : Instr}
    (ic : IC P H D.h fr D.h0.blocks.size dm i) (hf : fr.f = D.f)
    (hinp : Prov.subset (D.h.writes &&& Prov.paramMask) (Prov.param 0) = true)
    (hnt : touchesRecv (pc P H D.f D.h) i = false) {b : Nat} (hw : WAddr P fr i b) : ¬ Prot P D b := by
  have hnl : D.h.writes.testBit 17 = false := ic.facts.noLoaded fr.fi fr.f D.h ic.hf ic.hh
  rcases waddr_root ic hw with ⟨o, ha, hle, hin⟩ | ⟨args, vs, o, hop, he, hv⟩
  · rw [hf] at hle hin
    exact inRoots_notProt hin (addrOpnd_noRecv ha hnt) hle hinp hnl
  · -- the flag cell of a `sync.Once` is a package-level variable or fresh
    obtain ⟨hlen, hargs⟩ := ic.args (by intro o ho; simpa [hop, Op.operands] using ho) he
    have hl0 : 0 < args.length := by rw [← hlen]; exact lt_length_of_getElem? hv
    obtain ⟨ho, _⟩ := getD_mem_of_lt hl0
    have hin := rvok_single_ptr (hargs 0 _ _ ho hv)
    have hsz := ic.size
    unfold Side.resSizeOk at hsz
    rw [hop] at hsz
    dsimp only at hsz
    have e1 : (Ext.onceDo == Ext.mul64) = false := by decide
    have e2 : (Ext.onceDo == Ext.add64) = false := by decide
    have e3 : (Ext.onceDo == Ext.sub64) = false := by decide
    have e4 : (Ext.onceDo == Ext.ctByteEq) = false := by decide
    have e5 : (Ext.onceDo == Ext.ctCompare) = false := by decide
    have e6 : (Ext.onceDo == Ext.leUint64) = false := by decide
    have e7 : (Ext.onceDo == Ext.errorsNew) = false := by decide
    simp only [e1, e2, e3, e4, e5, e6, e7, beq_self_eq_true, Bool.or_self, Bool.false_eq_true, if_false, if_true, Bool.and_eq_true] at hsz
    rintro ⟨hb, hg⟩
    rcases once_cell_writable (W := 0) (P := P) rfl hsz.2 hin with hr | hr
    · rcases hr with ⟨k, a, v, hk, hbit, _⟩ | ⟨_, hm⟩ | hbit | ⟨g, _, hbit, _⟩
      · simp [testBit_fresh] at hbit; omega
      · have : D.h0.blocks.size ≤ b := hm
        omega
      · simp [testBit_fresh] at hbit
      · simp [testBit_fresh] at hbit; omega
    · rw [hg] at hr; cases hr

/-- the callee of a call that passes nothing derived from the receiver cannot store into protected blocks -/
theorem callee_notProt {D : Desig} {fr : Frame} {dm : Nat} {i : Instr}
    (ic : IC P H D.h fr D.h0.blocks.size dm i) (hf : fr.f = D.f)
    (hinp : Prov.subset (D.h.writes &&& Prov.paramMask) (Prov.param 0) = true)
    {g : Nat} {cargs : List Opnd} (hop : i.op = .call (.fn g) cargs)
    (hnt : touchesRecv (pc P H D.f D.h) i = false) {vs : List RVal} (he : evalOpnds P fr cargs i.opTys = some vs)
    {gf : Func} (hgf : P.funcs[g]? = some gf) {nf : Frame} (hfi : nf.fi = g) (hpar : nf.params = vs.toArray)
    {mk : Nat} (hmk : D.h0.blocks.size ≤ mk) : NPF P H D nf mk := by
  intro gh hgh b hw
  rw [hfi] at hgh
  have hnl : D.h.writes.testBit 17 = false := ic.facts.noLoaded fr.fi fr.f D.h ic.hf ic.hh
  have hnlg : gh.writes.testBit 17 = false := ic.facts.noLoaded g gf gh hgf hgh
  simp only [touchesRecv, hop] at hnt
  rcases hw with hw | hw
  · rcases hw with ⟨k, a, v, hk, hbit, ha, hv, hpt⟩ | ⟨_, hm⟩ | hbit | ⟨gg, hgl, _, hbe⟩
    · have hak : vs[k]? = some a := by
        have : nf.params[k]? = some a := ha
        rw [hpar] at this
        simpa using this
      obtain ⟨o, ho, hle, hin⟩ := callee_arg_root ic hop he hgh hk (testBit_or_fresh hbit (by omega)) hak hv hpt
      rw [hf] at hle hin
      exact inRoots_notProt hin (anyL_false hnt _ ho) hle hinp hnl
    · rintro ⟨hb, _⟩
      have : mk ≤ b := hm
      omega
    · simp [Nat.testBit_or, testBit_fresh, hnlg] at hbit
    · rintro ⟨_, hg⟩
      subst hbe
      have : gg < P.globals.length := hgl
      simp [isGlobalBlock] at hg
      omega
  · rintro ⟨_, hg⟩
    rw [hg] at hw; cases hw

/-- a frame entered without arguments (the closure of a `sync.Once`) cannot store into protected blocks -/
theorem closure_notProt (F : Facts P H) {D : Desig} {nf : Frame} {g : Nat} {gf : Func} (hgf : P.funcs[g]? = some gf)
    (hfi : nf.fi = g) (hpar : nf.params = #[]) {mk : Nat} (hmk : D.h0.blocks.size ≤ mk) : NPF P H D nf mk := by
  intro gh hgh b hw
  rw [hfi] at hgh
  have hnlg : gh.writes.testBit 17 = false := F.noLoaded g gf gh hgf hgh
  rcases hw with hw | hw
  · rcases hw with ⟨k, a, v, hk, hbit, ha, _⟩ | ⟨_, hm⟩ | hbit | ⟨gg, hgl, _, hbe⟩
    · have : nf.params[k]? = some a := ha
      rw [hpar] at this
      simp at this
    · rintro ⟨hb, _⟩
      have : mk ≤ b := hm
      omega
    · simp [Nat.testBit_or, testBit_fresh, hnlg] at hbit
    · rintro ⟨_, hg⟩
      subst hbe
      have : gg < P.globals.length := hgl
      simp [isGlobalBlock] at hg
      omega
  · rintro ⟨_, hg⟩
    rw [hg] at hw; cases hw

/-- `Extract #0` of the flattened results of a call yields the first result -/
theorem extract0_value {h : FuncHints} {fr : Frame} {mark dm : Nat} {i : Instr} (ic : IC P H h fr mark dm i)
    {cid : Nat} (hop : i.op = .extract (.reg cid) 0) {v w0 wrest : RVal} (hval : ValEff P fr i v)
    (hreg : fr.regs[cid]? = some (w0 ++ wrest)) (hsized : Res0Sized P fr.f cid w0)
    {ci : Instr} {g : Nat} {cargs : List Opnd} (hci : fr.f.instrs[cid]? = some ci) (hcop : ci.op = .call (.fn g) cargs) :
    v = w0 := by
  simp only [ValEff, hop] at hval
  obtain ⟨vs, fs, off, sz, hev, hty, hfs, _, hv⟩ := hval
  have hvs : vs = w0 ++ wrest := by
    have : fr.regs[cid]? = some vs := hev
    rw [hreg] at this; cases this; rfl
  have hsz := ic.size
  simp only [Side.resSizeOk, hop, hty, hfs, hci, hcop, Bool.and_eq_true] at hsz
  cases hgf : P.funcs[g]? with
  | none => simp [hgf] at hsz
  | some gf =>
    simp only [hgf, beq_iff_eq] at hsz
    have hsz2 := hsz.2
    rw [sizesOf_eq_map, sizesOf_eq_map] at hsz2
    -- component 0 of the tuple type
    unfold Program.fieldSpan at hfs
    simp only [List.take_zero, List.mapM_nil] at hfs
    cases ht : fs[0]? with
    | none => simp [ht] at hfs
    | some t =>
      cases hs : P.size t with
      | none => simp [ht, hs] at hfs
      | some sz' =>
        simp [ht, hs] at hfs
        obtain ⟨hoff, hszz⟩ := hfs
        subst hoff; subst hszz
        have h1 : (fs.map P.size)[0]? = some (some sz') := by simp [ht, hs]
        rw [hsz2] at h1
        simp only [List.getElem?_map, Option.map_eq_some_iff] at h1
        obtain ⟨t', ht', hn'⟩ := h1
        have hlen : w0.length = sz' := hsized ci g cargs gf t' hci hcop hgf ht' sz' hn'
        rw [hv, hvs, List.drop_zero, ← hlen, List.take_left']
        rfl

theorem isTerminator_of_target {op : Op} {t : Nat} (h : JumpTarget op t) : op.isTerminator = true := by
  cases op <;> simp [JumpTarget] at h <;> rfl

section setter
variable {D : Desig} (SF : SetterFacts P H pol D.fi D.f D.h) (F : Facts P H)
include SF F

/-- the id of a delegating call is the id of a call of a program function -/
theorem not_del_id {b n : Nat} {i : Instr} (hat : InstrAt D.f b n i) (hncall : ∀ g a, i.op ≠ .call (.fn g) a)
    {d : Nat × Nat} (hd : d ∈ delBackOf (pc P H D.f D.h) pol) : i.id ≠ d.2 := by
  intro e
  obtain ⟨bd, bl, n', kc, ci, hb, _, _, hkc, hcid, _, _, g, rest, gf, hcop, _, _⟩ := SF.delSite F hd
  have hatc : InstrAt D.f bd kc ci := ⟨bl, hb, hkc⟩
  have h1 := instrs_at hatc (sInstr_spec (F.side D.fi D.f D.h SF.hf SF.hh bd kc ci hatc)).id
  have h2 := instrs_at hat (sInstr_spec (F.side D.fi D.f D.h SF.hf SF.hh b n i hat)).id
  rw [hcid, ← e, h2] at h1
  cases h1
  exact hncall g _ hcop

/-- in a block from which an error / delegated return is reachable, only the delegating call touches the receiver -/
theorem untouched_of_relevant {b n : Nat} {i : Instr} (hat : InstrAt D.f b n i) (hncall : ∀ g a, i.op ≠ .call (.fn g) a)
    (hr : Relevant P H pol D b) : touchesRecv (pc P H D.f D.h) i = false := by
  cases ht : touchesRecv (pc P H D.f D.h) i with
  | false => rfl
  | true =>
    obtain ⟨he, hdl⟩ := (eInstr_spec (SF.einstr b n i hat)).2 ht
    rcases hr with hr | ⟨d, hd, hb⟩
    · rw [he] at hr; cases hr
    · exact absurd (hdl d hd hb).symm (not_del_id SF F hat hncall hd)

/-- the instruction with the id of a delegating call is a call of a program function -/
theorem del_call {d : Nat × Nat} (hd : d ∈ delBackOf (pc P H D.f D.h) pol) :
    ∃ ci g cargs, D.f.instrs[d.2]? = some ci ∧ ci.op = .call (.fn g) cargs := by
  obtain ⟨bd, bl, n', kc, ci, hb, _, _, hkc, hcid, _, _, g, rest, gf, hcop, _, _⟩ := SF.delSite F hd
  have hatc : InstrAt D.f bd kc ci := ⟨bl, hb, hkc⟩
  have h1 := instrs_at hatc (sInstr_spec (F.side D.fi D.f D.h SF.hf SF.hh bd kc ci hatc)).id
  rw [hcid] at h1
  exact ⟨ci, g, _, h1, hcop⟩

/-- an instruction of the setter frame other than a call of a program function -/
theorem path_local {sf : Frame} {i : Instr} {rest : List Instr} {bl : Block} {pre : List Instr} {hp hp' : Heap}
    (ex : Exec P H D.h sf D.h0.blocks.size i rest bl pre) (hf : sf.f = D.f)
    (hpath : PathInv P H pol D sf.blk sf.regs pre hp) (hncall : ∀ g a, i.op ≠ .call (.fn g) a)
    (hheap : HeapStep (WAddr P (popI sf rest) i) hp hp') (hsz : D.h0.blocks.size ≤ hp.blocks.size)
    {regs' : Array RVal}
    (hregs : (regs' = sf.regs ∧ ∀ c x, i.op ≠ .extract c x) ∨ ∃ v, ValEff P (popI sf rest) i v ∧ regs' = regSet sf.regs i.id v) :
    PathInv P H pol D sf.blk regs' (pre ++ [i]) hp' := by
  have hb : D.f.blocks[sf.blk]? = some bl := hf ▸ ex.hb
  have hat : InstrAt D.f sf.blk pre.length i := ⟨bl, hb, by rw [ex.hi]; simp⟩
  have hids := ids_of_block F SF.hf SF.hh hb ex.hi
  have hiid := (sInstr_spec (F.side D.fi D.f D.h SF.hf SF.hh sf.blk pre.length i hat)).id
  have hne_pre : ∀ j ∈ pre, j.id ≠ i.id := by
    intro j hj
    obtain ⟨k, hk⟩ := List.getElem?_of_mem hj
    have hlt : k < pre.length := lt_length_of_getElem? hk
    rw [hids k j hk, hiid]; omega
  have hUn : Relevant P H pol D sf.blk → Unch P D hp → Unch P D hp' := by
    intro hr hu
    refine hu.step hheap ?_ hsz
    intro b hw
    exact waddr_notProt ex.ic hf SF.inputW (untouched_of_relevant SF F hat hncall hr) hw
  have h1 := hpath.heap hUn
  refine ⟨h1.1, ?_⟩
  intro d hd hbit
  obtain ⟨h2, h3⟩ := h1.2 d hd hbit
  have hid : i.id ≠ d.2 := not_del_id SF F hat hncall hd
  constructor
  · intro hn
    apply h2
    rintro ⟨ci, hci, hcid⟩
    exact hn ⟨ci, List.mem_append_left _ hci, hcid⟩
  · intro ci hci hcid
    rcases List.mem_append.1 hci with hci | hci
    · obtain ⟨w0, wrest, hreg, hsized, hdel, hext⟩ := h3 ci hci hcid
      have hreg' : regs'[d.2]? = some (w0 ++ wrest) := by
        rcases hregs with ⟨e, _⟩ | ⟨v, _, e⟩
        · rw [e]; exact hreg
        · rw [e]; exact regSet_other (fun e' => hid e'.symm) hreg
      refine ⟨w0, wrest, hreg', hsized, hdel, ?_⟩
      intro j hj hjop hlt
      rcases List.mem_append.1 hj with hj | hj
      · have := hext j hj hjop hlt
        rcases hregs with ⟨e, _⟩ | ⟨v, _, e⟩
        · rw [e]; exact this
        · rw [e]; exact regSet_other (hne_pre j hj) this
      · simp only [List.mem_singleton] at hj
        subst hj
        rcases hregs with ⟨_, hne⟩ | ⟨v, hval, e⟩
        · exact absurd hjop (hne _ _)
        · obtain ⟨cc, g, cargs, hcc, hccop⟩ := del_call SF F hd
          have hv : v = w0 :=
            extract0_value ex.ic hjop hval hreg (by rw [show (popI sf rest).f = D.f from hf]; exact hsized)
              (by rw [show (popI sf rest).f = D.f from hf]; exact hcc) hccop
          rw [e, hv]
          exact regSet_self _ _ _
    · simp only [List.mem_singleton] at hci
      subst hci
      exact absurd hcid hid

/-- `If` / `Jump` of the setter frame -/
theorem path_jump {sf : Frame} {i : Instr} {rest : List Instr} {bl : Block} {pre : List Instr} {hp : Heap}
    (ex : Exec P H D.h sf D.h0.blocks.size i rest bl pre) (hf : sf.f = D.f)
    (hpath : PathInv P H pol D sf.blk sf.regs pre hp) {t : Nat} (htgt : JumpTarget i.op t)
    {tb : Block} (htb : D.f.blocks[t]? = some tb) (regs' : Array RVal) :
    PathInv P H pol D t regs' (splitPhis tb.instrs).1 hp := by
  have hb : D.f.blocks[sf.blk]? = some bl := hf ▸ ex.hb
  have hat : InstrAt D.f sf.blk pre.length i := ⟨bl, hb, by rw [ex.hi]; simp⟩
  have hids := ids_of_block F SF.hf SF.hh hb ex.hi
  have ht : t < D.f.blocks.length := lt_length_of_getElem? htb
  refine ⟨fun hS => hpath.1 (SF.closedE hat htgt ht hS), ?_⟩
  intro d hd hS
  have hbit := SF.closedD hat htgt ht hd hS
  obtain ⟨h2, h3⟩ := hpath.2 d hd hbit
  constructor
  · intro _
    apply h2
    rintro ⟨ci, hci, hcid⟩
    -- the frame is in the block of the delegated return, past the call: that block ends in the `Return`
    obtain ⟨k, hk⟩ := List.getElem?_of_mem hci
    have hlt : k < pre.length := lt_length_of_getElem? hk
    have hcik := hids k ci hk
    obtain ⟨bd, bl', n', kc, ci', hb', hlen', hkc, hgetc, hcid', _, ⟨iret, vals, hgetr, hrop⟩, _⟩ := SF.delSite F hd
    have hatc : InstrAt D.f bd kc ci' := ⟨bl', hb', hgetc⟩
    have hidc := (sInstr_spec (F.side D.fi D.f D.h SF.hf SF.hh bd kc ci' hatc)).id
    have hblen : bl.instrs.length = pre.length + 1 + rest.length := by rw [ex.hi]; simp; omega
    have hbeq : sf.blk = bd :=
      block_unique (n := k) (n' := kc) hb hb' (by omega) (by omega) (by rw [← hcik, ← hidc, hcid, hcid'])
    subst hbeq
    have hbl : bl' = bl := by rw [hb] at hb'; cases hb'; rfl
    subst hbl
    obtain ⟨hrest, _⟩ := SF.termLast hb ex.hi (isTerminator_of_target htgt)
    subst hrest
    have hn : pre.length = n' := by simp at hblen; omega
    have : bl'.instrs[n']? = some i := by rw [ex.hi, ← hn]; simp
    rw [hgetr] at this
    cases this
    rw [hrop] at htgt
    exact htgt
  · intro ci hci hcid
    obtain ⟨hsplit, hphi⟩ := splitPhis_spec tb.instrs
    obtain ⟨es, hes⟩ := hphi ci hci
    obtain ⟨n, hn⟩ := List.getElem?_of_mem (List.mem_append_left (splitPhis tb.instrs).2 hci)
    rw [← hsplit] at hn
    have hatp : InstrAt D.f t n ci := ⟨tb, htb, hn⟩
    have h1 := instrs_at hatp (sInstr_spec (F.side D.fi D.f D.h SF.hf SF.hh t n ci hatp)).id
    obtain ⟨cc, g, cargs, hcc, hccop⟩ := del_call SF F hd
    rw [hcid, hcc] at h1
    cases h1
    rw [hes] at hccop
    cases hccop

end setter

end lemmas

end EdVerif.Ssa.ES
