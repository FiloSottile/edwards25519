import EdVerif.Ssa.ProvSound.Main
import EdVerif.Ssa.ErrSpec
/-!
# What one `step` does (purely semantic: no labels, no invariants)

`step_shape`: the outcome of executing instruction `i` of the top frame is one of eight shapes; for the
instructions that only set their own register / write the heap, the heap changes only in the block
addressed by the run-time value of the instruction's address operand (`WAddr`).
-/
namespace EdVerif.Ssa.ES

open EdVerif.Ssa EdVerif.Ssa.PS

/-- blocks instruction `i` may write, by the run-time value of its address operand -/
def WAddr (P : Program) (fr : Frame) (i : Instr) (b : Nat) : Prop :=
  match i.op with
  | .store _ a _ => ∃ o, evalOpnd P fr (i.opTys.headD 0) a = some [.ptr b o]
  | .call (.builtin n) args =>
    n = Ext.copy ∧ ∃ vs o l c, evalOpnds P fr args i.opTys = some vs ∧ vs[0]? = some [.slice b o l c] ∧ ¬ (l = 0 ∧ c = 0)
  | .call (.extern n) args =>
    ∃ vs, evalOpnds P fr args i.opTys = some vs ∧
      ((n = Ext.lePutUint64 ∧ ∃ o l c, vs[1]? = some [.slice b o l c] ∧ ¬ (l = 0 ∧ c = 0)) ∨
       (n = Ext.onceDo ∧ ∃ o, vs[0]? = some [.ptr b o]))
  | _ => False

/-- what is known about the value an instruction defines -/
def ValEff (P : Program) (fr : Frame) (i : Instr) (v : RVal) : Prop :=
  match i.op with
  | .changeType x => evalOpnd P fr (i.opTys.headD 0) x = some v
  | .extract x idx =>
    ∃ vs fs off sz, evalOpnd P fr (i.opTys.headD 0) x = some vs ∧ P.tyOf (i.opTys.headD 0) = .struct fs ∧
      P.fieldSpan fs idx = some (off, sz) ∧ off + sz ≤ vs.length ∧ v = (vs.drop off).take sz
  | .phi _ => False
  | _ => True

def JumpTarget : Op → Nat → Prop
  | .if _ t e, x => x = t ∨ x = e
  | .jump t, x => x = t
  | _, _ => False

/-- the caller's frame after a callee with destination `dest` returned `vs` -/
def retInto (caller : Frame) (dest : Option Nat) (vs : List RVal) : Frame :=
  match dest with
  | some id => { caller with regs := regSet caller.regs id (retValue vs) }
  | none => caller

def retStep (hp : Heap) (fr : Frame) (frs : List Frame) (vs : List RVal) : Step :=
  match frs with
  | [] => .done { heap := hp, stack := [] } vs [ev fr EK.ret []]
  | caller :: rest => .cont { heap := hp, stack := retInto caller fr.dest vs :: rest } [ev fr EK.ret []]

inductive Shape (P : Program) (hp : Heap) (fr : Frame) (frs : List Frame) (i : Instr) : Step → Prop
  | fault (w : String) : Shape P hp fr frs i (.fault w)
  | panic (c : Val) (evs : List Event) : Shape P hp fr frs i (.panic ⟨hp, fr :: frs⟩ c evs)
  | reg (v : RVal) (hp' : Heap) (evs : List Event) : ValEff P fr i v → HeapStep (WAddr P fr i) hp hp' →
      (∀ g a, i.op ≠ .call (.fn g) a) → Side.definesValue i.op = true →
      Shape P hp fr frs i (contReg fr frs i.id v hp' evs)
  | noreg (hp' : Heap) (evs : List Event) : HeapStep (WAddr P fr i) hp hp' → Side.definesValue i.op = false →
      Shape P hp fr frs i (contNoReg fr frs hp' evs)
  | jump (t : Nat) (fr' : Frame) (evs : List Event) : JumpTarget i.op t → jumpTo P fr t = some fr' →
      Shape P hp fr frs i (.cont { heap := hp, stack := fr' :: frs } evs)
  | call (g : Nat) (gf : Func) (cargs : List Opnd) (vs : List RVal) (nf : Frame) (evs : List Event) :
      i.op = .call (.fn g) cargs → evalOpnds P fr cargs i.opTys = some vs → P.funcs[g]? = some gf →
      mkFrame g gf vs (some i.id) = some nf →
      Shape P hp fr frs i (.cont { heap := hp, stack := nf :: fr :: frs } evs)
  | once (b o g : Nat) (gf : Func) (nf : Frame) (hp' : Heap) (args : List Opnd) (evs : List Event) :
      i.op = .call (.extern Ext.onceDo) args → WAddr P fr i b → hp.write b o [.opaque 1] = some hp' →
      P.funcs[g]? = some gf → mkFrame g gf [] none = some nf →
      (∃ vs, evalOpnds P fr args i.opTys = some vs ∧ vs[1]? = some [.fn g]) →
      Shape P hp fr frs i (.cont { heap := hp', stack := nf :: { fr with regs := regSet fr.regs i.id [] } :: frs } evs)
  | ret (vals : List Opnd) (vs : List RVal) : i.op = .ret vals → evalOpnds P fr vals fr.f.resultTys = some vs →
      Shape P hp fr frs i (retStep hp fr frs vs)

/-- outcome of a helper that only sets the register / writes the heap -/
abbrev Loc (hp : Heap) (fr : Frame) (frs : List Frame) (i : Instr) (GV : RVal → Prop) (W : Nat → Prop) (NR : Prop) : Step → Prop :=
  Local hp fr frs i.id GV (HeapStep W hp) NR

section helpers
variable {P : Program} {hp : Heap} {fr : Frame} {frs : List Frame} {i : Instr} {GV : RVal → Prop} {W : Nat → Prop} {NR : Prop}

theorem stepUnop_loc (hg : ∀ v, GV v) (op : UnOp) (x : Opnd) : Loc hp fr frs i GV W NR (stepUnop P hp fr frs i op x) := by
  unfold stepUnop
  split
  all_goals first
    | exact .fault _
    | exact .reg _ _ _ (hg _) (HeapStep.refl _ _)

theorem stepConvert_loc (hg : ∀ v, GV v) (fk : VK) (x : Opnd) : Loc hp fr frs i GV W NR (stepConvert P hp fr frs i fk x) := by
  unfold stepConvert
  split
  all_goals first
    | exact .fault _
    | exact .reg _ _ _ (hg _) (HeapStep.refl _ _)

theorem stepBinop_loc (hg : ∀ v, GV v) (op : BinOp) (xk : VK) (x y : Opnd) :
    Loc hp fr frs i GV W NR (stepBinop P hp fr frs i op xk x y) := by
  unfold stepBinop
  repeat' split
  all_goals first
    | exact .fault _
    | exact .panic _ _
    | exact .reg _ _ _ (hg _) (HeapStep.refl _ _)

theorem stepLoad_loc (hg : ∀ v, GV v) (x : Opnd) : Loc hp fr frs i GV W NR (stepLoad P hp fr frs i x) := by
  unfold stepLoad
  repeat' split
  all_goals first
    | exact .fault _
    | exact .panic _ _
    | exact .reg _ _ _ (hg _) (HeapStep.refl _ _)

theorem stepFieldAddr_loc (hg : ∀ v, GV v) (x : Opnd) (fld : Nat) : Loc hp fr frs i GV W NR (stepFieldAddr P hp fr frs i x fld) := by
  unfold stepFieldAddr
  repeat' split
  all_goals first
    | exact .fault _
    | exact .panic _ _
    | exact .reg _ _ _ (hg _) (HeapStep.refl _ _)

theorem stepIndexAddr_loc (hg : ∀ v, GV v) (x ix : Opnd) : Loc hp fr frs i GV W NR (stepIndexAddr P hp fr frs i x ix) := by
  unfold stepIndexAddr
  repeat' split
  all_goals first
    | exact .fault _
    | exact .panic _ _
    | exact .reg _ _ _ (hg _) (HeapStep.refl _ _)

theorem stepIndex_loc (hg : ∀ v, GV v) (x ix : Opnd) : Loc hp fr frs i GV W NR (stepIndex P hp fr frs i x ix) := by
  unfold stepIndex
  repeat' split
  all_goals first
    | exact .fault _
    | exact .panic _ _
    | exact .reg _ _ _ (hg _) (HeapStep.refl _ _)

theorem stepField_loc (x : Opnd) (fld : Nat)
    (hg : ∀ vs fs off sz, evalOpnd P fr (i.opTys.headD 0) x = some vs → P.tyOf (i.opTys.headD 0) = .struct fs →
      P.fieldSpan fs fld = some (off, sz) → off + sz ≤ vs.length → GV ((vs.drop off).take sz)) :
    Loc hp fr frs i GV W NR (stepField P hp fr frs i x fld) := by
  unfold stepField
  split
  · rename_i vs fs hv hty
    split
    · rename_i off sz hfs
      split
      · rename_i hle
        exact .reg _ _ _ (hg vs fs off sz hv hty hfs hle) (HeapStep.refl _ _)
      · exact .fault _
    · exact .fault _
  · exact .fault _

theorem stepSlice_loc (hg : ∀ v, GV v) (x : Opnd) (lo hi mx : Option Opnd) :
    Loc hp fr frs i GV W NR (stepSlice P hp fr frs i x lo hi mx) := by
  unfold stepSlice
  simp only
  repeat' split
  all_goals first
    | exact .fault _
    | exact .panic _ _
    | exact .reg _ _ _ (hg _) (HeapStep.refl _ _)

theorem stepMakeSlice_loc (hg : ∀ v, GV v) (l c : Opnd) : Loc hp fr frs i GV W NR (stepMakeSlice P hp fr frs i l c) := by
  unfold stepMakeSlice
  split
  · simp only
    split
    · rename_i zs _
      split
      · exact .panic _ _
      · split
        · exact .fault _
        · generalize replicateFlat _ zs = vs
          exact .reg _ _ _ (hg _) (HeapStep.alloc _ hp vs)
    · exact .fault _
  · exact .fault _

theorem stepAlloc_loc (hg : ∀ v, GV v) : Loc hp fr frs i GV W NR (stepAlloc P hp fr frs i) := by
  unfold stepAlloc
  split
  · split
    · rename_i zs _
      split
      · exact .fault _
      · exact .reg _ _ _ (hg _) (HeapStep.alloc _ hp zs)
    · exact .fault _
  · exact .fault _

theorem stepSliceToArrayPointer_loc (hg : ∀ v, GV v) (x : Opnd) :
    Loc hp fr frs i GV W NR (stepSliceToArrayPointer P hp fr frs i x) := by
  unfold stepSliceToArrayPointer
  repeat' split
  all_goals first
    | exact .fault _
    | exact .panic _ _
    | exact .reg _ _ _ (hg _) (HeapStep.refl _ _)

theorem stepMakeInterface_loc (hg : ∀ v, GV v) (x : Opnd) : Loc hp fr frs i GV W NR (stepMakeInterface P hp fr frs i x) := by
  unfold stepMakeInterface
  repeat' split
  all_goals first
    | exact .fault _
    | exact .panic _ _
    | exact .reg _ _ _ (hg _) (HeapStep.refl _ _)

theorem stepStore_loc (hn : NR) (a v : Opnd)
    (hw : ∀ b o, evalOpnd P fr (i.opTys.headD 0) a = some [.ptr b o] → W b) :
    Loc hp fr frs i GV W NR (stepStore P hp fr frs i a v) := by
  unfold stepStore
  split
  · rename_i b o vs ha hv
    split
    · rename_i h' hwr
      exact .noreg _ _ hn (HeapStep.write hwr (hw b o ha))
    · exact .fault _
  · exact .panic _ _
  · exact .fault _

theorem stepBuiltin_loc (hg : ∀ v, GV v) (name : Nm) (vs : List RVal)
    (hw : ∀ b o l c, name = Ext.copy → vs[0]? = some [.slice b o l c] → ¬ (l = 0 ∧ c = 0) → W b) :
    Loc hp fr frs i GV W NR (stepBuiltin hp fr frs i name vs) := by
  unfold stepBuiltin
  split
  · split
    · exact .reg _ _ _ (hg _) (HeapStep.refl _ _)
    · exact .fault _
  · split
    · split
      · exact .reg _ _ _ (hg _) (HeapStep.refl _ _)
      · exact .fault _
    · split
      · rename_i hn3
        have hname : name = Ext.copy := by simpa using hn3
        split
        · rename_i b1 o1 l1 c1 b2 o2 l2 c2
          simp only
          split
          · rename_i ws hr
            split
            · split
              · rename_i hp' hwr
                refine .reg _ _ _ (hg _) ?_
                by_cases hz : ws = []
                · subst hz; exact HeapStep.write_nil hwr
                · apply HeapStep.write hwr
                  have hwl := Heap.read_length hr
                  have hpos : 0 < min l1 l2 := by
                    cases ws with
                    | nil => exact absurd rfl hz
                    | cons _ _ => simp at hwl; omega
                  exact hw b1 o1 l1 c1 hname (by simp) (by omega)
              · exact .fault _
            · exact .fault _
          · exact .fault _
        · exact .fault _
      · exact .fault _

/-- an external function: a local effect, or the first `Do` of a `sync.Once` -/
inductive LocOrOnce (P : Program) (hp : Heap) (fr : Frame) (frs : List Frame) (i : Instr) (GV : RVal → Prop) (W : Nat → Prop) (NR : Prop)
    (name : Nm) (vs : List RVal) : Step → Prop
  | loc {r : Step} : Loc hp fr frs i GV W NR r → LocOrOnce P hp fr frs i GV W NR name vs r
  | once (b o g : Nat) (gf : Func) (nf : Frame) (hp' : Heap) (evs : List Event) :
      name = Ext.onceDo → vs[0]? = some [.ptr b o] → hp.write b o [.opaque 1] = some hp' →
      P.funcs[g]? = some gf → mkFrame g gf [] none = some nf → vs[1]? = some [.fn g] →
      LocOrOnce P hp fr frs i GV W NR name vs
        (.cont { heap := hp', stack := nf :: { fr with regs := regSet fr.regs i.id [] } :: frs } evs)

theorem stepExtern_loc (hg : ∀ v, GV v) (name : Nm) (vs : List RVal)
    (hw : ∀ b o l c, name = Ext.lePutUint64 → vs[1]? = some [.slice b o l c] → ¬ (l = 0 ∧ c = 0) → W b) :
    LocOrOnce P hp fr frs i GV W NR name vs (stepExtern P hp fr frs i name vs) := by
  unfold stepExtern
  by_cases h1 : (name == Ext.mul64) = true
  · rw [if_pos h1]; refine .loc ?_; split
    · exact .reg _ _ _ (hg _) (HeapStep.refl _ _)
    · exact .fault _
  rw [if_neg h1]
  by_cases h2 : (name == Ext.add64) = true
  · rw [if_pos h2]; refine .loc ?_; split
    · exact .reg _ _ _ (hg _) (HeapStep.refl _ _)
    · exact .fault _
  rw [if_neg h2]
  by_cases h3 : (name == Ext.sub64) = true
  · rw [if_pos h3]; refine .loc ?_; split
    · exact .reg _ _ _ (hg _) (HeapStep.refl _ _)
    · exact .fault _
  rw [if_neg h3]
  by_cases h4 : (name == Ext.ctByteEq) = true
  · rw [if_pos h4]; refine .loc ?_; split
    · exact .reg _ _ _ (hg _) (HeapStep.refl _ _)
    · exact .fault _
  rw [if_neg h4]
  by_cases h5 : (name == Ext.ctCompare) = true
  · rw [if_pos h5]; refine .loc ?_
    repeat' split
    all_goals first
      | exact .fault _
      | exact .reg _ _ _ (hg _) (HeapStep.refl _ _)
  rw [if_neg h5]
  by_cases h6 : (name == Ext.leUint64) = true
  · rw [if_pos h6]; refine .loc ?_
    repeat' split
    all_goals first
      | exact .fault _
      | exact .panic _ _
      | exact .reg _ _ _ (hg _) (HeapStep.refl _ _)
  rw [if_neg h6]
  by_cases h7 : (name == Ext.lePutUint64) = true
  · rw [if_pos h7]; refine .loc ?_
    have hname : name = Ext.lePutUint64 := by simpa using h7
    split
    · rename_i a0 b o l c v
      split
      · exact .panic _ _
      · rename_i hl8
        split
        · rename_i hp' hwr
          exact .reg _ _ _ (hg _) (HeapStep.write hwr (hw b o l c hname (by simp) (by omega)))
        · exact .fault _
    · exact .fault _
  rw [if_neg h7]
  by_cases h8 : (name == Ext.errorsNew) = true
  · rw [if_pos h8]; refine .loc ?_; split
    · exact .reg _ _ _ (hg _) (HeapStep.refl _ _)
    · exact .fault _
  rw [if_neg h8]
  by_cases h9 : (name == Ext.onceDo) = true
  · rw [if_pos h9]
    have hname : name = Ext.onceDo := by simpa using h9
    split
    · rename_i b o g
      split
      · split
        · rename_i hp' gf hwr hgf
          split
          · rename_i nf hnf
            exact .once b o g gf nf hp' _ hname (by simp) hwr hgf hnf (by simp)
          · exact .loc (.fault _)
        · exact .loc (.fault _)
      · exact .loc (.reg _ _ _ (hg _) (HeapStep.refl _ _))
      · exact .loc (.fault _)
    · exact .loc (.fault _)
  rw [if_neg h9]
  split
  · exact .loc (.reg _ _ _ (hg _) (HeapStep.refl _ _))
  · exact .loc (.fault _)

end helpers

/-- what the per-helper lemmas are asked to show about the defined value -/
def GVI (P : Program) (fr : Frame) (i : Instr) (v : RVal) : Prop :=
  ValEff P fr i v ∧ (∀ g a, i.op ≠ .call (.fn g) a) ∧ Side.definesValue i.op = true

theorem Shape.of_loc {P : Program} {hp : Heap} {fr : Frame} {frs : List Frame} {i : Instr} {r : Step}
    (h : Loc hp fr frs i (GVI P fr i) (WAddr P fr i) (Side.definesValue i.op = false) r) : Shape P hp fr frs i r := by
  cases h with
  | reg v hp' evs hv hh => exact .reg v hp' evs hv.1 hh hv.2.1 hv.2.2
  | noreg hp' evs hn hh => exact .noreg hp' evs hh hn
  | panic c evs => exact .panic c evs
  | fault w => exact .fault w

theorem retStep_eq (P : Program) (hp : Heap) (fr : Frame) (frs : List Frame) (vals : List Opnd) (vs : List RVal)
    (he : evalOpnds P fr vals fr.f.resultTys = some vs) : stepRet P hp fr frs vals = retStep hp fr frs vs := by
  unfold stepRet retStep
  simp only [he]
  cases frs with
  | nil => rfl
  | cons caller rest =>
    simp only [retInto]
    cases fr.dest <;> rfl

theorem step_shape {P : Program} {hp : Heap} {fr0 : Frame} {frs : List Frame} {i : Instr} {rest : List Instr}
    (hr : fr0.rest = i :: rest) : Shape P hp (popI fr0 rest) frs i (step P ⟨hp, fr0 :: frs⟩) := by
  unfold step
  simp only [hr]
  cases hop : i.op with
  | alloc hpf ek =>
    simp only
    exact .of_loc (stepAlloc_loc (by intro v; simp [GVI, ValEff, hop, Side.definesValue]))
  | binop op xk x y =>
    simp only
    exact .of_loc (stepBinop_loc (by intro v; simp [GVI, ValEff, hop, Side.definesValue]) _ _ _ _)
  | unop op x =>
    simp only
    exact .of_loc (stepUnop_loc (by intro v; simp [GVI, ValEff, hop, Side.definesValue]) _ _)
  | load x =>
    simp only
    exact .of_loc (stepLoad_loc (by intro v; simp [GVI, ValEff, hop, Side.definesValue]) _)
  | call callee args =>
    simp only
    unfold stepCall
    split
    · rename_i vs he
      split
      · rename_i g
        split
        · rename_i gf hgf
          split
          · rename_i nf hnf
            exact .call g gf args vs nf _ hop he hgf hnf
          · exact .fault _
        · exact .fault _
      · rename_i n
        have h := stepExtern_loc (P := P) (hp := hp) (fr := popI fr0 rest) (frs := frs) (i := i)
          (GV := GVI P (popI fr0 rest) i) (W := WAddr P (popI fr0 rest) i) (NR := Side.definesValue i.op = false)
          (by intro v; simp [GVI, ValEff, hop, Side.definesValue]) n vs
          (by
            intro b o l c hn hv hne
            simp only [WAddr, hop]
            exact ⟨vs, he, Or.inl ⟨hn, o, l, c, hv, hne⟩⟩)
        generalize stepExtern P hp (popI fr0 rest) frs i n vs = r at h
        cases h with
        | loc hl => exact .of_loc hl
        | once b o g gf nf hp' evs hn hv hw hgf hnf hfn =>
          subst hn
          refine .once b o g gf nf hp' args evs hop ?_ hw hgf hnf ⟨vs, he, hfn⟩
          simp only [WAddr, hop]
          exact ⟨vs, he, Or.inr ⟨by first | rfl | trivial, o, hv⟩⟩
      · rename_i n
        refine .of_loc (stepBuiltin_loc (by intro v; simp [GVI, ValEff, hop, Side.definesValue]) _ _ ?_)
        intro b o l c hn hv hne
        simp only [WAddr, hop]
        exact ⟨hn, vs, o, l, c, he, hv, hne⟩
      · exact .fault _
      · exact .fault _
    · exact .fault _
  | changeType x =>
    simp only
    split
    · rename_i v hv
      exact .reg v hp [] (by simpa [ValEff, hop] using hv) (HeapStep.refl _ _) (by simp [hop]) (by simp [hop, Side.definesValue])
    · exact .fault _
  | convert fk x =>
    simp only
    exact .of_loc (stepConvert_loc (by intro v; simp [GVI, ValEff, hop, Side.definesValue]) _ _)
  | sliceToArrayPointer x =>
    simp only
    exact .of_loc (stepSliceToArrayPointer_loc (by intro v; simp [GVI, ValEff, hop, Side.definesValue]) _)
  | extract x idx =>
    simp only
    unfold stepExtract
    refine .of_loc (stepField_loc _ _ ?_)
    intro vs fs off sz hv hty hfs hle
    refine ⟨?_, by simp [hop], by simp [hop, Side.definesValue]⟩
    simp only [ValEff, hop]
    exact ⟨vs, fs, off, sz, hv, hty, hfs, hle, rfl⟩
  | fieldAddr x f fname =>
    simp only
    exact .of_loc (stepFieldAddr_loc (by intro v; simp [GVI, ValEff, hop, Side.definesValue]) _ _)
  | field x f fname =>
    simp only
    exact .of_loc (stepField_loc _ _ (by intro vs fs off sz _ _ _ _; simp [GVI, ValEff, hop, Side.definesValue]))
  | indexAddr xk x ix =>
    simp only
    exact .of_loc (stepIndexAddr_loc (by intro v; simp [GVI, ValEff, hop, Side.definesValue]) _ _)
  | index x ix =>
    simp only
    exact .of_loc (stepIndex_loc (by intro v; simp [GVI, ValEff, hop, Side.definesValue]) _ _)
  | lookup x ix => exact .fault _
  | slice xk x lo hi mx =>
    simp only
    exact .of_loc (stepSlice_loc (by intro v; simp [GVI, ValEff, hop, Side.definesValue]) _ _ _ _)
  | makeSlice l c =>
    simp only
    exact .of_loc (stepMakeSlice_loc (by intro v; simp [GVI, ValEff, hop, Side.definesValue]) _ _)
  | makeClosure fn bs => exact .fault _
  | makeInterface x =>
    simp only
    exact .of_loc (stepMakeInterface_loc (by intro v; simp [GVI, ValEff, hop, Side.definesValue]) _)
  | phi es => exact .fault _
  | store vk a v =>
    simp only
    refine .of_loc (stepStore_loc (by simp [hop, Side.definesValue]) _ _ ?_)
    intro b o ha
    simp only [WAddr, hop]
    exact ⟨o, ha⟩
  | «if» c t e =>
    simp only
    split
    · rename_i b hc
      split
      · rename_i fr' hj
        refine .jump _ fr' _ ?_ hj
        simp only [hop, JumpTarget]
        cases b <;> simp
      · exact .fault _
    · exact .fault _
  | jump t =>
    simp only
    split
    · rename_i fr' hj
      exact .jump t fr' _ (by simp [hop, JumpTarget]) hj
    · exact .fault _
  | ret vals =>
    simp only
    cases he : evalOpnds P (popI fr0 rest) vals (popI fr0 rest).f.resultTys with
    | none =>
      unfold stepRet
      simp only [he]
      exact .fault _
    | some vs =>
      rw [retStep_eq P hp _ frs vals vs he]
      exact .ret vals vs hop he
  | panic x =>
    simp only
    split
    · exact .panic _ _
    · exact .fault _
  | unsupported w os => exact .fault _

end EdVerif.Ssa.ES
