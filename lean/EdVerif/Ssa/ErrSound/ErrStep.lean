import EdVerif.Ssa.ErrSound.Path
/-!
# One step of the machine and the error-path invariant
-/
namespace EdVerif.Ssa.ES

open EdVerif.Ssa EdVerif.Ssa.PS

variable {P : Program} {H : List FuncHints} {pol : ErrorPathPolicy}

/-- the designated frame of `D` executes a delegating call: `D'` designates the callee's frame -/
structure DelegateTo (P : Program) (H : List FuncHints) (pol : ErrorPathPolicy) (D D' : Desig) (sf' : Frame)
    (ms : List Nat) (s1 : State) (ms1 : List Nat) : Prop where
  setter : SetterFacts P H pol D'.fi D'.f D'.h
  inv : ErrInv P H pol D' s1 ms1
  below : D'.below = sf' :: D.below
  msb : D'.msBelow = ms
  resume : ∀ hp1 vs, ResProp P D' vs hp1 → D'.h0.blocks.size ≤ hp1.blocks.size →
    ErrInv P H pol D ⟨hp1, retInto sf' D'.dest vs :: D.below⟩ ms

def ErrGoal (P : Program) (H : List FuncHints) (pol : ErrorPathPolicy) (bot : PS.Callee) (D : Desig) (ms : List Nat) : Step → Prop
  | .fault _ => True
  | .panic _ _ _ => True
  | .done s' rets _ => D.below = [] ∧ ResProp P D rets s'.heap ∧ D.h0.blocks.size ≤ s'.heap.blocks.size
  | .cont s1 _ => ∃ ms1, SInv P H bot s1 ms1 ∧ XStack P H s1.stack ∧
      (ErrInv P H pol D s1 ms1 ∨
       (∃ caller brest vs, D.below = caller :: brest ∧ s1.stack = retInto caller D.dest vs :: brest ∧ ms1 = D.msBelow ∧
          ResProp P D vs s1.heap ∧ D.h0.blocks.size ≤ s1.heap.blocks.size) ∨
       (∃ D' sf', DelegateTo P H pol D D' sf' ms s1 ms1))

section
variable {h : FuncHints} {hp : Heap} {fr0 : Frame} {frs : List Frame} {m : Nat} {ms' : List Nat} {rest : List Instr}

theorem topW_ofM (inv : FrameInv P H h fr0 m none) {b : Nat} (hw : Writable P h (popI fr0 rest) m b) :
    TopW P H ⟨hp, fr0 :: frs⟩ (m :: ms') b :=
  topW_of inv hw

end

theorem retInto_fi (c : Frame) (d : Option Nat) (vs : List RVal) : (retInto c d vs).fi = c.fi := by cases d <;> rfl
theorem retInto_f (c : Frame) (d : Option Nat) (vs : List RVal) : (retInto c d vs).f = c.f := by cases d <;> rfl
theorem retInto_params (c : Frame) (d : Option Nat) (vs : List RVal) : (retInto c d vs).params = c.params := by cases d <;> rfl
theorem retInto_dest (c : Frame) (d : Option Nat) (vs : List RVal) : (retInto c d vs).dest = c.dest := by cases d <;> rfl
theorem retInto_blk (c : Frame) (d : Option Nat) (vs : List RVal) : (retInto c d vs).blk = c.blk := by cases d <;> rfl
theorem retInto_rest (c : Frame) (d : Option Nat) (vs : List RVal) : (retInto c d vs).rest = c.rest := by cases d <;> rfl

theorem NPF.congr {D : Desig} {fr fr' : Frame} {m : Nat} (hfi : fr'.fi = fr.fi) (hpar : fr'.params = fr.params)
    (h : NPF P H D fr m) : NPF P H D fr' m := by
  intro h' hh' b hw
  rw [hfi] at hh'
  apply h h' hh' b
  unfold Writable fx at hw ⊢
  rw [hpar] at hw
  exact hw

/-- the last frame of a non-empty list when its head is replaced -/
theorem getLast?_head_swap {α} (x y : α) (l : List α) {c : α} (h : (y :: l).getLast? = some c) :
    (l = [] ∧ c = y) ∨ (l ≠ [] ∧ (x :: l).getLast? = some c) := by
  cases l with
  | nil => left; simp at h; exact ⟨rfl, h.symm⟩
  | cons a as => right; exact ⟨by simp, by simpa [List.getLast?_cons_cons] using h⟩

theorem getLast?_cons_ne {α} (x : α) {l : List α} (hl : l ≠ []) : (x :: l).getLast? = l.getLast? := by
  cases l with
  | nil => exact absurd rfl hl
  | cons a as => simp [List.getLast?_cons_cons]

/-- the designated frame is the top frame -/
theorem err_step_top (F : Facts P H) (X : XFacts P H) (hok : errorPathsOkSimple P H pol = true) {bot : PS.Callee} {D : Desig}
    (SF : SetterFacts P H pol D.fi D.f D.h) {hp : Heap} {sf : Frame}
    (hinv : SInv P H bot ⟨hp, sf :: D.below⟩ (D.h0.blocks.size :: D.msBelow)) (hx : XStack P H (sf :: D.below))
    (E : EI P H pol D ⟨hp, sf :: D.below⟩ (D.h0.blocks.size :: D.msBelow) [] sf []) :
    ErrGoal P H pol bot D (D.h0.blocks.size :: D.msBelow) (step P ⟨hp, sf :: D.below⟩) := by
  have hM := step_inv F hinv
  have hX := step_exact F X hinv hx
  obtain ⟨h, inv, hlow⟩ := hinv.stack
  have hh : h = D.h := by
    have h1 := inv.hh
    rw [E.fi, SF.hh] at h1
    cases h1; rfl
  subst hh
  cases hrest : sf.rest with
  | nil => simp [step, hrest, ErrGoal]
  | cons i rest =>
    obtain ⟨bl, pre, ex⟩ := exec_of_inv F inv hrest
    have hsh := step_shape (P := P) (hp := hp) (frs := D.below) hrest
    have hbD : D.f.blocks[sf.blk]? = some bl := E.f ▸ ex.hb
    have hpath : PathInv P H pol D sf.blk sf.regs pre hp := E.path bl pre hbD (by rw [hrest]; exact ex.hi)
    have hregsX := hx.1 D.h inv.hh
    have hsize : D.h0.blocks.size ≤ hp.blocks.size := E.size
    have hnpf0 : ∀ (blk : Nat), Relevant P H pol D blk → ∀ (k : Nat) (fr : Frame) (m : Nat),
        ([] : List Frame)[k]? = some fr → ([] : List Nat)[k]? = some m → NPF P H D fr m := by
      intro _ _ k fr m hk; simp at hk
    have hpend0 : ∀ (blk : Nat) (c : Frame), ([] : List Frame).getLast? = some c → ∀ dd, c.dest = some dd →
        ∀ d ∈ delBackOf (pc P H D.f D.h) pol, d.1.testBit blk = true → dd ≠ d.2 := by
      intro _ c hc; simp at hc
    -- position of the frame after a local instruction
    have hpos : ∀ bl' pre', D.f.blocks[sf.blk]? = some bl' → bl'.instrs = pre' ++ rest → bl' = bl ∧ pre' = pre ++ [i] := by
      intro bl' pre' hb' hi'
      have e : bl' = bl := by rw [hbD] at hb'; cases hb'; rfl
      subst e
      refine ⟨rfl, ?_⟩
      have : pre' ++ rest = (pre ++ [i]) ++ rest := by rw [← hi', ex.hi]; simp
      exact List.append_cancel_right this
    generalize step P ⟨hp, sf :: D.below⟩ = r at hsh hM hX
    cases hsh with
    | fault w => trivial
    | panic c evs => trivial
    | reg v hp' evs hval hheap hncall hdef =>
      obtain ⟨hinv1, _⟩ := hM.same rfl
      refine ⟨_, hinv1, hX, Or.inl ⟨[], { popI sf rest with regs := regSet sf.regs i.id v }, [],
        { stack := rfl, marks := rfl, len := rfl, fi := E.fi, f := E.f, params := E.params, dest := E.dest,
          size := Nat.le_trans hsize hheap.1, path := ?_, npf := hnpf0 _, pend := hpend0 _ }⟩⟩
      intro bl' pre' hb' hi'
      obtain ⟨e1, e2⟩ := hpos bl' pre' hb' hi'
      subst e1; subst e2
      exact path_local SF F ex E.f hpath hncall hheap hsize (Or.inr ⟨v, hval, rfl⟩)
    | noreg hp' evs hheap hdef =>
      obtain ⟨hinv1, _⟩ := hM.same rfl
      have hncall : ∀ g a, i.op ≠ .call (.fn g) a := by
        intro g a e; rw [e] at hdef; simp [Side.definesValue] at hdef
      refine ⟨_, hinv1, hX, Or.inl ⟨[], popI sf rest, [],
        { stack := rfl, marks := rfl, len := rfl, fi := E.fi, f := E.f, params := E.params, dest := E.dest,
          size := Nat.le_trans hsize hheap.1, path := ?_, npf := hnpf0 _, pend := hpend0 _ }⟩⟩
      intro bl' pre' hb' hi'
      obtain ⟨e1, e2⟩ := hpos bl' pre' hb' hi'
      subst e1; subst e2
      refine path_local SF F ex E.f hpath hncall hheap hsize (Or.inl ⟨rfl, ?_⟩)
      intro c x e; rw [e] at hdef; simp [Side.definesValue] at hdef
    | jump t fr' evs htgt hj =>
      obtain ⟨hinv1, _⟩ := hM.same rfl
      obtain ⟨tb, vals, hb, hv, rfl⟩ := jumpTo_eq_some hj
      have htb : D.f.blocks[t]? = some tb := by rw [← E.f]; exact hb
      refine ⟨_, hinv1, hX, Or.inl ⟨[], _, [],
        { stack := rfl, marks := rfl, len := rfl, fi := E.fi, f := E.f, params := E.params, dest := E.dest,
          size := hsize, path := ?_, npf := hnpf0 _, pend := hpend0 _ }⟩⟩
      intro bl' pre' hb' hi'
      obtain rfl : bl' = tb := Option.some.inj (hb'.symm.trans htb)
      have e2 : pre' = (splitPhis bl'.instrs).1 := by
        have h1 : bl'.instrs = pre' ++ (splitPhis bl'.instrs).2 := hi'
        have h2 := (splitPhis_spec bl'.instrs).1
        exact List.append_cancel_right (h1.symm.trans h2)
      subst e2
      exact path_jump SF F ex E.f hpath htgt htb _
    | call g gf cargs vs nf evs hop he hgf hnf =>
      obtain ⟨hinv1, _⟩ := hM.push rfl
      obtain ⟨b0, hb0, rfl⟩ := mkFrame_eq_some hnf
      have hat : InstrAt D.f sf.blk pre.length i := ⟨bl, hbD, by rw [ex.hi]; simp⟩
      by_cases hdel : ∃ d ∈ delBackOf (pc P H D.f D.h) pol, d.1.testBit sf.blk = true ∧ d.2 = i.id
      · -- the delegating call
        obtain ⟨d0, hd0, hbit0, hid0⟩ := hdel
        obtain ⟨⟨g', rest', gf', hcop, hgf', hset⟩, _⟩ := del_call_shape SF F ex E.f hd0 hid0
        rw [hop] at hcop
        cases hcop
        rw [hgf] at hgf'
        cases hgf'
        obtain ⟨gh, SFg⟩ := setterFacts_of_ok hok hgf hset
        refine ⟨_, hinv1, hX, Or.inr (Or.inr
          ⟨⟨g, gf, gh, vs.toArray, some i.id, hp, popI sf rest :: D.below, D.h0.blocks.size :: D.msBelow⟩, popI sf rest,
           { setter := SFg,
             inv := ⟨[], _, [],
               { stack := rfl, marks := rfl, len := rfl, fi := rfl, f := rfl, params := rfl, dest := rfl,
                 size := Nat.le_refl _, path := ?_, npf := by intro _ k fr m hk; simp at hk,
                 pend := by intro c hc; simp at hc }⟩,
             below := rfl, msb := rfl, resume := ?_ }⟩)⟩
        · intro bl' pre' hb' hi'
          obtain rfl : bl' = b0 := Option.some.inj (hb'.symm.trans hb0)
          have e2 : pre' = [] := by
            have h1 : bl'.instrs = pre' ++ bl'.instrs := hi'
            exact List.append_left_eq_self.1 h1.symm
          subst e2
          refine ⟨fun _ => Unch.refl _, fun d _ _ => ⟨fun _ => Unch.refl _, ?_⟩⟩
          intro ci hci; cases hci
        · intro hp1 vs' hres hsz1
          obtain ⟨r0, rs, hvs, hdr, hsized⟩ := hres
          subst hvs
          refine ⟨[], { popI sf rest with regs := regSet sf.regs i.id (retValue (r0 :: rs)) }, [],
            { stack := rfl, marks := rfl, len := rfl, fi := E.fi, f := E.f, params := E.params, dest := E.dest,
              size := Nat.le_trans hsize hsz1, path := ?_, npf := hnpf0 _, pend := hpend0 _ }⟩
          intro bl' pre' hb' hi'
          obtain ⟨e1, e2⟩ := hpos bl' pre' hb' hi'
          subst e1; subst e2
          refine path_resume SF F ex E.f E.params hpath hop ⟨d0, hd0, hbit0, hid0⟩ hgf ?_ hsized hsize
          rcases hdr with ⟨h1, h2⟩ | h1
          · exact Or.inl ⟨h1, h2⟩
          · right
            obtain ⟨_, hev⟩ := evalOpnds_spec P _ _ _ _ he
            obtain ⟨a0, ha0, hea0⟩ := hev 0 (.param 0) (by simp)
            have h3 : vs[0]? = some r0 := by simpa using h1
            rw [h3] at ha0; cases ha0
            exact hea0
      · -- an ordinary call
        refine ⟨_, hinv1, hX, Or.inl ⟨[_], popI sf rest, [hp.blocks.size],
          { stack := rfl, marks := rfl, len := rfl, fi := E.fi, f := E.f, params := E.params, dest := E.dest,
            size := hsize, path := ?_, npf := ?_, pend := ?_ }⟩⟩
        · intro bl' pre' hb' hi'
          obtain ⟨e1, e2⟩ := hpos bl' pre' hb' hi'
          subst e1; subst e2
          exact path_call hpath hop hdel
        · intro hr k fr m hk hm
          cases k with
          | succ k => simp at hk
          | zero =>
            simp only [List.getElem?_cons_zero, Option.some.injEq] at hk hm
            subst hk; subst hm
            have hnt : touchesRecv (pc P H D.f D.h) i = false := by
              cases ht : touchesRecv (pc P H D.f D.h) i with
              | false => rfl
              | true =>
                obtain ⟨herr, hall⟩ := (eInstr_spec (SF.einstr sf.blk pre.length i hat)).2 ht
                rcases hr with hr | ⟨d, hd, hbit⟩
                · rw [herr] at hr; cases hr
                · exact absurd ⟨d, hd, hbit, hall d hd hbit⟩ hdel
            exact callee_notProt ex.ic E.f SF.inputW hop hnt he hgf rfl rfl hsize
        · intro c hc dd hdd d hd hbit e
          simp only [List.getLast?_singleton, Option.some.injEq] at hc
          subst hc
          simp only [Option.some.injEq] at hdd
          subst hdd
          exact hdel ⟨d, hd, hbit, e.symm⟩
    | once b o g gf nf hp' args evs hop hwa hwr hgf hnf =>
      obtain ⟨hinv1, _⟩ := hM.push rfl
      obtain ⟨b0, hb0, rfl⟩ := mkFrame_eq_some hnf
      have hsz' : hp'.blocks.size = hp.blocks.size := (Heap.write_spec hwr).2.1
      have hncall : ∀ g a, i.op ≠ .call (.fn g) a := by intro g a e; rw [hop] at e; cases e
      refine ⟨_, hinv1, hX, Or.inl ⟨[_], { popI sf rest with regs := regSet sf.regs i.id [] }, [hp'.blocks.size],
        { stack := rfl, marks := rfl, len := rfl, fi := E.fi, f := E.f, params := E.params, dest := E.dest,
          size := ?_, path := ?_, npf := ?_, pend := ?_ }⟩⟩
      · show D.h0.blocks.size ≤ hp'.blocks.size
        omega
      · intro bl' pre' hb' hi'
        obtain ⟨e1, e2⟩ := hpos bl' pre' hb' hi'
        subst e1; subst e2
        exact path_local SF F ex E.f hpath hncall (HeapStep.write hwr hwa) hsize
          (Or.inr ⟨[], by simp [ValEff, hop], rfl⟩)
      · intro hr k fr m hk hm
        cases k with
        | succ k => simp at hk
        | zero =>
          simp only [List.getElem?_cons_zero, Option.some.injEq] at hk hm
          subst hk; subst hm
          exact closure_notProt F hgf rfl rfl (by omega)
      · intro c hc dd hdd
        simp only [List.getLast?_singleton, Option.some.injEq] at hc
        subst hc
        cases hdd
    | ret vals vs hop he =>
      have hres := ret_result SF F ex E.f E.params hpath hregsX hop he
      cases hbelow : D.below with
      | nil =>
        exact ⟨hbelow, hres, hsize⟩
      | cons caller brest =>
        rw [hbelow] at hM hX
        obtain ⟨hinv1, _⟩ := hM.pop rfl
        refine ⟨_, hinv1, hX, Or.inr (Or.inl ⟨caller, brest, vs, hbelow, ?_, rfl, hres, hsize⟩)⟩
        show retInto caller (popI sf rest).dest vs :: brest = retInto caller D.dest vs :: brest
        rw [show (popI sf rest).dest = D.dest from E.dest]

/-- replacing the head of `above` by a frame with the same destination keeps `pend` -/
theorem pend_swap {D : Desig} {blk : Nat} {tf tf1 : Frame} {above' : List Frame} (hdest : tf1.dest = tf.dest)
    (h : ∀ c, (tf :: above').getLast? = some c → ∀ dd, c.dest = some dd →
      ∀ d ∈ delBackOf (pc P H D.f D.h) pol, d.1.testBit blk = true → dd ≠ d.2) :
    ∀ c, (tf1 :: above').getLast? = some c → ∀ dd, c.dest = some dd →
      ∀ d ∈ delBackOf (pc P H D.f D.h) pol, d.1.testBit blk = true → dd ≠ d.2 := by
  intro c hc dd hdd
  rcases getLast?_head_swap tf tf1 above' hc with ⟨hl, hc'⟩ | ⟨_, hc'⟩
  · subst hl; subst hc'
    exact h tf rfl dd (hdest ▸ hdd)
  · exact h c hc' dd hdd

/-- a frame above the designated frame is the top frame -/
theorem err_step_above (F : Facts P H) (X : XFacts P H) {bot : PS.Callee} {D : Desig}
    (SF : SetterFacts P H pol D.fi D.f D.h) {hp : Heap} {tf sf : Frame} {above' : List Frame} {mt : Nat} {msAbove' : List Nat}
    (hinv : SInv P H bot ⟨hp, tf :: (above' ++ sf :: D.below)⟩ (mt :: (msAbove' ++ D.h0.blocks.size :: D.msBelow)))
    (hx : XStack P H (tf :: (above' ++ sf :: D.below)))
    (E : EI P H pol D ⟨hp, tf :: (above' ++ sf :: D.below)⟩ (mt :: (msAbove' ++ D.h0.blocks.size :: D.msBelow))
      (tf :: above') sf (mt :: msAbove')) :
    ErrGoal P H pol bot D (mt :: (msAbove' ++ D.h0.blocks.size :: D.msBelow)) (step P ⟨hp, tf :: (above' ++ sf :: D.below)⟩) := by
  have hM := step_inv F hinv
  have hX := step_exact F X hinv hx
  obtain ⟨h, inv, hlow⟩ := hinv.stack
  have hsize : D.h0.blocks.size ≤ hp.blocks.size := E.size
  have hlen : msAbove'.length = above'.length := by have := E.len; simpa using this
  have hnpfT : Relevant P H pol D sf.blk → NPF P H D tf mt := fun hr => E.npf hr 0 tf mt rfl rfl
  have hnpfK : Relevant P H pol D sf.blk → ∀ (k : Nat) fr m, above'[k]? = some fr → msAbove'[k]? = some m → NPF P H D fr m :=
    fun hr k fr m hk hm => E.npf hr (k + 1) fr m (by simpa using hk) (by simpa using hm)
  -- the top frame cannot write protected blocks
  have hUn : ∀ hp1, HeapStep (TopW P H ⟨hp, tf :: (above' ++ sf :: D.below)⟩ (mt :: (msAbove' ++ D.h0.blocks.size :: D.msBelow))) hp hp1 →
      Relevant P H pol D sf.blk → Unch P D hp → Unch P D hp1 := by
    intro hp1 hs hr hu
    refine hu.step hs ?_ hsize
    intro b ⟨fr, frs, m, ms', h', hst, hms, hh', hw⟩
    cases hst; cases hms
    exact hnpfT hr h' hh' b hw
  have hpathOf : ∀ hp1, HeapStep (TopW P H ⟨hp, tf :: (above' ++ sf :: D.below)⟩ (mt :: (msAbove' ++ D.h0.blocks.size :: D.msBelow))) hp hp1 →
      ∀ bl pre, D.f.blocks[sf.blk]? = some bl → bl.instrs = pre ++ sf.rest → PathInv P H pol D sf.blk sf.regs pre hp1 :=
    fun hp1 hs bl pre hb hi => (E.path bl pre hb hi).heap (hUn hp1 hs)
  -- replacing the top frame by one of the same function with the same arguments
  have hnpfSwap : ∀ tf' : Frame, tf'.fi = tf.fi → tf'.params = tf.params → Relevant P H pol D sf.blk →
      ∀ (k : Nat) fr m, (tf' :: above')[k]? = some fr → (mt :: msAbove')[k]? = some m → NPF P H D fr m := by
    intro tf' e1 e2 hr k fr m hk hm
    cases k with
    | zero =>
      simp only [List.getElem?_cons_zero, Option.some.injEq] at hk hm
      subst hk; subst hm
      exact (hnpfT hr).congr e1 e2
    | succ k => exact hnpfK hr k fr m (by simpa using hk) (by simpa using hm)
  cases hrest : tf.rest with
  | nil => simp [step, hrest, ErrGoal]
  | cons i rest =>
    obtain ⟨bl, pre, ex⟩ := exec_of_inv F inv hrest
    have hsh := step_shape (P := P) (hp := hp) (frs := above' ++ sf :: D.below) hrest
    generalize step P ⟨hp, tf :: (above' ++ sf :: D.below)⟩ = r at hsh hM hX
    cases hsh with
    | fault w => trivial
    | panic c evs => trivial
    | reg v hp' evs hval hheap hncall hdef =>
      obtain ⟨hinv1, hstep⟩ := hM.same rfl
      refine ⟨_, hinv1, hX, Or.inl ⟨{ popI tf rest with regs := regSet tf.regs i.id v } :: above', sf, mt :: msAbove',
        { stack := rfl, marks := rfl, len := E.len, fi := E.fi, f := E.f, params := E.params, dest := E.dest,
          size := Nat.le_trans hsize hstep.1, path := hpathOf _ hstep, npf := hnpfSwap _ rfl rfl, pend := pend_swap (tf := tf) rfl E.pend }⟩⟩
    | noreg hp' evs hheap hdef =>
      obtain ⟨hinv1, hstep⟩ := hM.same rfl
      refine ⟨_, hinv1, hX, Or.inl ⟨popI tf rest :: above', sf, mt :: msAbove',
        { stack := rfl, marks := rfl, len := E.len, fi := E.fi, f := E.f, params := E.params, dest := E.dest,
          size := Nat.le_trans hsize hstep.1, path := hpathOf _ hstep, npf := hnpfSwap _ rfl rfl, pend := pend_swap (tf := tf) rfl E.pend }⟩⟩
    | jump t fr' evs htgt hj =>
      obtain ⟨hinv1, hstep⟩ := hM.same rfl
      obtain ⟨tb, vals, hb, hv, rfl⟩ := jumpTo_eq_some hj
      refine ⟨_, hinv1, hX, Or.inl ⟨_ :: above', sf, mt :: msAbove',
        { stack := rfl, marks := rfl, len := E.len, fi := E.fi, f := E.f, params := E.params, dest := E.dest,
          size := hsize, path := hpathOf _ hstep, npf := hnpfSwap _ rfl rfl, pend := pend_swap (tf := tf) rfl E.pend }⟩⟩
    | call g gf cargs vs nf evs hop he hgf hnf =>
      obtain ⟨hinv1, hstep⟩ := hM.push rfl
      refine ⟨_, hinv1, hX, Or.inl ⟨nf :: popI tf rest :: above', sf, hp.blocks.size :: mt :: msAbove',
        { stack := rfl, marks := rfl, len := by simp [hlen], fi := E.fi, f := E.f, params := E.params, dest := E.dest,
          size := hsize, path := hpathOf _ hstep, npf := ?_, pend := ?_ }⟩⟩
      · intro hr k fr m hk hm
        cases k with
        | zero =>
          simp only [List.getElem?_cons_zero, Option.some.injEq] at hk hm
          subst hk; subst hm
          -- what the callee may write, the caller may write
          obtain ⟨gh, ninv, hlow1⟩ := hinv1.stack
          simp only [LowerInv] at hlow1
          obtain ⟨h2, cinv, link, _⟩ := hlow1
          intro gh' hgh' b hw
          have : gh' = gh := by
            have h1 := ninv.hh
            rw [hgh'] at h1; cases h1; rfl
          subst this
          exact (hnpfT hr).congr (fr' := popI tf rest) rfl rfl h2 cinv.hh b (link.wr b hw)
        | succ k => exact hnpfSwap (popI tf rest) rfl rfl hr k fr m (by simpa using hk) (by simpa using hm)
      · intro c hc
        rw [getLast?_cons_ne nf (by simp)] at hc
        exact pend_swap (tf := tf) (tf1 := popI tf rest) rfl E.pend c hc
    | once b o g gf nf hp' args evs hop hwa hwr hgf hnf =>
      obtain ⟨hinv1, hstep⟩ := hM.push rfl
      obtain ⟨b0, hb0, rfl⟩ := mkFrame_eq_some hnf
      have hsz' : hp'.blocks.size = hp.blocks.size := (Heap.write_spec hwr).2.1
      refine ⟨_, hinv1, hX, Or.inl ⟨_ :: { popI tf rest with regs := regSet tf.regs i.id [] } :: above', sf,
        hp'.blocks.size :: mt :: msAbove',
        { stack := rfl, marks := rfl, len := by simp [hlen], fi := E.fi, f := E.f, params := E.params, dest := E.dest,
          size := ?_, path := hpathOf _ hstep, npf := ?_, pend := ?_ }⟩⟩
      · show D.h0.blocks.size ≤ hp'.blocks.size
        omega
      · intro hr k fr m hk hm
        cases k with
        | zero =>
          simp only [List.getElem?_cons_zero, Option.some.injEq] at hk hm
          subst hk; subst hm
          exact closure_notProt F hgf rfl rfl (by omega)
        | succ k => exact hnpfSwap { popI tf rest with regs := regSet tf.regs i.id [] } rfl rfl hr k fr m (by simpa using hk) (by simpa using hm)
      · intro c hc
        rw [getLast?_cons_ne _ (by simp)] at hc
        exact pend_swap (tf := tf) (tf1 := { popI tf rest with regs := regSet tf.regs i.id [] }) rfl E.pend c hc
    | ret vals vs hop he =>
      cases above' with
      | nil =>
        -- the callee returns into the designated frame
        have hms0 : msAbove' = [] := List.eq_nil_of_length_eq_zero hlen
        subst hms0
        simp only [List.nil_append] at hM hX hlow ⊢
        obtain ⟨hinv1, hstep⟩ := hM.pop rfl
        simp only [LowerInv] at hlow
        obtain ⟨hs, sinv, link, _⟩ := hlow
        have hhs : hs = D.h := by
          have h1 := sinv.hh
          rw [E.fi, SF.hh] at h1
          cases h1; rfl
        subst hhs
        refine ⟨_, hinv1, hX, Or.inl ⟨[], retInto sf (popI tf rest).dest vs, [],
          { stack := rfl, marks := rfl, len := rfl,
            fi := (retInto_fi _ _ _).trans E.fi, f := (retInto_f _ _ _).trans E.f,
            params := (retInto_params _ _ _).trans E.params, dest := (retInto_dest _ _ _).trans E.dest,
            size := hsize, path := ?_, npf := by intro _ k fr m hk; simp at hk, pend := by intro c hc; simp at hc }⟩⟩
        rw [retInto_blk, retInto_rest]
        intro bl' pre' hb' hi'
        have hp0 := E.path bl' pre' hb' hi'
        cases hd : (popI tf rest).dest with
        | none => simp only [retInto]; exact hp0
        | some dd =>
          simp only [retInto]
          refine path_ret _ hp0 (E.pend tf rfl dd hd) ?_
          intro j hj c x hjop e
          obtain ⟨ic, cargs, gh, hic, hicop, _⟩ := link.call dd hd
          obtain ⟨k, hk⟩ := List.getElem?_of_mem hj
          have hatj : InstrAt D.f sf.blk k j := by
            refine ⟨bl', hb', ?_⟩
            have hlt : k < pre'.length := lt_length_of_getElem? hk
            rw [hi', List.getElem?_append_left hlt]; exact hk
          have hself := instrs_at hatj (sInstr_spec (F.side D.fi D.f D.h SF.hf SF.hh sf.blk k j hatj)).id
          rw [e, ← E.f, hic] at hself
          cases hself
          rw [hjop] at hicop
          cases hicop
      | cons tf2 above'' =>
        obtain ⟨hinv1, hstep⟩ := hM.pop rfl
        cases msAbove' with
        | nil => simp at hlen
        | cons m2 msAbove'' =>
          refine ⟨_, hinv1, hX, Or.inl ⟨retInto tf2 (popI tf rest).dest vs :: above'', sf, m2 :: msAbove'',
            { stack := rfl, marks := rfl, len := hlen, fi := E.fi, f := E.f, params := E.params, dest := E.dest,
              size := hsize, path := hpathOf _ hstep, npf := ?_, pend := ?_ }⟩⟩
          · intro hr k fr m hk hm
            cases k with
            | zero =>
              simp only [List.getElem?_cons_zero, Option.some.injEq] at hk hm
              subst hk; subst hm
              exact (hnpfK hr 0 tf2 m2 rfl rfl).congr (retInto_fi _ _ _) (retInto_params _ _ _)
            | succ k => exact hnpfK hr (k + 1) fr m (by simpa using hk) (by simpa using hm)
          · have hold : ∀ c, (tf2 :: above'').getLast? = some c → ∀ dd, c.dest = some dd →
                ∀ d ∈ delBackOf (pc P H D.f D.h) pol, d.1.testBit sf.blk = true → dd ≠ d.2 := by
              intro c hc
              exact E.pend c (by rw [getLast?_cons_ne tf (by simp)]; exact hc)
            exact pend_swap (tf := tf2) (retInto_dest _ _ _) hold

end EdVerif.Ssa.ES
