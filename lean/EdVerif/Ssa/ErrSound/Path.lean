import EdVerif.Ssa.ErrSound.Inv
/-!
# The path invariant at calls and returns of the designated setter frame
-/
namespace EdVerif.Ssa.ES

open EdVerif.Ssa EdVerif.Ssa.PS

variable {P : Program} {H : List FuncHints} {pol : ErrorPathPolicy}

/-- a callee returned into the setter frame (destination `dd`) -/
theorem path_ret {D : Desig} {blk : Nat} {regs : Array RVal} {pre : List Instr} {hp : Heap} {dd : Nat} (v : RVal)
    (hpath : PathInv P H pol D blk regs pre hp)
    (hdd : ∀ d ∈ delBackOf (pc P H D.f D.h) pol, d.1.testBit blk = true → dd ≠ d.2)
    (hext : ∀ j ∈ pre, ∀ c x, j.op = .extract c x → j.id ≠ dd) :
    PathInv P H pol D blk (regSet regs dd v) pre hp := by
  refine ⟨hpath.1, ?_⟩
  intro d hd hbit
  obtain ⟨h2, h3⟩ := hpath.2 d hd hbit
  refine ⟨h2, ?_⟩
  intro ci hci hcid
  obtain ⟨w0, wrest, hreg, hsized, hdel, hx⟩ := h3 ci hci hcid
  refine ⟨w0, wrest, regSet_other (fun e => hdd d hd hbit e.symm) hreg, hsized, hdel, ?_⟩
  intro j hj hjop hlt
  exact regSet_other (hext j hj _ _ hjop) (hx j hj hjop hlt)

/-- the setter frame calls a program function that is not the delegating call of a relevant return -/
theorem path_call {D : Desig} {blk : Nat} {regs : Array RVal} {pre : List Instr} {hp : Heap} {i : Instr}
    (hpath : PathInv P H pol D blk regs pre hp) {g : Nat} {cargs : List Opnd} (hop : i.op = .call (.fn g) cargs)
    (hnd : ¬ ∃ d ∈ delBackOf (pc P H D.f D.h) pol, d.1.testBit blk = true ∧ d.2 = i.id) :
    PathInv P H pol D blk regs (pre ++ [i]) hp := by
  refine ⟨hpath.1, ?_⟩
  intro d hd hbit
  obtain ⟨h2, h3⟩ := hpath.2 d hd hbit
  constructor
  · intro hn
    apply h2
    rintro ⟨ci, hci, hcid⟩
    exact hn ⟨ci, List.mem_append_left _ hci, hcid⟩
  · intro ci hci hcid
    rcases List.mem_append.1 hci with hci | hci
    · obtain ⟨w0, wrest, hreg, hsized, hdel, hx⟩ := h3 ci hci hcid
      refine ⟨w0, wrest, hreg, hsized, hdel, ?_⟩
      intro j hj hjop hlt
      rcases List.mem_append.1 hj with hj | hj
      · exact hx j hj hjop hlt
      · simp only [List.mem_singleton] at hj
        subst hj
        rw [hop] at hjop; cases hjop
    · simp only [List.mem_singleton] at hci
      subst hci
      exact absurd ⟨d, hd, hbit, hcid.symm⟩ hnd

section setter
variable {D : Desig} (SF : SetterFacts P H pol D.fi D.f D.h) (F : Facts P H)
include SF F

/-- a delegating call: a call of a setter of the policy on the receiver; it touches the receiver -/
theorem del_call_shape {sf : Frame} {i : Instr} {rest : List Instr} {bl : Block} {pre : List Instr}
    (ex : Exec P H D.h sf D.h0.blocks.size i rest bl pre) (hf : sf.f = D.f)
    {d : Nat × Nat} (hd : d ∈ delBackOf (pc P H D.f D.h) pol) (hid : d.2 = i.id) :
    (∃ g rest' gf, i.op = .call (.fn g) (.param 0 :: rest') ∧ P.funcs[g]? = some gf ∧ pol.setters.any (· == gf.name) = true) ∧
    touchesRecv (pc P H D.f D.h) i = true := by
  obtain ⟨bd, bl', n', kc, ci, hb', _, _, hkc, hcid, _, _, g, rest', gf, hcop, hgf, hset⟩ := SF.delSite F hd
  have hatc : InstrAt D.f bd kc ci := ⟨bl', hb', hkc⟩
  have h1 := instrs_at hatc (sInstr_spec (F.side D.fi D.f D.h SF.hf SF.hh bd kc ci hatc)).id
  have h2 : D.f.instrs[i.id]? = some i := hf ▸ ex.ic.self
  rw [hcid, hid, h2] at h1
  cases h1
  refine ⟨⟨g, rest', gf, hcop, hgf, hset⟩, ?_⟩
  simp only [touchesRecv, hcop, anyL, labHasRecv, PCtx.lab, Bool.or_eq_true]
  left
  rw [SF.recv, testBit_param]
  simp

/-- the delegating call returned `vs'` -/
theorem path_resume {sf : Frame} {i : Instr} {rest : List Instr} {bl : Block} {pre : List Instr} {hp hp1 : Heap}
    (ex : Exec P H D.h sf D.h0.blocks.size i rest bl pre) (hf : sf.f = D.f) (hpar : sf.params = D.params)
    (hpath : PathInv P H pol D sf.blk sf.regs pre hp) {g : Nat} {cargs : List Opnd} (hop : i.op = .call (.fn g) cargs)
    (hdel : ∃ d ∈ delBackOf (pc P H D.f D.h) pol, d.1.testBit sf.blk = true ∧ d.2 = i.id)
    {gf : Func} (hgf : P.funcs[g]? = some gf) {r0 : RVal} {rs : List RVal}
    (hres : (r0 = [.nil] ∧ AllUnchanged P hp hp1) ∨ sf.params[0]? = some r0)
    (hsized : ∀ t, gf.resultTys[0]? = some t → Sized P t r0) (hsz : D.h0.blocks.size ≤ hp.blocks.size) :
    PathInv P H pol D sf.blk (regSet sf.regs i.id (retValue (r0 :: rs))) (pre ++ [i]) hp1 := by
  have hb : D.f.blocks[sf.blk]? = some bl := hf ▸ ex.hb
  have hat : InstrAt D.f sf.blk pre.length i := ⟨bl, hb, by rw [ex.hi]; simp⟩
  have hids := ids_of_block F SF.hf SF.hh hb ex.hi
  have hiid := (sInstr_spec (F.side D.fi D.f D.h SF.hf SF.hh sf.blk pre.length i hat)).id
  have hlt_pre : ∀ j ∈ pre, j.id < i.id := by
    intro j hj
    obtain ⟨k, hk⟩ := List.getElem?_of_mem hj
    have hlt : k < pre.length := lt_length_of_getElem? hk
    rw [hids k j hk, hiid]; omega
  obtain ⟨d0, hd0, _, hid0⟩ := hdel
  obtain ⟨_, htouch⟩ := del_call_shape SF F ex hf hd0 hid0
  obtain ⟨herr, hall⟩ := (eInstr_spec (SF.einstr sf.blk pre.length i hat)).2 htouch
  refine ⟨fun hS => absurd hS (by rw [herr]; simp), ?_⟩
  intro d hd hbit
  have hdid : d.2 = i.id := hall d hd hbit
  obtain ⟨h2, _⟩ := hpath.2 d hd hbit
  constructor
  · intro hn
    exact absurd ⟨i, by simp, hdid.symm⟩ hn
  · intro _ _ _
    rw [hdid]
    refine ⟨r0, rs.flatten, ?_, ?_, ?_, ?_⟩
    · rw [regSet_self]; simp [retValue]
    · intro ic g' cargs' gf' t hic hicop hgf' ht
      have h2' : D.f.instrs[i.id]? = some i := hf ▸ ex.ic.self
      rw [h2'] at hic; cases hic
      rw [hop] at hicop; cases hicop
      rw [hgf] at hgf'; cases hgf'
      exact hsized t ht
    · rcases hres with ⟨hnil, hun⟩ | hp0
      · left
        refine ⟨hnil, Unch.trans (h2 ?_) hun hsz⟩
        rintro ⟨ci, hci, hcid⟩
        have := hlt_pre ci hci
        omega
      · right
        rw [← hpar]; exact hp0
    · intro j hj hjop hlt
      rcases List.mem_append.1 hj with hj | hj
      · have := hlt_pre j hj
        omega
      · simp only [List.mem_singleton] at hj
        subst hj
        rw [hop] at hjop; cases hjop

/-- the `Return` of the setter frame -/
theorem ret_result {sf : Frame} {i : Instr} {rest : List Instr} {bl : Block} {pre : List Instr} {hp : Heap}
    (ex : Exec P H D.h sf D.h0.blocks.size i rest bl pre) (hf : sf.f = D.f) (hpar : sf.params = D.params)
    (hpath : PathInv P H pol D sf.blk sf.regs pre hp)
    (hregsX : ∀ (id : Nat) (v : RVal), sf.regs[id]? = some v → Exact sf.params (provOf D.h.provRegs id) v)
    {vals : List Opnd} {vs : List RVal} (hop : i.op = .ret vals)
    (he : evalOpnds P (popI sf rest) vals sf.f.resultTys = some vs) : ResProp P D vs hp := by
  have hb : D.f.blocks[sf.blk]? = some bl := hf ▸ ex.hb
  have hat : InstrAt D.f sf.blk pre.length i := ⟨bl, hb, by rw [ex.hi]; simp⟩
  have hids := ids_of_block F SF.hf SF.hh hb ex.hi
  have hiid := (sInstr_spec (F.side D.fi D.f D.h SF.hf SF.hh sf.blk pre.length i hat)).id
  obtain ⟨v0, vtl, hvals, hcls⟩ := (eInstr_spec (SF.einstr sf.blk pre.length i hat)).1 vals hop
  subst hvals
  obtain ⟨_, hlast⟩ := SF.termLast hb ex.hi (by simp [hop, Op.isTerminator])
  obtain ⟨_, _, _, _, hretc⟩ := sInstr_spec' (SF.sinstr sf.blk pre.length i hat)
  obtain ⟨hnil, hdelok⟩ := hretc v0 vtl hop
  -- the first result
  obtain ⟨hlen, hev⟩ := evalOpnds_spec P _ _ _ _ he
  obtain ⟨r0, hr0, hev0⟩ := hev 0 v0 (by simp)
  obtain ⟨rs, hvs⟩ : ∃ rs, vs = r0 :: rs := by
    cases vs with
    | nil => simp at hr0
    | cons a as => simp at hr0; subst hr0; exact ⟨as, rfl⟩
  -- its size
  have hctl := ex.side.ctl
  simp only [hop, Bool.and_eq_true] at hctl
  obtain ⟨_, hrsz⟩ := retSized_spec (P := P) _ _ _ _ hctl.1
  obtain ⟨t0, ht0, ht0', ht0s⟩ := hrsz 0 v0 (by simp)
  have hsz0 : Sized P t0 r0 := by
    rw [ht0'] at hev0
    exact evalOpnd_sized ex.ic.defd ex.ic.paramsSized ht0s hev0
  have ht0D : D.f.resultTys[0]? = some t0 := by rw [← hf]; exact ht0
  have hsized : ∀ t, D.f.resultTys[0]? = some t → Sized P t r0 := by
    intro t ht; rw [ht0D] at ht; cases ht; exact hsz0
  refine ⟨r0, rs, hvs, ?_, hsized⟩
  rcases hcls with hc | hc | ⟨cid, hc⟩
  · -- error return
    obtain ⟨k, hk⟩ := classifyRet_error hc
    subst hk
    left
    constructor
    · simp only [evalOpnd, Option.some.injEq] at hev0
      simp only [ErrSide.nilOk, bne_iff_ne, ne_eq] at hnil
      rw [← hev0]
      cases k <;> first | rfl | exact absurd rfl hnil
    · exact hpath.1 (SF.errSeed hb hlast hop hc)
  · -- success return
    right
    rw [← hpar]
    rcases classifyRet_success hc with hv | ⟨r, hv, hlab⟩
    · subst hv
      exact hev0
    · subst hv
      have hreg : sf.regs[r]? = some r0 := hev0
      rcases hregsX r r0 hreg with h0 | hall
      · -- a defined register of the type of the first result is not empty
        obtain ⟨n, hn, hn1⟩ := SF.res0
        have hhd : D.f.resultTys.headD 0 = t0 := by
          cases hres : D.f.resultTys with
          | nil => rw [hres] at ht0D; simp at ht0D
          | cons a as => rw [hres] at ht0D; simp at ht0D; simp [ht0D]
        rw [hhd] at hn
        have := hsz0 n hn
        rw [h0] at this
        simp at this
        omega
      · exact hall 0 (by omega) hlab
  · -- delegated return
    obtain ⟨d, hd, hdid, hbit⟩ := SF.delSeed hb hlast hop hc
    obtain ⟨r, ir, cc, hv, hir, hirop, _, _⟩ := classifyRet_delegated hc
    subst hv
    unfold ErrSide.delOk at hdelok
    simp only [hc, Bool.and_eq_true, decide_eq_true_eq] at hdelok
    obtain ⟨⟨hd1, hd2⟩, hd3⟩ := hdelok
    -- the delegating call has been executed in this block
    have hkc : cid - (blockOffsets D.f.blocks 0).getD sf.blk 0 < pre.length := by omega
    have hgc := List.getElem?_eq_getElem hkc
    have hcid' : (pre[cid - (blockOffsets D.f.blocks 0).getD sf.blk 0]).id = cid := by
      rw [hids _ _ hgc]; omega
    obtain ⟨_, h3⟩ := hpath.2 d hd hbit
    obtain ⟨w0, wrest, _, _, hdelres, hx⟩ := h3 _ (List.getElem_mem hkc) (by rw [hcid', hdid])
    rw [hdid] at hx
    -- the `Extract #0` too
    have hkr : r - (blockOffsets D.f.blocks 0).getD sf.blk 0 < pre.length := by omega
    have hgr := List.getElem?_eq_getElem hkr
    have hrid : (pre[r - (blockOffsets D.f.blocks 0).getD sf.blk 0]).id = r := by
      rw [hids _ _ hgr]; omega
    have hatr : InstrAt D.f sf.blk (r - (blockOffsets D.f.blocks 0).getD sf.blk 0) pre[r - (blockOffsets D.f.blocks 0).getD sf.blk 0] :=
      ⟨bl, hb, by rw [ex.hi, List.getElem?_append_left hkr]; exact hgr⟩
    have hself := instrs_at hatr (sInstr_spec (F.side D.fi D.f D.h SF.hf SF.hh sf.blk _ _ hatr)).id
    rw [hrid] at hself
    have hireq : ir = pre[r - (blockOffsets D.f.blocks 0).getD sf.blk 0] := Option.some.inj (hir.symm.trans hself)
    have hregr := hx _ (List.getElem_mem hkr) (by rw [← hireq]; exact hirop) (by rw [hrid]; exact hd2)
    rw [hrid] at hregr
    have : sf.regs[r]? = some r0 := hev0
    rw [hregr] at this
    cases this
    exact hdelres

end setter

end EdVerif.Ssa.ES
