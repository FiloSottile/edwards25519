import EdVerif.Ssa.ErrSound.Graph
/-!
# Exact labels: a value whose label is exactly `param k` *is* argument `k`

An invariant of the whole stack (`XStack`), preserved by every step (`step_exact`), given the side
conditions `ErrSide.exactSelector`.
-/
namespace EdVerif.Ssa.ES

open EdVerif.Ssa EdVerif.Ssa.PS

/-! ## `exactIdx` -/

theorem param_inj {k k' : Nat} (h : Prov.param k = Prov.param k') : k = k' := by
  have : (Prov.param k).testBit k' = true := by rw [h, testBit_param]; simp
  rw [testBit_param] at this
  simpa using this

theorem param_ne_zero (k : Nat) : Prov.param k ≠ 0 := by
  intro h
  have : (Prov.param k).testBit k = true := by rw [testBit_param]; simp
  rw [h] at this
  simp at this

theorem param_lt {k : Nat} (hk : k < 16) : Prov.param k < 65536 := by
  unfold Prov.param
  rw [Nat.one_shiftLeft]
  exact Nat.pow_lt_pow_right (by omega) hk

theorem param_ne_of_testBit {L : Prov} {k b : Nat} (hb : L.testBit b = true) (hne : b ≠ k) : L ≠ Prov.param k := by
  intro h
  rw [h, testBit_param] at hb
  simp at hb
  exact hne hb.symm

theorem exactIdxGo_some {L : Prov} : ∀ {n j : Nat}, ErrSide.exactIdxGo L n = some j → L = Prov.param j ∧ j < n := by
  intro n
  induction n with
  | zero => intro j h; simp [ErrSide.exactIdxGo] at h
  | succ n ih =>
    intro j h
    simp only [ErrSide.exactIdxGo] at h
    split at h
    · rename_i hc
      cases h
      exact ⟨by simpa using hc, by omega⟩
    · obtain ⟨h1, h2⟩ := ih h
      exact ⟨h1, by omega⟩

theorem exactIdxGo_of {L : Prov} {k : Nat} (hL : L = Prov.param k) : ∀ {n : Nat}, k < n → ErrSide.exactIdxGo L n = some k := by
  intro n
  induction n with
  | zero => intro h; omega
  | succ n ih =>
    intro h
    simp only [ErrSide.exactIdxGo]
    by_cases hk : k = n
    · subst hk; simp [hL]
    · have : (L == Prov.param n) = false := by
        rw [hL]
        simp only [beq_eq_false_iff_ne, ne_eq]
        intro e; exact hk (param_inj e)
      simp only [this, Bool.false_eq_true, if_false]
      exact ih (by omega)

theorem exactIdx_some {L : Prov} {j : Nat} (h : ErrSide.exactIdx L = some j) : L = Prov.param j ∧ j < 16 := by
  unfold ErrSide.exactIdx at h
  split at h
  · cases h
  · split at h
    · cases h
    · exact exactIdxGo_some h

theorem exactIdx_of {k : Nat} (hk : k < 16) : ErrSide.exactIdx (Prov.param k) = some k := by
  unfold ErrSide.exactIdx
  have h1 : (Prov.param k == 0) = false := by simpa using param_ne_zero k
  have h2 : ¬ 65536 ≤ Prov.param k := Nat.not_le.2 (param_lt hk)
  simp only [h1, Bool.false_eq_true, if_false, h2]
  exact exactIdxGo_of rfl hk

/-! ## the side conditions, unpacked -/

/-- what `xInstr` demands of an instruction whose register is labelled exactly `L` -/
def XOp (c : PCtx) (i : Instr) (L : Prov) : Prop :=
  match i.op with
  | .changeType x => c.lab x = L
  | .phi es => ∀ e ∈ es, c.lab e.2 = L
  | .call (.fn g) args =>
    ∃ gf gh j o, c.prog.funcs[g]? = some gf ∧ c.hints[g]? = some gh ∧ gf.resultTys.length = 1 ∧
      ErrSide.exactIdx (gh.returns.headD 0) = some j ∧ args[j]? = some o ∧ c.lab o = L
  | _ => False

theorem phiAll_spec (c : PCtx) (L : Prov) : ∀ (es : List (Nat × Opnd)), ErrSide.phiAll c L es = true → ∀ e ∈ es, c.lab e.2 = L := by
  intro es
  induction es with
  | nil => intro _ e he; cases he
  | cons x xs ih =>
    intro h e he
    simp only [ErrSide.phiAll, Bool.and_eq_true, beq_iff_eq] at h
    rcases List.mem_cons.1 he with e1 | e1
    · subst e1; exact h.1
    · exact ih h.2 e e1

theorem xInstr_ret {c : PCtx} {i : Instr} (h : ErrSide.xInstr c i = []) {v : Opnd} (hop : i.op = .ret [v])
    {j : Nat} (hj : ErrSide.exactIdx (c.h.returns.headD 0) = some j) : c.lab v = c.h.returns.headD 0 := by
  unfold ErrSide.xInstr at h
  have hc := ite_nil h
  simp only [Bool.and_eq_true] at hc
  have h1 := hc.1
  simp only [hop, hj, beq_iff_eq] at h1
  exact h1

theorem xInstr_reg {c : PCtx} {i : Instr} (h : ErrSide.xInstr c i = []) (hd : Side.definesValue i.op = true)
    {k : Nat} (hk : ErrSide.exactIdx (provOf c.h.provRegs i.id) = some k) : XOp c i (provOf c.h.provRegs i.id) := by
  unfold ErrSide.xInstr at h
  have hc := ite_nil h
  simp only [Bool.and_eq_true] at hc
  have h2 := hc.2
  simp only [hd, if_true, hk] at h2
  unfold XOp
  cases hop : i.op
  case changeType x =>
    simp only [hop, beq_iff_eq] at h2 ⊢
    exact h2
  case phi es =>
    simp only [hop] at h2 ⊢
    exact phiAll_spec _ _ _ h2
  case call callee args =>
    cases callee with
    | fn g =>
      simp only [hop] at h2 ⊢
      split at h2
      · rename_i gf gh hgf hgh
        simp only [Bool.and_eq_true, beq_iff_eq] at h2
        obtain ⟨hlen, h3⟩ := h2
        split at h3
        · rename_i j hj
          split at h3
          · rename_i o ho
            exact ⟨gf, gh, j, o, hgf, hgh, hlen, hj, ho, by simpa using h3⟩
          · cases h3
        · cases h3
      · cases h2
    | _ => simp only [hop] at h2; cases h2
  all_goals (simp only [hop] at h2; cases h2)

/-- the side conditions of `ErrSide.exactSelector`, per instruction -/
def XFacts (P : Program) (H : List FuncHints) : Prop :=
  ∀ (fi : Nat) f h, P.funcs[fi]? = some f → H[fi]? = some h → ∀ b n i, InstrAt f b n i →
    ErrSide.xInstr { prog := P, hints := H, f := f, h := h } i = []

theorem xfacts_of_ok {P : Program} {H : List FuncHints} (h : allClean (ErrSide.exactSelector P H) P.funcs H 0 = true) :
    XFacts P H := by
  intro fi f h' hf hh'
  exact (allClean_at h hf hh' rfl).2

/-! ## the invariant -/

/-- `v` is argument `k` if its label `L` is exactly `param k` (a register padded by `regSet` holds `[]`) -/
def Exact (params : Array RVal) (L : Prov) (v : RVal) : Prop :=
  v = [] ∨ ∀ k, k < 16 → L = Prov.param k → params[k]? = some v

theorem Exact.nil (params : Array RVal) (L : Prov) : Exact params L [] := Or.inl rfl

theorem Exact.of_not {params : Array RVal} {L : Prov} {v : RVal} (h : ∀ k, k < 16 → L ≠ Prov.param k) : Exact params L v :=
  Or.inr fun k hk e => absurd e (h k hk)

theorem Exact.of_bit {params : Array RVal} {L : Prov} {v : RVal} {b : Nat} (hb : L.testBit b = true) (h16 : 16 ≤ b) :
    Exact params L v :=
  Exact.of_not fun k hk => param_ne_of_testBit hb (by omega)

theorem Exact.zero {params : Array RVal} {v : RVal} : Exact params 0 v :=
  Exact.of_not fun k _ e => param_ne_zero k e.symm

def XF (H : List FuncHints) (fr : Frame) : Prop :=
  ∀ h, H[fr.fi]? = some h → ∀ (id : Nat) (v : RVal), fr.regs[id]? = some v → Exact fr.params (provOf h.provRegs id) v

/-- the callee frame `c` was entered by the call instruction `c.dest` of the frame `fr` below it: its
    arguments are the values of the call's operands -/
def XLink (P : Program) (H : List FuncHints) (c fr : Frame) : Prop :=
  ∀ d, c.dest = some d → ∃ ic cargs, fr.f.instrs[d]? = some ic ∧ ic.id = d ∧ ic.op = .call (.fn c.fi) cargs ∧
    ∀ h, H[fr.fi]? = some h → ∀ (j : Nat) (a : RVal), c.params[j]? = some a →
      ∃ o, cargs[j]? = some o ∧ Exact fr.params ((pc P H fr.f h).lab o) a

def XStack (P : Program) (H : List FuncHints) : List Frame → Prop
  | [] => True
  | c :: rest => XF H c ∧ (∀ fr, rest.head? = some fr → XLink P H c fr) ∧ XStack P H rest

theorem evalOpnd_exact {P : Program} {H : List FuncHints} {h : FuncHints} {fr : Frame}
    (hregs : ∀ (id : Nat) (v : RVal), fr.regs[id]? = some v → Exact fr.params (provOf h.provRegs id) v)
    {ty : Nat} {o : Opnd} {v : RVal} (he : evalOpnd P fr ty o = some v) : Exact fr.params ((pc P H fr.f h).lab o) v := by
  cases o with
  | reg id => exact hregs id v he
  | param i =>
    simp only [PCtx.lab, paramProv]
    cases hp : fr.f.params[i]? with
    | none => exact Exact.of_bit (b := 17) (by simp [testBit_loaded]) (by omega)
    | some p =>
      simp only
      by_cases hk : p.k.pointerish = true
      · simp only [hk, if_true]
        refine Or.inr ?_
        intro k _ e
        have := param_inj e
        subst this
        exact he
      · have hk' : p.k.pointerish = false := by simpa using hk
        simp only [hk', Bool.false_eq_true, if_false]
        exact Exact.zero
  | freeVar i => simp [evalOpnd] at he
  | cint k n => exact Exact.zero
  | cbool b => exact Exact.zero
  | cstr s => exact Exact.zero
  | nil k => exact Exact.of_bit (b := 19) (by simp [PCtx.lab, testBit_maybeNil]) (by omega)
  | zero k => exact Exact.zero
  | cother => simp [evalOpnd] at he
  | global g => exact Exact.of_bit (b := 20 + g) (by simp [PCtx.lab, testBit_global]) (by omega)
  | fn f => exact Exact.zero
  | extern n => simp [evalOpnd] at he
  | builtin n => simp [evalOpnd] at he

theorem instrAt_of_flat {f : Func} {d : Nat} {ic : Instr} (h : f.instrs[d]? = some ic) : ∃ b n, InstrAt f b n ic := by
  have hm : ic ∈ f.instrs := List.mem_of_getElem? h
  unfold Func.instrs at hm
  rw [List.mem_flatMap] at hm
  obtain ⟨bl, hbl, hi⟩ := hm
  obtain ⟨b, hb⟩ := List.getElem?_of_mem hbl
  obtain ⟨n, hn⟩ := List.getElem?_of_mem hi
  exact ⟨b, n, bl, hb, hn⟩

theorem exact_of_lab {params : Array RVal} {L L' : Prov} {v : RVal} (hE : Exact params L' v)
    (h : ∀ k, k < 16 → L = Prov.param k → L' = L) : Exact params L v := by
  rcases hE with h0 | hall
  · exact Or.inl h0
  · exact Or.inr fun k hk e => hall k hk ((h k hk e).trans e)

section step
variable {P : Program} {H : List FuncHints}

/-- the value a local instruction defines -/
theorem exact_newReg (X : XFacts P H) {h : FuncHints} {fr0 : Frame} {mark : Nat} {i : Instr} {rest : List Instr} {bl : Block} {pre : List Instr}
    (inv : FrameInv P H h fr0 mark none) (ex : Exec P H h fr0 mark i rest bl pre)
    (hregs : ∀ (id : Nat) (v : RVal), fr0.regs[id]? = some v → Exact fr0.params (provOf h.provRegs id) v)
    {v : RVal} (hval : ValEff P (popI fr0 rest) i v) (hncall : ∀ g a, i.op ≠ .call (.fn g) a)
    (hdef : Side.definesValue i.op = true) : Exact fr0.params (provOf h.provRegs i.id) v := by
  have xi := X fr0.fi fr0.f h inv.hf inv.hh fr0.blk pre.length i (instrAt_of_split ex.hb ex.hi)
  by_cases hex : ∃ k, k < 16 ∧ provOf h.provRegs i.id = Prov.param k
  · obtain ⟨k, hk, hL⟩ := hex
    have hidx : ErrSide.exactIdx (provOf h.provRegs i.id) = some k := by rw [hL]; exact exactIdx_of hk
    have xop := xInstr_reg xi hdef hidx
    unfold XOp at xop
    cases hop : i.op
    case changeType x =>
      simp only [hop] at xop
      simp only [ValEff, hop] at hval
      have hE : Exact fr0.params ((pc P H fr0.f h).lab x) v := evalOpnd_exact (fr := popI fr0 rest) hregs hval
      exact exact_of_lab hE (fun _ _ _ => xop)
    case phi es =>
      simp only [ValEff, hop] at hval
    case call callee args =>
      cases callee with
      | fn g => exact absurd hop (hncall g args)
      | _ => simp only [hop] at xop
    all_goals (simp only [hop] at xop)
  · exact Exact.of_not fun k hk e => hex ⟨k, hk, e⟩

theorem step_exact (F : Facts P H) (X : XFacts P H) {bot : PS.Callee} {s : State} {ms : List Nat}
    (hinv : SInv P H bot s ms) (hx : XStack P H s.stack) :
    match step P s with
    | .cont s' _ => XStack P H s'.stack
    | _ => True := by
  obtain ⟨hp, stack⟩ := s
  cases stack with
  | nil => simp [step]
  | cons fr0 frs =>
    cases ms with
    | nil => exact absurd hinv.stack (by simp [StackInv])
    | cons m ms' =>
      obtain ⟨h, inv, hlow⟩ := hinv.stack
      cases hrest : fr0.rest with
      | nil => simp [step, hrest]
      | cons i rest =>
        obtain ⟨bl, pre, ex⟩ := exec_of_inv F inv hrest
        have hsh := step_shape (P := P) (hp := hp) (frs := frs) hrest
        obtain ⟨hxf, hxl, hxs⟩ := hx
        have hregs : ∀ (id : Nat) (v : RVal), fr0.regs[id]? = some v → Exact fr0.params (provOf h.provRegs id) v :=
          hxf h inv.hh
        generalize step P ⟨hp, fr0 :: frs⟩ = r at hsh
        cases hsh with
        | fault w => trivial
        | panic c evs => trivial
        | reg v hp' evs hval hheap hncall hdef =>
          refine ⟨?_, hxl, hxs⟩
          intro h' hh' id w hw
          obtain rfl : h' = h := Option.some.inj (hh'.symm.trans inv.hh)
          exact regSet_forall (P := fun id v => Exact fr0.params (provOf h'.provRegs id) v) hregs
            (exact_newReg X inv ex hregs hval hncall hdef) (fun _ => Exact.nil _ _) id w hw
        | noreg hp' evs hheap hdef => exact ⟨hxf, hxl, hxs⟩
        | jump t fr' evs htgt hj =>
          obtain ⟨tb, vals, hb, hv, rfl⟩ := jumpTo_eq_some hj
          refine ⟨?_, hxl, hxs⟩
          intro h' hh' id w hw
          obtain rfl : h' = h := Option.some.inj (hh'.symm.trans inv.hh)
          have hb' : fr0.f.blocks[t]? = some tb := hb
          obtain ⟨hsplit, _⟩ := splitPhis_spec tb.instrs
          obtain ⟨_, hvals⟩ := evalPhis_spec (P := P) _ _ _ _ hv
          refine assignAll_forall (P := fun id v => Exact fr0.params (provOf h'.provRegs id) v) (fun _ => Exact.nil _ _)
            vals fr0.regs hregs ?_ id w hw
          intro e he
          obtain ⟨j, hjm, es, o, hid, hop, hedge, hev⟩ := hvals e he
          obtain ⟨n, hn⟩ := List.getElem?_of_mem (List.mem_append_left (splitPhis tb.instrs).2 hjm)
          rw [← hsplit] at hn
          have hat : InstrAt fr0.f t n j := ⟨tb, hb', hn⟩
          have xj := X fr0.fi fr0.f h' inv.hf inv.hh t n j hat
          have hE : Exact fr0.params ((pc P H fr0.f h').lab o) e.2 := evalOpnd_exact (fr := popI fr0 rest) hregs hev
          refine exact_of_lab hE ?_
          intro k hk hL
          rw [← hid] at hL
          have hidx : ErrSide.exactIdx (provOf h'.provRegs j.id) = some k := by rw [hL]; exact exactIdx_of hk
          have xop := xInstr_reg xj (by simp [hop, Side.definesValue]) hidx
          simp only [XOp, hop] at xop
          obtain ⟨e', he', ho'⟩ := phiEdge_mem hedge
          rw [← hid, ← ho']
          exact xop e' he'
        | call g gf cargs vs nf evs hop he hgf hnf =>
          obtain ⟨b0, hb0, rfl⟩ := mkFrame_eq_some hnf
          refine ⟨?_, ?_, hxf, hxl, hxs⟩
          · intro h' _ id w hw; simp at hw
          · intro fr hfr d hd
            simp only [List.head?_cons, Option.some.injEq] at hfr
            subst hfr
            simp only [Option.some.injEq] at hd
            subst hd
            refine ⟨i, cargs, ex.ic.self, rfl, hop, ?_⟩
            intro h' hh' j a ha
            obtain rfl : h' = h := Option.some.inj (hh'.symm.trans inv.hh)
            have ha' : vs[j]? = some a := by simpa using ha
            obtain ⟨hlen, hev⟩ := evalOpnds_spec P _ _ _ _ he
            have hj : j < cargs.length := by rw [← hlen]; exact lt_length_of_getElem? ha'
            obtain ⟨v', hv1, hv2⟩ := hev j cargs[j] (List.getElem?_eq_getElem hj)
            rw [ha'] at hv1; cases hv1
            exact ⟨cargs[j], List.getElem?_eq_getElem hj, evalOpnd_exact (fr := popI fr0 rest) hregs hv2⟩
        | once b o g gf nf hp' args evs hop hwa hwr hgf hnf =>
          obtain ⟨b0, hb0, rfl⟩ := mkFrame_eq_some hnf
          refine ⟨?_, ?_, ?_, hxl, hxs⟩
          · intro h' _ id w hw; simp at hw
          · intro fr _ d hd; simp at hd
          · intro h' hh' id w hw
            obtain rfl : h' = h := Option.some.inj (hh'.symm.trans inv.hh)
            exact regSet_forall (P := fun id v => Exact fr0.params (provOf h'.provRegs id) v) hregs
              (Exact.nil _ _) (fun _ => Exact.nil _ _) id w hw
        | ret vals vs hop he =>
          cases frs with
          | nil => trivial
          | cons caller rest' =>
            obtain ⟨hcf, hcl, hcs⟩ := hxs
            cases hd : fr0.dest with
            | none =>
              simp only [retStep, retInto]
              have : (popI fr0 rest).dest = none := hd
              rw [this]
              exact ⟨hcf, hcl, hcs⟩
            | some d =>
              simp only [retStep, retInto]
              have : (popI fr0 rest).dest = some d := hd
              rw [this]
              refine ⟨?_, hcl, hcs⟩
              cases ms' with
              | nil => simp [LowerInv] at hlow
              | cons mc ms'' =>
                simp only [LowerInv] at hlow
                obtain ⟨hc, cinv, _, _⟩ := hlow
                intro h' hh' id w hw
                obtain rfl : h' = hc := Option.some.inj (hh'.symm.trans cinv.hh)
                refine regSet_forall (P := fun id v => Exact caller.params (provOf h'.provRegs id) v) (hcf h' cinv.hh)
                  ?_ (fun _ => Exact.nil _ _) id w hw
                -- the value handed to the caller
                by_cases hex : ∃ k, k < 16 ∧ provOf h'.provRegs d = Prov.param k
                · obtain ⟨k, hk, hL⟩ := hex
                  obtain ⟨ic, cargs, hic, hicid, hicop, hargs⟩ := hxl caller rfl d hd
                  obtain ⟨cb, cn, hat⟩ := instrAt_of_flat hic
                  have xc := X caller.fi caller.f h' cinv.hf cinv.hh cb cn ic hat
                  have hidx : ErrSide.exactIdx (provOf h'.provRegs ic.id) = some k := by rw [hicid, hL]; exact exactIdx_of hk
                  have xop := xInstr_reg xc (by simp [hicop, Side.definesValue]) hidx
                  simp only [XOp, hicop] at xop
                  obtain ⟨gf, gh, j, o, hgf, hgh, hlen1, hjx, hoj, hlab⟩ := xop
                  have hgf' : gf = fr0.f := Option.some.inj (hgf.symm.trans inv.hf)
                  have hgh' : gh = h := Option.some.inj (hgh.symm.trans inv.hh)
                  subst hgf'; subst hgh'
                  -- the callee returns one operand
                  have hctl := ex.side.ctl
                  simp only [hop, Bool.and_eq_true] at hctl
                  obtain ⟨hvl, _⟩ := retSized_spec (P := P) _ _ _ _ hctl.1
                  obtain ⟨hlen, hev⟩ := evalOpnds_spec P _ _ _ _ he
                  have hvals1 : vals.length = 1 := by rw [hvl]; exact hlen1
                  cases vals with
                  | nil => simp at hvals1
                  | cons v0 vtl =>
                    cases vtl with
                    | cons _ _ => simp at hvals1
                    | nil =>
                      obtain ⟨w0, hw1, hw2⟩ := hev 0 v0 (by simp)
                      have hvs : vs = [w0] := by
                        cases vs with
                        | nil => simp at hw1
                        | cons a as =>
                          simp at hw1; subst hw1
                          cases as with
                          | nil => rfl
                          | cons _ _ => simp at hlen
                      subst hvs
                      have hrv : retValue [w0] = w0 := by simp [retValue]
                      rw [hrv]
                      have xi := X fr0.fi fr0.f gh inv.hf inv.hh fr0.blk pre.length i (instrAt_of_split ex.hb ex.hi)
                      have hlv := xInstr_ret xi hop hjx
                      obtain ⟨hpj, hj16⟩ := exactIdx_some hjx
                      have hE : Exact fr0.params ((pc P H fr0.f gh).lab v0) w0 := evalOpnd_exact (fr := popI fr0 rest) hregs hw2
                      rcases hE with h0 | hall
                      · exact Or.inl h0
                      · have hpar : fr0.params[j]? = some w0 := hall j hj16 (by rw [hlv]; exact hpj)
                        obtain ⟨o', ho', hEo⟩ := hargs h' cinv.hh j w0 hpar
                        rw [hoj] at ho'; cases ho'
                        exact exact_of_lab hEo (fun _ _ _ => by rw [hlab, hicid])
                · exact Exact.of_not fun k hk e => hex ⟨k, hk, e⟩

end step

end EdVerif.Ssa.ES
