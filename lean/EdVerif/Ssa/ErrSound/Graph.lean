import EdVerif.Ssa.ErrSound.Shape
/-!
# Block graph: closure under predecessors, the scan of the returns, ids are positions
-/
namespace EdVerif.Ssa.ES

open EdVerif.Ssa EdVerif.Ssa.PS

/-! ## `listMask`, `predMasks` -/

theorem memNat_iff (x : Nat) : ∀ (ys : List Nat), memNat x ys = true ↔ x ∈ ys := by
  intro ys
  induction ys with
  | nil => simp [memNat]
  | cons y ys ih => simp [memNat, ih]

theorem testBit_listMask : ∀ (ps : List Nat) (m k : Nat), (listMask ps m).testBit k = true ↔ (m.testBit k = true ∨ k ∈ ps) := by
  intro ps
  induction ps with
  | nil => intro m k; simp [listMask]
  | cons p ps ih =>
    intro m k
    simp only [listMask]
    rw [ih]
    simp only [Nat.testBit_or, testBit_one_shl, Bool.or_eq_true, decide_eq_true_eq, List.mem_cons]
    constructor
    · rintro ((h | h) | h)
      · exact Or.inl h
      · exact Or.inr (Or.inl h.symm)
      · exact Or.inr (Or.inr h)
    · rintro (h | h | h)
      · exact Or.inl (Or.inl h)
      · exact Or.inl (Or.inr h.symm)
      · exact Or.inr h

theorem predMasks_get : ∀ (bs : List Block) (j : Nat) (bl : Block), bs[j]? = some bl →
    (predMasks bs)[j]? = some (listMask bl.preds 0) := by
  intro bs
  induction bs with
  | nil => intro j bl h; simp at h
  | cons b bs ih =>
    intro j bl h
    cases j with
    | zero => simp at h; subst h; simp [predMasks]
    | succ j => simp at h; simpa [predMasks] using ih j bl h

/-! ## `closeStep`, `closeN`; `bl` is the set of blocked nodes -/

theorem testBit_closeStepGo (s : Nat) : ∀ (masks : List Nat) (i acc k : Nat),
    (closeStepGo s masks i acc).testBit k = true ↔
      (acc.testBit k = true ∨ ∃ j m, masks[j]? = some m ∧ s.testBit (i + j) = true ∧ m.testBit k = true) := by
  intro masks
  induction masks with
  | nil => intro i acc k; simp [closeStepGo]
  | cons m ms ih =>
    intro i acc k
    simp only [closeStepGo]
    rw [ih]
    constructor
    · rintro (h | ⟨j, m', hj, hs, hm⟩)
      · split at h
        · rename_i hb
          simp only [Nat.testBit_or, Bool.or_eq_true] at h
          rcases h with h | h
          · exact Or.inl h
          · exact Or.inr ⟨0, m, by simp, by simpa using hb, h⟩
        · exact Or.inl h
      · exact Or.inr ⟨j + 1, m', by simpa using hj, by rw [show i + (j + 1) = i + 1 + j by omega]; exact hs, hm⟩
    · rintro (h | ⟨j, m', hj, hs, hm⟩)
      · left
        split
        · simp [Nat.testBit_or, h]
        · exact h
      · cases j with
        | zero =>
          simp at hj; subst hj
          left
          simp only [Nat.add_zero] at hs
          simp [hs, Nat.testBit_or, hm]
        | succ j =>
          right
          exact ⟨j, m', by simpa using hj, by rw [show i + 1 + j = i + (j + 1) by omega]; exact hs, hm⟩

theorem testBit_closeStep (masks : List Nat) (bl s k : Nat) :
    (closeStep masks bl s).testBit k = true ↔
      (bl.testBit k = false ∧ (s.testBit k = true ∨ ∃ j m, masks[j]? = some m ∧ s.testBit j = true ∧ m.testBit k = true)) := by
  unfold closeStep
  simp only
  rw [testBit_sub_and]
  simp only [Bool.and_eq_true, Bool.not_eq_true']
  rw [testBit_closeStepGo]
  simp only [Nat.zero_add]
  exact And.comm

theorem closeStep_disj (masks : List Nat) (bl s : Nat) : ∀ k, (closeStep masks bl s).testBit k = true → bl.testBit k = false :=
  fun k hk => ((testBit_closeStep masks bl s k).1 hk).1

theorem closeStep_ge {masks : List Nat} {bl s : Nat} (hd : ∀ k, s.testBit k = true → bl.testBit k = false) {k : Nat}
    (h : s.testBit k = true) : (closeStep masks bl s).testBit k = true :=
  (testBit_closeStep masks bl s k).2 ⟨hd k h, Or.inl h⟩

theorem closeN_ge (masks : List Nat) (bl : Nat) : ∀ (n s : Nat), (∀ k, s.testBit k = true → bl.testBit k = false) →
    ∀ k, s.testBit k = true → (closeN masks bl n s).testBit k = true := by
  intro n
  induction n with
  | zero => intro s _ k h; simpa [closeN] using h
  | succ n ih =>
    intro s hd k h
    simp only [closeN]
    split
    · exact h
    · exact ih _ (closeStep_disj masks bl s) k (closeStep_ge hd h)

theorem reach_ge (masks : List Nat) (s k : Nat) (h : s.testBit k = true) : (reach masks 0 s).testBit k = true :=
  closeN_ge masks 0 _ s (fun _ _ => Nat.zero_testBit _) k h

/-- a set that `closeStep` does not enlarge is closed under the masks, up to blocked nodes -/
theorem closed_of_fix {masks : List Nat} {bl S : Nat} (hfix : closeStep masks bl S = S)
    {j m k : Nat} (hj : masks[j]? = some m) (hS : S.testBit j = true) (hm : m.testBit k = true) :
    S.testBit k = true ∨ bl.testBit k = true := by
  cases hb : bl.testBit k with
  | true => exact Or.inr rfl
  | false => left; rw [← hfix]; exact (testBit_closeStep masks bl S k).2 ⟨hb, Or.inr ⟨j, m, hj, hS, hm⟩⟩

/-- … for the predecessor masks of a function: closed under "`b` is listed as a predecessor of `t`" -/
theorem predClosed {f : Func} {S : Nat} (hfix : closeStep (predMasks f.blocks) 0 S = S)
    {b t : Nat} (hp : ErrSide.predOk f b t = true) (ht : t < f.blocks.length) (hS : S.testBit t = true) : S.testBit b = true := by
  unfold ErrSide.predOk at hp
  have hget := List.getElem?_eq_getElem ht
  rw [hget] at hp
  simp only at hp
  refine (closed_of_fix hfix (predMasks_get f.blocks t _ hget) hS
    ((testBit_listMask _ 0 b).2 (Or.inr ((memNat_iff b _).1 hp)))).resolve_right ?_
  simp

/-! ## `reach` is closed: `closeN` runs long enough (a counting argument) -/

/-- number of bits `< n` of `s` -/
def cntBits (s : Nat) : Nat → Nat
  | 0 => 0
  | n + 1 => cntBits s n + (if s.testBit n = true then 1 else 0)

theorem cntBits_le (s : Nat) : ∀ n, cntBits s n ≤ n := by
  intro n
  induction n with
  | zero => simp [cntBits]
  | succ n ih => simp only [cntBits]; split <;> omega

theorem cntBits_mono {s t : Nat} (h : ∀ k, s.testBit k = true → t.testBit k = true) : ∀ n,
    cntBits s n ≤ cntBits t n ∧ (cntBits s n = cntBits t n → ∀ i, i < n → t.testBit i = true → s.testBit i = true) := by
  intro n
  induction n with
  | zero => exact ⟨Nat.le_refl _, fun _ i hi => by omega⟩
  | succ n ih =>
    obtain ⟨h1, h2⟩ := ih
    simp only [cntBits]
    by_cases hs : s.testBit n = true
    · have ht := h n hs
      simp only [hs, ht, if_true]
      refine ⟨by omega, ?_⟩
      intro e i hi hti
      by_cases hin : i = n
      · subst hin; exact hs
      · exact h2 (by omega) i (by omega) hti
    · by_cases ht : t.testBit n = true
      · simp only [hs, ht, if_true, Bool.false_eq_true, if_false]
        refine ⟨by omega, ?_⟩
        intro e; omega
      · simp only [hs, ht, Bool.false_eq_true, if_false]
        refine ⟨by omega, ?_⟩
        intro e i hi hti
        by_cases hin : i = n
        · subst hin; exact absurd hti ht
        · exact h2 (by omega) i (by omega) hti

theorem cntBits_eq_zero {s : Nat} : ∀ {n}, cntBits s n = 0 → ∀ i, i < n → s.testBit i = false := by
  intro n
  induction n with
  | zero => intro _ i hi; omega
  | succ n ih =>
    intro h i hi
    simp only [cntBits] at h
    by_cases hs : s.testBit n = true
    · simp [hs] at h
    · simp only [hs, Bool.false_eq_true, if_false, Nat.add_zero] at h
      by_cases hin : i = n
      · subst hin; simpa using hs
      · exact ih h i (by omega)

/-- if a round adds no block number, the next round adds nothing at all -/
theorem closeStep_idem {masks : List Nat} {bl s : Nat}
    (hcore : ∀ j, j < masks.length → (closeStep masks bl s).testBit j = true → s.testBit j = true) :
    closeStep masks bl (closeStep masks bl s) = closeStep masks bl s := by
  apply Nat.eq_of_testBit_eq
  intro k
  cases hb : (closeStep masks bl s).testBit k with
  | true => exact closeStep_ge (closeStep_disj masks bl s) hb
  | false =>
    cases hb2 : (closeStep masks bl (closeStep masks bl s)).testBit k with
    | false => rfl
    | true =>
      rw [testBit_closeStep] at hb2
      obtain ⟨hbl, h | ⟨j, m, hj, hsj, hm⟩⟩ := hb2
      · rw [hb] at h; cases h
      · have : (closeStep masks bl s).testBit k = true :=
          (testBit_closeStep masks bl s k).2 ⟨hbl, Or.inr ⟨j, m, hj, hcore j (lt_length_of_getElem? hj) hsj, hm⟩⟩
        rw [hb] at this; cases this

theorem closeN_of_fix {masks : List Nat} {bl t : Nat} (h : closeStep masks bl t = t) : ∀ k, closeN masks bl k t = t := by
  intro k
  cases k with
  | zero => rfl
  | succ k => simp [closeN, h]

theorem closeN_isFix (masks : List Nat) (bl : Nat) : ∀ (k s : Nat), (∀ k, s.testBit k = true → bl.testBit k = false) →
    masks.length + 1 ≤ k + cntBits s masks.length →
    closeStep masks bl (closeN masks bl k s) = closeN masks bl k s := by
  intro k
  induction k with
  | zero =>
    intro s _ h
    have := cntBits_le s masks.length
    omega
  | succ k ih =>
    intro s hd h
    simp only [closeN]
    split
    · rename_i he
      simpa using he
    · obtain ⟨h1, h2⟩ := cntBits_mono (s := s) (t := closeStep masks bl s) (fun k hk => closeStep_ge hd hk) masks.length
      by_cases hlt : cntBits s masks.length < cntBits (closeStep masks bl s) masks.length
      · exact ih _ (closeStep_disj masks bl s) (by omega)
      · have hfix := closeStep_idem (masks := masks) (bl := bl) (s := s) (h2 (by omega))
        rw [closeN_of_fix hfix]
        exact hfix

/-- the set `reach` computes from a start set without blocked nodes is closed under the masks, up to blocked nodes -/
theorem reach_fix (masks : List Nat) (bl s : Nat) (hd : ∀ k, s.testBit k = true → bl.testBit k = false) :
    closeStep masks bl (reach masks bl s) = reach masks bl s := by
  unfold reach
  by_cases hc : cntBits s masks.length = 0
  · have hz := cntBits_eq_zero hc
    have hfix : closeStep masks bl s = s := by
      apply Nat.eq_of_testBit_eq
      intro k
      cases hb : s.testBit k with
      | true => exact closeStep_ge hd hb
      | false =>
        cases hb2 : (closeStep masks bl s).testBit k with
        | false => rfl
        | true =>
          rw [testBit_closeStep] at hb2
          obtain ⟨_, h | ⟨j, m, hj, hsj, _⟩⟩ := hb2
          · rw [hb] at h; cases h
          · rw [hz j (lt_length_of_getElem? hj)] at hsj; cases hsj
    rw [closeN_of_fix hfix]
    exact hfix
  · exact closeN_isFix masks bl _ s hd (by omega)

/-! ## `scanReturns` -/

/-- what the scan adds for one block -/
def scanOne (c : PCtx) (pol : ErrorPathPolicy) (b : Block) (n : Nat) (acc : Nat × List (Nat × Nat)) : Nat × List (Nat × Nat) :=
  match b.instrs.getLast? with
  | some i =>
    match i.op with
    | .ret (v0 :: _) =>
      match classifyRet c pol v0 with
      | .error => (acc.1 ||| (1 <<< n), acc.2)
      | .delegated cid => (acc.1, (n, cid) :: acc.2)
      | _ => acc
    | _ => acc
  | none => acc

theorem scanReturns_cons (c : PCtx) (pol : ErrorPathPolicy) (b : Block) (bs : List Block) (n : Nat) (acc : Nat × List (Nat × Nat)) :
    scanReturns c pol (b :: bs) n acc = scanReturns c pol bs (n + 1) (scanOne c pol b n acc) := rfl

theorem scanOne_mono (c : PCtx) (pol : ErrorPathPolicy) (b : Block) (n : Nat) (acc : Nat × List (Nat × Nat)) :
    (∀ k, acc.1.testBit k = true → (scanOne c pol b n acc).1.testBit k = true) ∧
    (∀ e ∈ acc.2, e ∈ (scanOne c pol b n acc).2) := by
  unfold scanOne
  repeat' split
  all_goals first
    | exact ⟨fun _ h => h, fun _ h => h⟩
    | exact ⟨fun k h => by simp [Nat.testBit_or, h], fun _ h => h⟩
    | exact ⟨fun _ h => h, fun e h => List.mem_cons_of_mem _ h⟩

theorem scanOne_hit (c : PCtx) (pol : ErrorPathPolicy) (b : Block) (n : Nat) (acc : Nat × List (Nat × Nat))
    {i : Instr} {v0 : Opnd} {vs : List Opnd} (hl : b.instrs.getLast? = some i) (hop : i.op = .ret (v0 :: vs)) :
    (classifyRet c pol v0 = .error → (scanOne c pol b n acc).1.testBit n = true) ∧
    (∀ cid, classifyRet c pol v0 = .delegated cid → (n, cid) ∈ (scanOne c pol b n acc).2) := by
  unfold scanOne
  simp only [hl, hop]
  constructor
  · intro he
    simp [he, Nat.testBit_or]
  · intro cid he
    simp [he]

theorem scanOne_new (c : PCtx) (pol : ErrorPathPolicy) (b : Block) (n : Nat) (acc : Nat × List (Nat × Nat)) :
    ∀ e ∈ (scanOne c pol b n acc).2, e ∈ acc.2 ∨
      ∃ i v0 vs, e.1 = n ∧ b.instrs.getLast? = some i ∧ i.op = .ret (v0 :: vs) ∧ classifyRet c pol v0 = .delegated e.2 := by
  intro e he
  unfold scanOne at he
  split at he
  · rename_i i hl
    split at he
    · rename_i v0 vs hop
      split at he
      · exact Or.inl he
      · rename_i cid hc
        rcases List.mem_cons.1 he with e1 | e1
        · subst e1; exact Or.inr ⟨i, v0, vs, rfl, hl, hop, hc⟩
        · exact Or.inl e1
      · exact Or.inl he
    · exact Or.inl he
  · exact Or.inl he

theorem scanReturns_spec (c : PCtx) (pol : ErrorPathPolicy) : ∀ (bs : List Block) (n : Nat) (acc : Nat × List (Nat × Nat)),
    (∀ k, acc.1.testBit k = true → (scanReturns c pol bs n acc).1.testBit k = true) ∧
    (∀ e ∈ acc.2, e ∈ (scanReturns c pol bs n acc).2) ∧
    (∀ j bl i v0 vs, bs[j]? = some bl → bl.instrs.getLast? = some i → i.op = .ret (v0 :: vs) →
      (classifyRet c pol v0 = .error → (scanReturns c pol bs n acc).1.testBit (n + j) = true) ∧
      (∀ cid, classifyRet c pol v0 = .delegated cid → (n + j, cid) ∈ (scanReturns c pol bs n acc).2)) ∧
    (∀ e ∈ (scanReturns c pol bs n acc).2, e ∈ acc.2 ∨
      ∃ j bl i v0 vs, bs[j]? = some bl ∧ e.1 = n + j ∧ bl.instrs.getLast? = some i ∧ i.op = .ret (v0 :: vs) ∧
        classifyRet c pol v0 = .delegated e.2) := by
  intro bs
  induction bs with
  | nil =>
    intro n acc
    refine ⟨fun _ h => h, fun _ h => h, ?_, fun e h => Or.inl h⟩
    intro j bl i v0 vs h; simp at h
  | cons b bs ih =>
    intro n acc
    rw [scanReturns_cons]
    obtain ⟨h1, h2, h3, h4⟩ := ih (n + 1) (scanOne c pol b n acc)
    obtain ⟨m1, m2⟩ := scanOne_mono c pol b n acc
    refine ⟨fun k h => h1 k (m1 k h), fun e h => h2 e (m2 e h), ?_, ?_⟩
    · intro j bl i v0 vs hj hl hop
      cases j with
      | zero =>
        simp at hj; subst hj
        obtain ⟨g1, g2⟩ := scanOne_hit c pol b n acc hl hop
        exact ⟨fun he => h1 _ (g1 he), fun cid he => h2 _ (g2 cid he)⟩
      | succ j =>
        simp at hj
        have := h3 j bl i v0 vs hj hl hop
        rw [show n + 1 + j = n + (j + 1) by omega] at this
        exact this
    · intro e he
      rcases h4 e he with h | ⟨j, bl, i, v0, vs, hj, he1, hl, hop, hc⟩
      · rcases scanOne_new c pol b n acc e h with h' | ⟨i, v0, vs, he1, hl, hop, hc⟩
        · exact Or.inl h'
        · exact Or.inr ⟨0, b, i, v0, vs, by simp, by simpa using he1, hl, hop, hc⟩
      · exact Or.inr ⟨j + 1, bl, i, v0, vs, by simpa using hj, by omega, hl, hop, hc⟩

/-! ## ids are positions: an id determines its block -/

theorem blockOffsets_get : ∀ (bs : List Block) (o b : Nat) (bl : Block), bs[b]? = some bl →
    ∃ k, (blockOffsets bs o)[b]? = some (o + k) ∧
      ∀ b' bl', b < b' → bs[b']? = some bl' → ∃ k', (blockOffsets bs o)[b']? = some (o + k') ∧ k + bl.instrs.length ≤ k' := by
  intro bs
  induction bs with
  | nil => intro o b bl h; simp at h
  | cons c cs ih =>
    intro o b bl hb
    cases b with
    | zero =>
      simp at hb; subst hb
      refine ⟨0, by simp [blockOffsets], ?_⟩
      intro b' bl' hlt hb'
      cases b' with
      | zero => omega
      | succ b' =>
        simp at hb'
        obtain ⟨k, hk, _⟩ := ih (o + c.instrs.length) b' bl' hb'
        exact ⟨c.instrs.length + k, by simp [blockOffsets, hk]; omega, by omega⟩
    | succ b =>
      simp at hb
      obtain ⟨k, hk, hrest⟩ := ih (o + c.instrs.length) b bl hb
      refine ⟨c.instrs.length + k, by simp [blockOffsets, hk]; omega, ?_⟩
      intro b' bl' hlt hb'
      cases b' with
      | zero => omega
      | succ b' =>
        simp at hb'
        obtain ⟨k', hk', hle⟩ := hrest b' bl' (by omega) hb'
        exact ⟨c.instrs.length + k', by simp [blockOffsets, hk']; omega, by omega⟩

/-- two positions with the same id (= offset + position) lie in the same block -/
theorem block_unique {bs : List Block} {b b' : Nat} {bl bl' : Block} {n n' : Nat}
    (hb : bs[b]? = some bl) (hb' : bs[b']? = some bl') (hn : n < bl.instrs.length) (hn' : n' < bl'.instrs.length)
    (he : (blockOffsets bs 0).getD b 0 + n = (blockOffsets bs 0).getD b' 0 + n') : b = b' := by
  obtain ⟨k, hk, hr⟩ := blockOffsets_get bs 0 b bl hb
  obtain ⟨k', hk', hr'⟩ := blockOffsets_get bs 0 b' bl' hb'
  have e1 : (blockOffsets bs 0).getD b 0 = k := by rw [List.getD_eq_getElem?_getD, hk]; simp
  have e2 : (blockOffsets bs 0).getD b' 0 = k' := by rw [List.getD_eq_getElem?_getD, hk']; simp
  rw [e1, e2] at he
  rcases Nat.lt_trichotomy b b' with h | h | h
  · obtain ⟨k2, hk2, hle⟩ := hr b' bl' h hb'
    rw [hk'] at hk2
    have : k' = k2 := by simpa using hk2
    omega
  · exact h
  · obtain ⟨k2, hk2, hle⟩ := hr' b bl h hb
    rw [hk] at hk2
    have : k = k2 := by simpa using hk2
    omega

end EdVerif.Ssa.ES
