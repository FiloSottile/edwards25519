import EdVerif.Ssa.NI.Frame
/-!
# NI proof, part 8: block entry (`jumpTo`), `If`, `Jump`
-/
set_option linter.unusedVariables false
namespace EdVerif.Ssa

/-! ## phi values -/

def AssignRel (hi : Nat) : List (Nat × RVal) → List (Nat × RVal) → Prop :=
  ListRel (fun a b => a.1 = b.1 ∧ RelV (hi.testBit a.1) a.2 b.2)

theorem sPhi_of_edge {c : SCtx} {pred : Nat} {o : Opnd} : ∀ (es : List (Nat × Opnd)), phiEdge pred es = some o → c.lab o = true →
    sPhi c es = true
  | [], h, _ => by cases h
  | e :: es, h, hl => by
    unfold phiEdge at h
    unfold sPhi
    split at h
    · injection h with h
      rw [h, hl]; rfl
    · rw [sPhi_of_edge es h hl]; simp

theorem evalPhis_rel {c : SCtx} {al : AllowedSites} {fr1 fr2 : Frame} (hfr : FR c fr1 fr2) (pred : Nat) :
    ∀ (phis : List Instr), (∀ ph ∈ phis, sInstrOk c al ph = true) →
      OptRel (AssignRel c.hi) (evalPhis c.prog fr1 pred phis) (evalPhis c.prog fr2 pred phis)
  | [], _ => .some .nil
  | ph :: phis, hok => by
    unfold evalPhis
    split
    · rename_i es he
      cases ho : phiEdge pred es with
      | none => exact .none
      | some o =>
        simp only [Option.bind_eq_bind, Option.bind_some]
        rcases (hfr.evalOpnd ph.ty o).cases with ⟨e1, e2⟩ | ⟨v1, v2, e1, e2, hv⟩
        · rw [e1, e2]; exact .none
        rw [e1, e2]
        simp only [Option.bind_some]
        rcases (evalPhis_rel hfr pred phis (fun q hq => hok q (List.mem_cons_of_mem _ hq))).cases with ⟨r1, r2⟩ | ⟨a1, a2, r1, r2, ha⟩
        · rw [r1, r2]; exact .none
        rw [r1, r2]
        refine .some (.cons ⟨rfl, ?_⟩ ha)
        obtain ⟨_, _, hreq⟩ := sInstrOk_parts (hok ph (List.mem_cons_self))
        simp only [sRule, he] at hreq
        refine hv.mono fun hl => ?_
        rw [sPhi_of_edge es ho hl] at hreq
        simpa using hreq
    · exact .none

theorem assignAll_size_ge : ∀ (vals : List (Nat × RVal)) (regs : Array RVal), regs.size ≤ (assignAll regs vals).size
  | [], _ => Nat.le_refl _
  | (id, v) :: r, regs => by
    unfold assignAll
    exact Nat.le_trans (regSet_size_ge regs id v) (assignAll_size_ge r _)

theorem assignAll_rel {hi : Nat} : ∀ {vals1 vals2 : List (Nat × RVal)}, AssignRel hi vals1 vals2 → ∀ {r1 r2 : Array RVal},
    r1.size = r2.size → (∀ id : Nat, RelV (hi.testBit id) ((r1[id]?).getD []) ((r2[id]?).getD [])) →
    (assignAll r1 vals1).size = (assignAll r2 vals2).size ∧
      ∀ id : Nat, RelV (hi.testBit id) (((assignAll r1 vals1)[id]?).getD []) (((assignAll r2 vals2)[id]?).getD [])
  | _, _, .nil, _, _, hs, hr => ⟨hs, hr⟩
  | _, _, .cons (a := (id1, v1)) (b := (id2, v2)) hab hrest, r1, r2, hs, hr => by
    obtain ⟨hid, hv⟩ := hab
    simp only at hid hv
    subst hid
    unfold assignAll
    refine assignAll_rel hrest ?_ ?_
    · rw [regSet_size, regSet_size, hs]
    · intro j
      rw [regSet_getD, regSet_getD]
      split
      · rename_i hj; subst hj; exact hv
      · exact hr j

/-! ## `jumpTo` -/

theorem jumpTo_rel {E : Env} {h : FuncHints} {fr1 fr2 : Frame} (hF : RelFrame E h fr1 fr2) (t : Nat) :
    OptRel (RelFrame E h) (jumpTo E.prog fr1 t) (jumpTo E.prog fr2 t) := by
  unfold jumpTo
  have hf2 : fr2.f = fr1.f := by rw [hF.fr.f2]; exact hF.fr.f1.symm
  rw [hf2]
  cases hb : fr1.f.blocks[t]? with
  | none => exact .none
  | some b =>
    simp only [Option.bind_eq_bind, Option.bind_some]
    obtain ⟨hsplit, hphi⟩ := splitPhis_spec b.instrs
    have hok := hF.blockOk hb
    have hphis : ∀ ph ∈ (splitPhis b.instrs).1, sInstrOk (sctx E.prog E.hints fr1.f h) E.al ph = true := by
      intro ph hph
      apply hok
      rw [hsplit]
      exact List.mem_append_left _ hph
    have hev := evalPhis_rel (al := E.al) hF.fr fr1.blk (splitPhis b.instrs).1 hphis
    rw [← hF.blk_eq]
    rcases hev.cases with ⟨e1, e2⟩ | ⟨a1, a2, e1, e2, ha⟩
    · simp only [sctx] at e1 e2
      rw [e1, e2]; exact .none
    simp only [sctx] at e1 e2
    rw [e1, e2]
    simp only [Option.bind_some]
    obtain ⟨hsz, hrel⟩ := assignAll_rel ha hF.fr.rsz hF.fr.rrel
    refine .some ⟨hF.fi_eq, hF.chk, hF.func, hF.hint, hF.fok, rfl, rfl, hF.dest_eq,
      ⟨rfl, rfl, hF.fr.psz, hF.fr.prel, hsz, hrel⟩, b, (splitPhis b.instrs).1, hb, hsplit, ?_⟩
    intro j hj hd
    obtain ⟨es, he⟩ := hphi j hj
    rw [he] at hd
    cases hd

theorem opndSafe_eval {c : SCtx} {d ty : Nat} {o : Opnd} {fr : Frame} (hs : opndSafe c d ty o = true) (hd : d ≤ fr.regs.size) :
    (evalOpnd c.prog fr ty o).isSome = true := by
  cases o with
  | reg id =>
    simp only [opndSafe, decide_eq_true_eq] at hs
    simp only [evalOpnd]
    rw [Array.getElem?_eq_getElem (by omega)]
    rfl
  | zero k =>
    simp only [opndSafe] at hs
    exact hs
  | cint k v => rfl
  | cbool b => rfl
  | cstr s => rfl
  | nil k => rfl
  | global g => rfl
  | fn f => rfl
  | param i => cases hs
  | freeVar i => cases hs
  | cother => cases hs
  | extern n => cases hs
  | builtin n => cases hs

theorem evalPhis_isSome {c : SCtx} {bi d : Nat} {fr : Frame} (hd : d ≤ fr.regs.size) : ∀ (phis : List Instr),
    phisOk c bi d phis = true → (evalPhis c.prog fr bi phis).isSome = true
  | [], _ => rfl
  | ph :: phis, hok => by
    unfold phisOk at hok
    simp only [Bool.and_eq_true] at hok
    obtain ⟨h1, h2⟩ := hok
    unfold evalPhis
    split
    · rename_i es he
      rw [he] at h1
      simp only at h1
      cases ho : phiEdge bi es with
      | none => rw [ho] at h1; cases h1
      | some o =>
        rw [ho] at h1
        simp only at h1
        simp only [Option.bind_eq_bind, Option.bind_some]
        have hv := opndSafe_eval (fr := fr) h1 hd
        cases ev : evalOpnd c.prog fr ph.ty o with
        | none => rw [ev] at hv; cases hv
        | some v =>
          simp only [Option.bind_some]
          have hr := evalPhis_isSome hd phis h2
          cases er : evalPhis c.prog fr bi phis with
          | none => rw [er] at hr; cases hr
          | some r => rfl
    · rename_i hne
      split at h1
      · rename_i es he
        exact (hne es he).elim
      · cases h1

theorem jumpTo_isSome {c : SCtx} {d t : Nat} {fr : Frame} (hf : fr.f = c.f) (ht : targetOk c fr.blk d t = true)
    (hd : d ≤ fr.regs.size) : (jumpTo c.prog fr t).isSome = true := by
  unfold targetOk at ht
  unfold jumpTo
  rw [hf]
  cases hb : c.f.blocks[t]? with
  | none => rw [hb] at ht; cases ht
  | some b =>
    rw [hb] at ht
    simp only at ht
    simp only [Option.bind_eq_bind, Option.bind_some]
    have hr := evalPhis_isSome (fr := fr) hd _ ht
    cases er : evalPhis c.prog fr fr.blk (splitPhis b.instrs).1 with
    | none => rw [er] at hr; cases hr
    | some r => rfl

/-! ## `Jump`, `If` -/

section
variable {E : Env} {h : FuncHints} {fr1 fr2 : Frame} {frs1 frs2 : List Frame} {i : Instr} {rest' : List Instr} {hp1 hp2 : Heap}

theorem jump_target_rel (hF : RelFrame E h fr1 fr2) (hrest : fr1.rest = i :: rest') (hL : LinkOk E fr1 h frs1)
    (hS : RelStack E frs1 frs2) (hh : RelHeap hp1 hp2) (hdef : immDef i.op = false) (t : Nat) {evs : List Event} {msg : String} :
    StepRel E.al (RelState E)
      (match jumpTo E.prog (adv fr1 rest') t with
        | some fr' => .cont ⟨hp1, fr' :: frs1⟩ evs
        | none => .fault msg)
      (match jumpTo E.prog (adv fr2 rest') t with
        | some fr' => .cont ⟨hp2, fr' :: frs2⟩ evs
        | none => .fault msg) := by
  have hFa := hF.advance hrest (fun e => by rw [hdef] at e; cases e)
  rcases (jumpTo_rel hFa t).cases with ⟨e1, e2⟩ | ⟨n1, n2, e1, e2, hn⟩
  · rw [e1, e2]; exact .fault
  · rw [e1, e2]
    obtain ⟨_, _, _, _, en1⟩ := jumpTo_eq_some e1
    exact .cont ⟨hh, .cons hn (hL.congr (by rw [en1]) (by rw [en1])) hS⟩

theorem jump_rel {t : Nat} (hF : RelFrame E h fr1 fr2) (hrest : fr1.rest = i :: rest') (hL : LinkOk E fr1 h frs1)
    (hS : RelStack E frs1 frs2) (hh : RelHeap hp1 hp2) (hop : i.op = .jump t) :
    StepRel E.al (RelState E)
      (match jumpTo E.prog (adv fr1 rest') t with
        | some fr' => .cont ⟨hp1, fr' :: frs1⟩ []
        | none => .fault "jump: target")
      (match jumpTo E.prog (adv fr2 rest') t with
        | some fr' => .cont ⟨hp2, fr' :: frs2⟩ []
        | none => .fault "jump: target") :=
  jump_target_rel hF hrest hL hS hh (by rw [hop]; rfl) t

theorem if_rel {cnd : Opnd} {t e : Nat} (hF : RelFrame E h fr1 fr2) (hrest : fr1.rest = i :: rest') (hL : LinkOk E fr1 h frs1)
    (hS : RelStack E frs1 frs2) (hh : RelHeap hp1 hp2) (hop : i.op = .if cnd t e) :
    StepRel E.al (RelState E)
      (match evalOpnd E.prog (adv fr1 rest') (i.opTys.headD 0) cnd with
        | some [.bool b] =>
          match jumpTo E.prog (adv fr1 rest') (if b then t else e) with
          | some fr' => .cont ⟨hp1, fr' :: frs1⟩ [ev (adv fr1 rest') K.branch [.bool b]]
          | none => .fault "if: target"
        | _ => .fault "if: condition")
      (match evalOpnd E.prog (adv fr2 rest') (i.opTys.headD 0) cnd with
        | some [.bool b] =>
          match jumpTo E.prog (adv fr2 rest') (if b then t else e) with
          | some fr' => .cont ⟨hp2, fr' :: frs2⟩ [ev (adv fr2 rest') K.branch [.bool b]]
          | none => .fault "if: target"
        | _ => .fault "if: condition") := by
  have hat := hF.atInstr hrest
  obtain ⟨hsites, _, _⟩ := sInstrOk_parts hat.ok
  simp only [sRule, hop] at hsites
  obtain ⟨d, hd, hbr⟩ := hat.branch
  simp only [branchOk, hop] at hbr
  have hdef : immDef i.op = false := by rw [hop]; rfl
  have hfr := hF.fr.adv rest' rest'
  rcases (hfr.evalOpnd (i.opTys.headD 0) cnd).cases with ⟨e1, e2⟩ | ⟨v1, v2, e1, e2, hv⟩
  · simp only [sctx] at e1 e2
    rw [e1, e2]; exact .fault
  simp only [sctx] at e1 e2
  rw [e1, e2]
  split
  · rename_i b h1
    cases h1
    obtain ⟨b', rfl, hb⟩ := hv.bool1_left
    simp only
    by_cases hbb : b = b'
    · subst hbb
      rw [hfr.ev_eq]
      exact jump_target_rel hF hrest hL hS hh hdef _
    · have hl : (sctx E.prog E.hints fr1.f h).lab cnd = true := by
        cases hl : (sctx E.prog E.hints fr1.f h).lab cnd with
        | true => rfl
        | false => exact (hbb (hb hl).symm).elim
      have hal : allowedPair E.al fr1.f.name K.branch = true := by
        apply siteOk_allowed
        apply hsites
        simp [ssink, hl]
      rw [hl] at hbr
      simp only [Bool.not_true, Bool.false_or, Bool.and_eq_true] at hbr
      have hs1 : ∀ tgt, (tgt = t ∨ tgt = e) → (jumpTo E.prog (adv fr1 rest') tgt).isSome = true := by
        intro tgt ht
        refine jumpTo_isSome (c := sctx E.prog E.hints fr1.f h) (d := d) rfl ?_ hd
        rcases ht with rfl | rfl
        · exact hbr.1
        · exact hbr.2
      have hs2 : ∀ tgt, (tgt = t ∨ tgt = e) → (jumpTo E.prog (adv fr2 rest') tgt).isSome = true := by
        intro tgt ht
        refine jumpTo_isSome (c := sctx E.prog E.hints fr1.f h) (d := d) hF.fr.f2 ?_ (by rw [← hF.fr.rsz]; exact hd)
        rw [show (adv fr2 rest').blk = fr1.blk from hF.blk_eq.symm]
        rcases ht with rfl | rfl
        · exact hbr.1
        · exact hbr.2
      have ht1 : (if b = true then t else e) = t ∨ (if b = true then t else e) = e := by
        cases b <;> simp
      have ht2 : (if b' = true then t else e) = t ∨ (if b' = true then t else e) = e := by
        cases b' <;> simp
      cases j1 : jumpTo E.prog (adv fr1 rest') (if b = true then t else e) with
      | none => have := hs1 _ ht1; rw [j1] at this; cases this
      | some n1 =>
        cases j2 : jumpTo E.prog (adv fr2 rest') (if b' = true then t else e) with
        | none => have := hs2 _ ht2; rw [j2] at this; cases this
        | some n2 =>
          simp only
          refine StepRel.declass_head (fn := fr1.f.name) (k := K.branch) (v1 := [.bool b]) (v2 := [.bool b']) ?_ ?_ hal ?_
          · simp only [Step.events, hfr.ev1]; rfl
          · simp only [Step.events, hfr.ev2]; rfl
          · intro q
            injection q with q
            injection q with q
            exact hbb q
  · rename_i n1
    split
    · rename_i b h1
      cases h1
      obtain ⟨b', rfl, hb⟩ := hv.bool1_right
      exact (n1 _ rfl).elim
    · exact .fault

end

end EdVerif.Ssa
