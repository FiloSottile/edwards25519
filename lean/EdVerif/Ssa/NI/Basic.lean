import EdVerif.Ssa.CtSpec
import EdVerif.Ssa.SemLemmas
/-!
# NI proof, part 1: relations on options / lists / scalars, `regSet`, heap operations
-/
namespace EdVerif.Ssa

/-! ## `OptRel` -/

inductive OptRel {α β : Type} (R : α → β → Prop) : Option α → Option β → Prop
  | none : OptRel R none none
  | some {a b} : R a b → OptRel R (some a) (some b)

theorem optRel_some_left {α β : Type} {R : α → β → Prop} {a : α} {y : Option β} :
    OptRel R (some a) y ↔ ∃ b, y = some b ∧ R a b := by
  constructor
  · intro h; cases h with | some h => exact ⟨_, rfl, h⟩
  · rintro ⟨b, rfl, h⟩; exact .some h

theorem optRel_none_left {α β : Type} {R : α → β → Prop} {y : Option β} :
    OptRel R (none : Option α) y ↔ y = none := by
  constructor
  · intro h; cases h; rfl
  · rintro rfl; exact .none

theorem optRel_some_right {α β : Type} {R : α → β → Prop} {b : β} {x : Option α} :
    OptRel R x (some b) ↔ ∃ a, x = some a ∧ R a b := by
  constructor
  · intro h; cases h with | some h => exact ⟨_, rfl, h⟩
  · rintro ⟨a, rfl, h⟩; exact .some h

theorem optRel_none_right {α β : Type} {R : α → β → Prop} {x : Option α} :
    OptRel R x (none : Option β) ↔ x = none := by
  constructor
  · intro h; cases h; rfl
  · rintro rfl; exact .none

theorem OptRel.cases {α β : Type} {R : α → β → Prop} {x : Option α} {y : Option β} (h : OptRel R x y) :
    (x = Option.none ∧ y = Option.none) ∨ ∃ a b, x = Option.some a ∧ y = Option.some b ∧ R a b := by
  cases h with
  | none => exact Or.inl ⟨rfl, rfl⟩
  | some h => exact Or.inr ⟨_, _, rfl, rfl, h⟩

theorem OptRel.mono {α β : Type} {R S : α → β → Prop} (hRS : ∀ a b, R a b → S a b) {x : Option α} {y : Option β}
    (h : OptRel R x y) : OptRel S x y := by
  cases h with
  | none => exact .none
  | some h => exact .some (hRS _ _ h)

theorem OptRel.of_eq {α : Type} {R : α → α → Prop} (hR : ∀ a, R a a) {x y : Option α} (h : x = y) : OptRel R x y := by
  subst h
  cases x with
  | none => exact .none
  | some a => exact .some (hR a)

/-! ## `RelH` -/

theorem RelH.refl (a : Val) : RelH a a := Or.inl rfl

theorem RelH.symm {a b : Val} (h : RelH a b) : RelH b a := by
  rcases h with h | ⟨x, y, h1, h2⟩ | ⟨x, y, h1, h2⟩
  · exact Or.inl h.symm
  · exact Or.inr (Or.inl ⟨y, x, h2, h1⟩)
  · exact Or.inr (Or.inr ⟨y, x, h2, h1⟩)

theorem relH_int_int (x y : Nat) : RelH (.int x) (.int y) := Or.inr (Or.inl ⟨x, y, rfl, rfl⟩)

theorem relH_bool_bool (x y : Bool) : RelH (.bool x) (.bool y) := Or.inr (Or.inr ⟨x, y, rfl, rfl⟩)

theorem relH_int_left {x : Nat} {b : Val} : RelH (.int x) b ↔ ∃ y, b = .int y := by
  constructor
  · rintro (h | ⟨x', y, h1, h2⟩ | ⟨x', y, h1, h2⟩)
    · exact ⟨x, h.symm⟩
    · exact ⟨y, h2⟩
    · cases h1
  · rintro ⟨y, rfl⟩; exact relH_int_int x y

theorem relH_bool_left {x : Bool} {b : Val} : RelH (.bool x) b ↔ ∃ y, b = .bool y := by
  constructor
  · rintro (h | ⟨x', y, h1, h2⟩ | ⟨x', y, h1, h2⟩)
    · exact ⟨x, h.symm⟩
    · cases h1
    · exact ⟨y, h2⟩
  · rintro ⟨y, rfl⟩; exact relH_bool_bool x y

theorem RelH.cls_eq {a b : Val} (h : RelH a b) : a.cls = b.cls := by
  rcases h with h | ⟨x, y, h1, h2⟩ | ⟨x, y, h1, h2⟩
  · rw [h]
  · rw [h1, h2]; rfl
  · rw [h1, h2]; rfl

theorem RelH.eq_of_addr {a b : Val} (h : RelH a b) (ha : a.cls = .addr) : b = a := by
  rcases h with h | ⟨x, y, h1, h2⟩ | ⟨x, y, h1, h2⟩
  · exact h.symm
  · rw [h1] at ha; cases ha
  · rw [h1] at ha; cases ha

theorem relH_addr_left {a b : Val} (ha : a.cls = .addr) : RelH a b ↔ b = a :=
  ⟨fun h => h.eq_of_addr ha, fun h => h ▸ RelH.refl a⟩

@[simp] theorem relH_nil_left {b : Val} : RelH .nil b ↔ b = .nil := relH_addr_left rfl
@[simp] theorem relH_ptr_left {x y : Nat} {b : Val} : RelH (.ptr x y) b ↔ b = .ptr x y := relH_addr_left rfl
@[simp] theorem relH_slice_left {x y z w : Nat} {b : Val} : RelH (.slice x y z w) b ↔ b = .slice x y z w := relH_addr_left rfl
@[simp] theorem relH_fn_left {x : Nat} {b : Val} : RelH (.fn x) b ↔ b = .fn x := relH_addr_left rfl
@[simp] theorem relH_opaque_left {x : Nat} {b : Val} : RelH (.opaque x) b ↔ b = .opaque x := relH_addr_left rfl

/-- comparison with an address-class scalar is decided by address-class scalars -/
theorem RelH.eq_addr_iff {a b c : Val} (h : RelH a b) (hc : c.cls = .addr) : a = c ↔ b = c := by
  constructor
  · intro e; subst e; exact h.eq_of_addr hc
  · intro e; subst e; exact (h.symm.eq_of_addr hc)

/-! ## `ListRel` -/

theorem listRel_nil_left {α β : Type} {R : α → β → Prop} {l : List β} : ListRel R [] l ↔ l = [] := by
  constructor
  · intro h; cases h; rfl
  · rintro rfl; exact .nil

theorem listRel_nil_right {α β : Type} {R : α → β → Prop} {l : List α} : ListRel R l ([] : List β) ↔ l = [] := by
  constructor
  · intro h; cases h; rfl
  · rintro rfl; exact .nil

theorem listRel_cons_left {α β : Type} {R : α → β → Prop} {a : α} {as : List α} {l : List β} :
    ListRel R (a :: as) l ↔ ∃ b bs, l = b :: bs ∧ R a b ∧ ListRel R as bs := by
  constructor
  · intro h; cases h with | cons h1 h2 => exact ⟨_, _, rfl, h1, h2⟩
  · rintro ⟨b, bs, rfl, h1, h2⟩; exact .cons h1 h2

theorem listRel_cons_right {α β : Type} {R : α → β → Prop} {b : β} {bs : List β} {l : List α} :
    ListRel R l (b :: bs) ↔ ∃ a as, l = a :: as ∧ R a b ∧ ListRel R as bs := by
  constructor
  · intro h; cases h with | cons h1 h2 => exact ⟨_, _, rfl, h1, h2⟩
  · rintro ⟨a, as, rfl, h1, h2⟩; exact .cons h1 h2

theorem listRel_cons_cons {α β : Type} {R : α → β → Prop} {a : α} {as : List α} {b : β} {bs : List β} :
    ListRel R (a :: as) (b :: bs) ↔ R a b ∧ ListRel R as bs := by
  constructor
  · intro h; cases h with | cons h1 h2 => exact ⟨h1, h2⟩
  · rintro ⟨h1, h2⟩; exact .cons h1 h2

theorem ListRel.length_eq {α β : Type} {R : α → β → Prop} {l1 : List α} {l2 : List β} (h : ListRel R l1 l2) :
    l1.length = l2.length := by
  induction h with
  | nil => rfl
  | cons _ _ ih => simp [ih]

theorem ListRel.mono {α β : Type} {R S : α → β → Prop} (hRS : ∀ a b, R a b → S a b) {l1 : List α} {l2 : List β}
    (h : ListRel R l1 l2) : ListRel S l1 l2 := by
  induction h with
  | nil => exact .nil
  | cons h1 _ ih => exact .cons (hRS _ _ h1) ih

theorem ListRel.refl {α : Type} {R : α → α → Prop} (hR : ∀ a, R a a) (l : List α) : ListRel R l l := by
  induction l with
  | nil => exact .nil
  | cons a as ih => exact .cons (hR a) ih

theorem ListRel.flip {α β : Type} {R : α → β → Prop} {S : β → α → Prop} (hRS : ∀ a b, R a b → S b a)
    {l1 : List α} {l2 : List β} (h : ListRel R l1 l2) : ListRel S l2 l1 := by
  induction h with
  | nil => exact .nil
  | cons h1 _ ih => exact .cons (hRS _ _ h1) ih

theorem ListRel.append {α β : Type} {R : α → β → Prop} {l1 l1' : List α} {l2 l2' : List β}
    (h : ListRel R l1 l2) (h' : ListRel R l1' l2') : ListRel R (l1 ++ l1') (l2 ++ l2') := by
  induction h with
  | nil => exact h'
  | cons h1 _ ih => exact .cons h1 ih

theorem ListRel.drop {α β : Type} {R : α → β → Prop} {l1 : List α} {l2 : List β} (h : ListRel R l1 l2) (n : Nat) :
    ListRel R (l1.drop n) (l2.drop n) := by
  induction h generalizing n with
  | nil => simp; exact .nil
  | cons h1 h2 ih =>
    cases n with
    | zero => exact .cons h1 h2
    | succ n => simpa using ih n

theorem ListRel.take {α β : Type} {R : α → β → Prop} {l1 : List α} {l2 : List β} (h : ListRel R l1 l2) (n : Nat) :
    ListRel R (l1.take n) (l2.take n) := by
  induction h generalizing n with
  | nil => simp; exact .nil
  | cons h1 h2 ih =>
    cases n with
    | zero => simp; exact .nil
    | succ n => simpa using ListRel.cons h1 (ih n)

theorem ListRel.flatten {α β : Type} {R : α → β → Prop} {l1 : List (List α)} {l2 : List (List β)}
    (h : ListRel (ListRel R) l1 l2) : ListRel R l1.flatten l2.flatten := by
  induction h with
  | nil => exact .nil
  | cons h1 _ ih => simpa using h1.append ih

theorem ListRel.getElem? {α β : Type} {R : α → β → Prop} {l1 : List α} {l2 : List β} (h : ListRel R l1 l2) (i : Nat) :
    OptRel R l1[i]? l2[i]? := by
  induction h generalizing i with
  | nil => simp; exact .none
  | cons h1 _ ih =>
    cases i with
    | zero => simpa using OptRel.some h1
    | succ i => simpa using ih i

theorem listRel_of_getElem? {α β : Type} {R : α → β → Prop} : ∀ (l1 : List α) (l2 : List β),
    (∀ i : Nat, OptRel R l1[i]? l2[i]?) → ListRel R l1 l2
  | [], [], _ => .nil
  | [], b :: bs, h => by have := h 0; simp at this; cases this
  | a :: as, [], h => by have := h 0; simp at this; cases this
  | a :: as, b :: bs, h => by
    have h0 := h 0
    simp at h0
    cases h0 with
    | some h0 =>
      refine .cons h0 (listRel_of_getElem? as bs fun i => ?_)
      simpa using h (i + 1)

theorem listRel_iff_getElem? {α β : Type} {R : α → β → Prop} {l1 : List α} {l2 : List β} :
    ListRel R l1 l2 ↔ ∀ i : Nat, OptRel R l1[i]? l2[i]? :=
  ⟨fun h i => h.getElem? i, listRel_of_getElem? l1 l2⟩

theorem ListRel.eq_of_eq {α : Type} {l1 l2 : List α} (h : ListRel (· = ·) l1 l2) : l1 = l2 := by
  induction h with
  | nil => rfl
  | cons h1 _ ih => rw [h1, ih]

/-- `RelH`-related lists -/
abbrev LRelH (a b : List Val) : Prop := ListRel RelH a b

theorem LRelH.refl (a : List Val) : LRelH a a := ListRel.refl RelH.refl a

theorem LRelH.symm {a b : List Val} (h : LRelH a b) : LRelH b a := ListRel.flip (fun _ _ => RelH.symm) h

theorem LRelH.map_cls {a b : List Val} (h : LRelH a b) : a.map Val.cls = b.map Val.cls := by
  induction h with
  | nil => rfl
  | cons h1 _ ih => simp [h1.cls_eq, ih]

theorem LRelH.eq_of_all_addr {a b : List Val} (h : LRelH a b) (ha : ∀ v ∈ a, v.cls = .addr) : b = a := by
  induction h with
  | nil => rfl
  | cons h1 _ ih =>
    rw [h1.eq_of_addr (ha _ (by simp)), ih (fun v hv => ha v (by simp [hv]))]

theorem LRelH.all_data {a b : List Val} (h : LRelH a b) :
    a.all (fun v => decide (v.cls = .data)) = b.all (fun v => decide (v.cls = .data)) := by
  induction h with
  | nil => rfl
  | cons h1 _ ih => simp only [List.all_cons, h1.cls_eq, ih]

/-! ## `RelV`: register values at a level (`true`: scalar-wise `RelH`; `false`: equal) -/

def RelV (s : Bool) (a b : RVal) : Prop := LRelH a b ∧ (s = false → a = b)

theorem RelV.refl (s : Bool) (a : RVal) : RelV s a a := ⟨LRelH.refl a, fun _ => rfl⟩

theorem RelV.of_eq {s : Bool} {a b : RVal} (h : a = b) : RelV s a b := h ▸ RelV.refl s a

theorem RelV.of_relH {a b : RVal} (h : LRelH a b) : RelV true a b := ⟨h, fun e => by cases e⟩

theorem RelV.relH {s : Bool} {a b : RVal} (h : RelV s a b) : LRelH a b := h.1

theorem RelV.eq {a b : RVal} (h : RelV false a b) : a = b := h.2 rfl

theorem RelV.mono {s t : Bool} {a b : RVal} (h : RelV s a b) (hst : s = true → t = true) : RelV t a b := by
  refine ⟨h.1, fun e => h.2 ?_⟩
  cases s with
  | false => rfl
  | true => rw [hst rfl] at e; cases e

/-- the relation needed for a value of demanded label `req` to be stored at level `lvl` -/
theorem RelV.store {req lvl : Bool} {a b : RVal} (h : RelV req a b) (hreq : (!req || lvl) = true) : RelV lvl a b := by
  apply h.mono
  intro e
  rw [e] at hreq
  simpa using hreq

theorem RelV.of_relR {s t : Bool} {a b : RVal} (h : RelR s a b) (hst : s = true → t = true) : RelV t a b := by
  unfold RelR at h
  cases s with
  | false => simp at h; exact RelV.of_eq h
  | true => simp at h; exact (RelV.of_relH h).mono (fun _ => hst rfl)

/-! ## cells of a block -/

/-- point-wise relation of two blocks -/
def CellsRel (b1 b2 : Array Val) : Prop := ∀ i : Nat, OptRel RelH b1[i]? b2[i]?

theorem cellsRel_iff {b1 b2 : Array Val} : LRelH b1.toList b2.toList ↔ CellsRel b1 b2 := by
  unfold CellsRel LRelH
  rw [listRel_iff_getElem?]
  simp only [Array.getElem?_toList]

theorem CellsRel.refl (b : Array Val) : CellsRel b b := fun _ => OptRel.of_eq RelH.refl rfl

theorem readCells_rel {b1 b2 : Array Val} (h : CellsRel b1 b2) : ∀ (n off : Nat),
    OptRel LRelH (readCells b1 off n) (readCells b2 off n)
  | 0, _ => .some .nil
  | n + 1, off => by
    simp only [readCells]
    rcases (h off).cases with ⟨e1, e2⟩ | ⟨a, b, e1, e2, hv⟩
    · rw [e1, e2]; exact .none
    · rw [e1, e2]
      rcases (readCells_rel h n (off + 1)).cases with ⟨f1, f2⟩ | ⟨as, bs, f1, f2, hvs⟩
      · rw [f1, f2]; exact .none
      · rw [f1, f2]; exact .some (.cons hv hvs)

theorem CellsRel.size_lt {b1 b2 : Array Val} (h : CellsRel b1 b2) (off : Nat) : off < b1.size ↔ off < b2.size := by
  rcases (h off).cases with ⟨e1, e2⟩ | ⟨a, b, e1, e2, _⟩
  · constructor
    · intro h1; rw [Array.getElem?_eq_getElem h1] at e1; cases e1
    · intro h1; rw [Array.getElem?_eq_getElem h1] at e2; cases e2
  · exact ⟨fun _ => lt_size_of_getElem? e2, fun _ => lt_size_of_getElem? e1⟩

theorem CellsRel.set {b1 b2 : Array Val} (h : CellsRel b1 b2) (off : Nat) {v1 v2 : Val} (hv : RelH v1 v2) :
    CellsRel (b1.setIfInBounds off v1) (b2.setIfInBounds off v2) := by
  intro i
  rw [Array.getElem?_setIfInBounds, Array.getElem?_setIfInBounds]
  have hsz := h.size_lt off
  by_cases hi : off = i
  · simp only [hi, if_true]
    subst hi
    by_cases h1 : off < b1.size
    · simp only [h1, hsz.mp h1, if_true]; exact .some hv
    · have h2 : ¬ off < b2.size := fun h2 => h1 (hsz.mpr h2)
      simp only [h1, h2, if_false]; exact .none
  · simp only [hi, if_false]; exact h i

theorem writeCells_rel : ∀ {vs1 vs2 : List Val}, LRelH vs1 vs2 → ∀ {b1 b2 : Array Val}, CellsRel b1 b2 → ∀ (off : Nat),
    OptRel CellsRel (writeCells b1 off vs1) (writeCells b2 off vs2)
  | _, _, .nil, _, _, h, _ => .some h
  | _, _, .cons (a := v1) (b := v2) hv hvs, b1, b2, h, off => by
    simp only [writeCells]
    rcases (h off).cases with ⟨e1, e2⟩ | ⟨o1, o2, e1, e2, ho⟩
    · rw [e1, e2]; exact .none
    · rw [e1, e2]
      have e : (o1.cls = v1.cls) ↔ (o2.cls = v2.cls) := by rw [ho.cls_eq, hv.cls_eq]
      by_cases h1 : o1.cls = v1.cls
      · simp only [h1, e.mp h1, if_true]
        exact writeCells_rel hvs (h.set off hv) (off + 1)
      · have h2 : ¬ o2.cls = v2.cls := fun h2 => h1 (e.mpr h2)
        simp only [h1, h2, if_false]
        exact .none

/-! ## heaps -/

theorem RelHeap.size_eq {h1 h2 : Heap} (h : RelHeap h1 h2) : h1.blocks.size = h2.blocks.size := h.1

/-- the blocks at `b` of two related heaps -/
theorem RelHeap.block {h1 h2 : Heap} (h : RelHeap h1 h2) (b : Nat) :
    OptRel CellsRel h1.blocks[b]? h2.blocks[b]? := by
  by_cases hb : b < h1.blocks.size
  · have hb2 : b < h2.blocks.size := h.1 ▸ hb
    have := h.2 b hb
    rw [Array.getElem?_eq_getElem hb, Array.getElem?_eq_getElem hb2] at this ⊢
    exact .some (cellsRel_iff.mp this)
  · have hb2 : ¬ b < h2.blocks.size := h.1 ▸ hb
    rw [Array.getElem?_eq_none (by omega), Array.getElem?_eq_none (by omega)]
    exact .none

theorem relHeap_of_blocks {h1 h2 : Heap} (hs : h1.blocks.size = h2.blocks.size)
    (hb : ∀ b : Nat, OptRel CellsRel h1.blocks[b]? h2.blocks[b]?) : RelHeap h1 h2 := by
  refine ⟨hs, fun b hlt => ?_⟩
  have hlt2 : b < h2.blocks.size := hs ▸ hlt
  rcases (hb b).cases with ⟨e1, _⟩ | ⟨c1, c2, e1, e2, hc⟩
  · rw [Array.getElem?_eq_getElem hlt] at e1; cases e1
  · rw [e1, e2]; exact cellsRel_iff.mpr hc

theorem RelHeap.read {h1 h2 : Heap} (h : RelHeap h1 h2) (b off n : Nat) :
    OptRel LRelH (h1.read b off n) (h2.read b off n) := by
  unfold Heap.read
  rcases (h.block b).cases with ⟨e1, e2⟩ | ⟨c1, c2, e1, e2, hc⟩
  · rw [e1, e2]; exact .none
  · rw [e1, e2]; exact readCells_rel hc n off

theorem RelHeap.write {h1 h2 : Heap} (h : RelHeap h1 h2) (b off : Nat) {vs1 vs2 : List Val} (hv : LRelH vs1 vs2) :
    OptRel RelHeap (h1.write b off vs1) (h2.write b off vs2) := by
  unfold Heap.write
  rcases (h.block b).cases with ⟨e1, e2⟩ | ⟨c1, c2, e1, e2, hc⟩
  · rw [e1, e2]; exact .none
  · rw [e1, e2]
    simp only
    rcases (writeCells_rel hv hc off).cases with ⟨f1, f2⟩ | ⟨w1, w2, f1, f2, hw⟩
    · rw [f1, f2]; exact .none
    · rw [f1, f2]
      simp only
      refine .some (relHeap_of_blocks ?_ fun j => ?_)
      · simp only [Array.size_setIfInBounds]; exact h.1
      · simp only [Array.getElem?_setIfInBounds, Array.size_setIfInBounds]
        by_cases hj : b = j
        · subst hj
          simp only [if_true]
          have hlt1 : b < h1.blocks.size := lt_size_of_getElem? e1
          have hlt2 : b < h2.blocks.size := lt_size_of_getElem? e2
          simp only [hlt1, hlt2, if_true]
          exact .some hw
        · simp only [hj, if_false]
          exact h.block j

theorem RelHeap.alloc {h1 h2 : Heap} (h : RelHeap h1 h2) {vs1 vs2 : List Val} (hv : LRelH vs1 vs2) :
    RelHeap (h1.alloc vs1).1 (h2.alloc vs2).1 ∧ (h1.alloc vs1).2 = (h2.alloc vs2).2 := by
  unfold Heap.alloc
  refine ⟨relHeap_of_blocks ?_ fun j => ?_, h.1⟩
  · simp only [Array.size_push]; rw [h.1]
  · simp only [Array.getElem?_push]
    rw [h.1]
    by_cases hj : j = h2.blocks.size
    · simp only [hj, if_true]
      refine .some ?_
      apply cellsRel_iff.mp
      simpa using hv
    · simp only [hj, if_false]
      exact h.block j

end EdVerif.Ssa
