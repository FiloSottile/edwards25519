import EdVerif.Ssa.NI.StepCtl
import EdVerif.Ssa.NI.StepExt
/-!
# NI proof, part 9: calls, `Once.Do`, returns
-/
set_option linter.unusedVariables false
namespace EdVerif.Ssa

/-! ## new frames -/

theorem args_params_rel {lab : Opnd → Bool} {ps : List Param} {pub : Nat} : ∀ {os : List Opnd} {vs1 vs2 : List RVal},
    LabRel lab os vs1 vs2 → ∀ (k : Nat), argsOk lab ps pub os k = true →
    ∀ j : Nat, RelV (paramHi ps pub (k + j)) ((vs1[j]?).getD []) ((vs2[j]?).getD [])
  | _, _, _, .nil, _, _, j => by simp; exact RelV.refl _ _
  | _, _, _, .cons (o := o) hv hrest, k, hok, j => by
    unfold argsOk at hok
    simp only [Bool.and_eq_true, Bool.or_eq_true, Bool.not_eq_true'] at hok
    cases j with
    | zero =>
      simp only [List.getElem?_cons_zero, Option.getD_some, Nat.add_zero]
      rcases hok.1 with hp | hl
      · rw [hp]; exact RelV.of_relH hv.relH
      · rw [hl] at hv; exact RelV.of_eq hv.eq
    | succ j =>
      simp only [List.getElem?_cons_succ]
      have := args_params_rel hrest (k + 1) hok.2 j
      rwa [show k + 1 + j = k + (j + 1) by omega] at this

theorem mkFrame_rel {E : Env} (hE : E.Ok) {g : Nat} {gf : Func} (hg : E.prog.funcs[g]? = some gf) (hc : E.checked.testBit g = true)
    {gh : FuncHints} (hgh : E.hints[g]? = some gh) {vs1 vs2 : List RVal} (dest : Option Nat)
    (hp : ∀ j : Nat, RelV (paramHi gf.params gh.publicParams j) ((vs1[j]?).getD []) ((vs2[j]?).getD []))
    (hlen : vs1.length = vs2.length) :
    OptRel (RelFrame E gh) (mkFrame g gf vs1 dest) (mkFrame g gf vs2 dest) := by
  obtain ⟨gh', hgh', hok⟩ := hE.lookup hg hc
  rw [hgh] at hgh'
  injection hgh' with hgh'
  subst hgh'
  unfold mkFrame
  cases hb : gf.blocks[0]? with
  | none => exact .none
  | some b =>
    simp only [Option.bind_eq_bind, Option.bind_some]
    refine .some ⟨rfl, hc, hg, hgh, hok, rfl, rfl, rfl, ⟨rfl, rfl, ?_, ?_, rfl, fun _ => RelV.refl _ _⟩, b, [], hb, rfl, ?_⟩
    · simp only [List.size_toArray]; exact hlen
    · intro j
      simp only [List.getElem?_toArray]
      exact hp j
    · intro j hj; cases hj

theorem LabRel.length_eq {lab : Opnd → Bool} {os : List Opnd} {vs1 vs2 : List RVal} (h : LabRel lab os vs1 vs2) :
    vs1.length = vs2.length := h.relH.length_eq

/-! ## static facts at a call -/

theorem calleeChecked_fn {checked : Nat} {i : Instr} {g : Nat} {args : List Opnd} (h : instrCalleesChecked checked i = true)
    (hop : i.op = .call (.fn g) args) : checked.testBit g = true := by
  unfold instrCalleesChecked at h
  rw [hop] at h
  simp only [Bool.and_eq_true] at h
  exact h.2

theorem opndFnsChecked_mem {checked : Nat} {g : Nat} : ∀ (os : List Opnd), opndFnsChecked checked os = true → Opnd.fn g ∈ os →
    checked.testBit g = true
  | [], _, hm => by cases hm
  | o :: os, h, hm => by
    rcases List.mem_cons.mp hm with rfl | hm
    · simp only [opndFnsChecked, Bool.and_eq_true] at h
      exact h.1
    · have : opndFnsChecked checked os = true := by
        cases o <;> simp only [opndFnsChecked, Bool.and_eq_true] at h <;> first | exact h | exact h.2
      exact opndFnsChecked_mem os this hm

theorem calleeChecked_once {checked : Nat} {i : Instr} {n : Nm} {a0 : Opnd} {g : Nat} (h : instrCalleesChecked checked i = true)
    (hop : i.op = .call (.extern n) [a0, .fn g]) : checked.testBit g = true := by
  unfold instrCalleesChecked at h
  rw [hop] at h
  simp only [Bool.and_eq_true] at h
  exact opndFnsChecked_mem _ h.1 (by simp [Op.operands])

section
variable {E : Env} {h : FuncHints} {fr1 fr2 : Frame} {frs1 frs2 : List Frame} {i : Instr} {rest' : List Instr} {hp1 hp2 : Heap}

/-! ## static call -/

theorem call_fn_rel (hE : E.Ok) {g : Nat} {args : List Opnd} {vs1 vs2 : List RVal}
    (hF : RelFrame E h fr1 fr2) (hrest : fr1.rest = i :: rest') (hL : LinkOk E fr1 h frs1)
    (hS : RelStack E frs1 frs2) (hh : RelHeap hp1 hp2) (hop : i.op = .call (.fn g) args)
    (hargs : LabRel (sctx E.prog E.hints fr1.f h).lab args vs1 vs2) :
    StepRel E.al (RelState E)
      (match E.prog.funcs[g]? with
        | some gf =>
          match mkFrame g gf vs1 (some i.id) with
          | some nf => .cont ⟨hp1, nf :: adv fr1 rest' :: frs1⟩ [ev (adv fr1 rest') EK.call [.fn g]]
          | none => .fault "call: no entry block"
        | none => .fault "call: no such function")
      (match E.prog.funcs[g]? with
        | some gf =>
          match mkFrame g gf vs2 (some i.id) with
          | some nf => .cont ⟨hp2, nf :: adv fr2 rest' :: frs2⟩ [ev (adv fr2 rest') EK.call [.fn g]]
          | none => .fault "call: no entry block"
        | none => .fault "call: no such function") := by
  have hat := hF.atInstr hrest
  have hfr := hF.fr.adv rest' rest'
  cases hg : E.prog.funcs[g]? with
  | none => exact .fault
  | some gf =>
    simp only
    have hc := calleeChecked_fn hat.callees hop
    obtain ⟨gh, hgh, hgok⟩ := hE.lookup hg hc
    obtain ⟨_, hok', hreq⟩ := sInstrOk_parts hat.ok
    simp only [sRule, hop] at hok' hreq
    simp only [sCall] at hok' hreq
    have hs : sCallFn (sctx E.prog E.hints fr1.f h) g args =
        ⟨resHi gf gh, [], argsOk (sctx E.prog E.hints fr1.f h).lab gf.params gh.publicParams args 0⟩ := by
      unfold sCallFn
      simp only [sctx]
      rw [hg, hgh]
    rw [hs] at hok' hreq
    simp only at hok' hreq
    have hp := args_params_rel hargs 0 hok'
    simp only [Nat.zero_add] at hp
    rcases (mkFrame_rel hE hg hc hgh (some i.id) hp hargs.length_eq).cases with ⟨e1, e2⟩ | ⟨n1, n2, e1, e2, hn⟩
    · rw [e1, e2]; exact .fault
    · rw [e1, e2]
      simp only
      rw [hfr.ev_eq]
      refine .cont ⟨hh, .cons hn ?_ (.cons (hF.advance hrest (fun e => by rw [hop] at e; cases e)) (hL.congr rfl rfl) hS)⟩
      -- the link between the new frame and its caller
      intro id hc' hd hhc hres
      obtain ⟨_, _, en1⟩ := mkFrame_eq_some e1
      have hdest : n1.dest = some i.id := by rw [en1]
      have hnf : n1.f = gf := by rw [en1]
      rw [hdest] at hd
      injection hd with hd
      subst hd
      have : hc' = h := by
        have h1 : E.hints[fr1.fi]? = some hc' := hhc
        rw [hF.hint] at h1
        injection h1 with h1
        exact h1.symm
      subst this
      rw [hnf] at hres
      rw [hres] at hreq
      show (sctx E.prog E.hints fr1.f hc').hi.testBit i.id = true
      simpa using hreq

/-! ## return -/

theorem retOk_low {c : SCtx} : ∀ (vals : List Opnd) (ks : List VK), retOk c vals ks = true → c.h.secretResult = false →
    ks.any (·.pointerish) = false → anyL c.lab vals = false
  | [], _, _, _, _ => rfl
  | v :: vs, ks, hok, hs, hk => by
    unfold retOk at hok
    simp only [Bool.and_eq_true, Bool.or_eq_true, Bool.not_eq_true'] at hok
    have hk' : ks.tail.any (·.pointerish) = false := by
      cases ks with
      | nil => rfl
      | cons k ks => simp only [List.any_cons, Bool.or_eq_false_iff] at hk; exact hk.2
    have ih := retOk_low vs ks.tail hok.2 hs hk'
    unfold anyL
    rw [ih]
    rcases hok.1 with (hl | hsr) | hp
    · rw [hl]; rfl
    · rw [hs] at hsr; cases hsr
    · cases ks with
      | nil => cases hp
      | cons k ks =>
        simp only [List.any_cons, Bool.or_eq_false_iff] at hk
        simp only at hp
        rw [hk.1] at hp; cases hp

theorem LabRel.flatten_relH {lab : Opnd → Bool} {os : List Opnd} {vs1 vs2 : List RVal} (h : LabRel lab os vs1 vs2) :
    LRelH (retValue vs1) (retValue vs2) := h.relH.flatten

theorem ret_rel {vals : List Opnd}
    (hF : RelFrame E h fr1 fr2) (hrest : fr1.rest = i :: rest') (hL : LinkOk E fr1 h frs1)
    (hS : RelStack E frs1 frs2) (hh : RelHeap hp1 hp2) (hop : i.op = .ret vals) :
    StepRel E.al (RelState E)
      (stepRet E.prog hp1 (adv fr1 rest') frs1 vals) (stepRet E.prog hp2 (adv fr2 rest') frs2 vals) := by
  have hat := hF.atInstr hrest
  have hfr := hF.fr.adv rest' rest'
  obtain ⟨_, hok', _⟩ := sInstrOk_parts hat.ok
  simp only [sRule, hop] at hok'
  unfold stepRet
  have hf2 : (adv fr2 rest').f = (adv fr1 rest').f := by
    show fr2.f = fr1.f
    rw [hF.fr.f2]; exact hF.fr.f1.symm
  rw [hf2]
  rcases (hfr.evalOpnds vals (adv fr1 rest').f.resultTys).cases with ⟨e1, e2⟩ | ⟨vs1, vs2, e1, e2, hvs⟩
  · simp only [sctx] at e1 e2
    rw [e1, e2]; exact .fault
  simp only [sctx] at e1 e2
  rw [e1, e2]
  simp only
  rw [hfr.ev_eq]
  cases hS with
  | nil => exact .done
  | @cons hc c1 c2 cs1 cs2 hC hCL hCS =>
    simp only
    have hd : (adv fr2 rest').dest = (adv fr1 rest').dest := hF.dest_eq.symm
    rw [hd]
    cases hdest : (adv fr1 rest').dest with
    | none => exact .cont ⟨hh, .cons hC hCL hCS⟩
    | some id =>
      simp only
      have hv : RelV ((hiMask c1.f hc).testBit id) (retValue vs1) (retValue vs2) := by
        cases hres : resHi fr1.f h with
        | true =>
          have := hL id hc hdest hC.hint hres
          rw [this]
          exact RelV.of_relH hvs.flatten_relH
        | false =>
          unfold resHi at hres
          simp only [Bool.or_eq_false_iff] at hres
          have hlow := retOk_low (c := sctx E.prog E.hints fr1.f h) vals fr1.f.results hok' hres.1 hres.2
          rw [hvs.eq_of_low hlow]
          exact RelV.refl _ _
      exact .cont ⟨hh, .cons (hC.setReg id hv) (hCL.congr rfl rfl) hCS⟩

/-! ## `Once.Do` -/

def onceBody (p : Program) (hp : Heap) (fr : Frame) (frs : List Frame) (i : Instr) (args : List RVal) : Step :=
  match args with
  | [[.ptr b o], [.fn g]] =>
    match hp.read b o 1 with
    | some [.opaque 0] =>
      match hp.write b o [.opaque 1], p.funcs[g]? with
      | some h, some gf =>
        match mkFrame g gf [] none with
        | some nf => .cont { heap := h, stack := nf :: { fr with regs := regSet fr.regs i.id [] } :: frs }
                        [ev fr EK.once [.opaque 0], ev fr EK.call [.fn g]]
        | none => .fault "Once.Do: closure"
      | _, _ => .fault "Once.Do: closure"
    | some [.opaque _] => contReg fr frs i.id [] hp [ev fr EK.once [.opaque 1]]
    | _ => .fault "Once.Do: flag"
  | _ => .fault "Once.Do"

theorem stepExtern_once (p : Program) (hp : Heap) (fr : Frame) (frs : List Frame) (i : Instr) (args : List RVal) :
    stepExtern p hp fr frs i Ext.onceDo args = onceBody p hp fr frs i args := by
  rfl

theorem evalOpnds_once {p : Program} {fr : Frame} {a0 : Opnd} {g0 : Nat} {tys : List Nat} {vs : List RVal}
    (h : evalOpnds p fr [a0, .fn g0] tys = some vs) : ∃ u, vs = [u, [.fn g0]] := by
  obtain ⟨u, ws, _, h1, rfl⟩ := evalOpnds_cons_some h
  obtain ⟨w, ws', hw, h2, rfl⟩ := evalOpnds_cons_some h1
  cases hw
  cases h2
  exact ⟨u, rfl⟩

theorem once_rel (hE : E.Ok) {a0 : Opnd} {g0 : Nat} {vs1 vs2 : List RVal}
    (hF : RelFrame E h fr1 fr2) (hrest : fr1.rest = i :: rest') (hL : LinkOk E fr1 h frs1)
    (hS : RelStack E frs1 frs2) (hh : RelHeap hp1 hp2) (hop : i.op = .call (.extern Ext.onceDo) [a0, .fn g0])
    (e1 : evalOpnds E.prog (adv fr1 rest') [a0, .fn g0] i.opTys = some vs1)
    (e2 : evalOpnds E.prog (adv fr2 rest') [a0, .fn g0] i.opTys = some vs2)
    (hargs : LabRel (sctx E.prog E.hints fr1.f h).lab [a0, .fn g0] vs1 vs2) :
    StepRel E.al (RelState E)
      (onceBody E.prog hp1 (adv fr1 rest') frs1 i vs1) (onceBody E.prog hp2 (adv fr2 rest') frs2 i vs2) := by
  have hat := hF.atInstr hrest
  have hfr := hF.fr.adv rest' rest'
  have hc := calleeChecked_once hat.callees hop
  obtain ⟨u1, rfl⟩ := evalOpnds_once e1
  obtain ⟨u2, rfl⟩ := evalOpnds_once e2
  obtain ⟨a', b', hab, hu, _⟩ := ARel.two hargs.relH
  injection hab with hab1 hab2
  subst hab1
  have hcaller : ∀ {v1 v2 : RVal}, v1 = v2 →
      RelFrame E h { adv fr1 rest' with regs := regSet fr1.regs i.id v1 } { adv fr2 rest' with regs := regSet fr2.regs i.id v2 } :=
    fun e => hF.advance_reg hrest (RelV.of_eq e)
  unfold onceBody
  split
  · rename_i b o g hv
    injection hv with hv1 hv2
    injection hv2 with hv2 _
    injection hv2 with hv2
    injection hv2 with hv2
    subst hv1 hv2
    have := hu.addr1_left rfl
    subst this
    simp only
    rcases (hh.read b o 1).cases with ⟨r1, r2⟩ | ⟨x1, x2, r1, r2, hx⟩
    · rw [r1, r2]; exact .fault
    rw [r1, r2]
    split
    · -- first call: run the closure
      rename_i hx1
      injection hx1 with hx1
      subst hx1
      have := hx.addr1_left rfl
      subst this
      simp only
      rcases (hh.write b o (LRelH.refl [Val.opaque 1])).cases with ⟨w1, w2⟩ | ⟨g1, g2, w1, w2, hg⟩
      · rw [w1, w2]; exact .fault
      rw [w1, w2]
      cases hgf : E.prog.funcs[g0]? with
      | none => exact .fault
      | some gf =>
        simp only
        obtain ⟨gh, hgh, hgok⟩ := hE.lookup hgf hc
        rcases (mkFrame_rel hE hgf hc hgh none (vs1 := []) (vs2 := []) (fun _ => RelV.refl _ _) rfl).cases
          with ⟨m1, m2⟩ | ⟨n1, n2, m1, m2, hn⟩
        · rw [m1]; exact .fault
        · rw [m1]
          simp only
          rw [m1] at m2
          injection m2 with m2
          subst m2
          rw [hfr.ev_eq, hfr.ev_eq]
          refine .cont ⟨hg, .cons hn ?_ (.cons (hcaller rfl) (hL.congr rfl rfl) hS)⟩
          intro id hc' hd _ _
          obtain ⟨_, _, en1⟩ := mkFrame_eq_some m1
          have hdest : n1.dest = none := by rw [en1]
          rw [hdest] at hd
          cases hd
    · -- already done
      rename_i n _ hx1
      injection hx1 with hx1
      subst hx1
      have := hx.addr1_left rfl
      subst this
      simp only
      rw [hfr.ev_eq]
      exact .cont ⟨hh, .cons (hcaller rfl) (hL.congr rfl rfl) hS⟩
    · rename_i n1 n2
      split
      · rename_i hx2
        injection hx2 with hx2
        subst hx2
        have := hx.addr1_right rfl
        subst this
        exact (n1 rfl).elim
      · rename_i n _ hx2
        injection hx2 with hx2
        subst hx2
        have := hx.addr1_right rfl
        subst this
        exact (n2 _ rfl).elim
      · exact .fault
  · rename_i n1
    split
    · rename_i b o g hv
      injection hv with hv1 hv2
      injection hv2 with hv2 _
      injection hv2 with hv2
      injection hv2 with hv2
      subst hv1 hv2
      have := hu.addr1_right rfl
      subst this
      exact (n1 _ _ _ rfl).elim
    · exact .fault

end

end EdVerif.Ssa
