import EdVerif.Ssa.NI.Step
/-!
# NI proof, part 11: from one step to `runTrace`; the initial state
-/
set_option linter.unusedVariables false
namespace EdVerif.Ssa

/-! ## `ctOkSimple` gives `Env.Ok` -/

theorem ctFuncsOk_get {prog : Program} {hints : List FuncHints} {al : AllowedSites} {checked : Nat} :
    ∀ (fs : List Func) (hs : List FuncHints) (k j : Nat) (f : Func),
      ctFuncsOk prog hints al checked fs hs k = true → fs[j]? = some f → checked.testBit (k + j) = true →
      ∃ h, hs[j]? = some h ∧ ctFuncOk prog hints al checked f h = true
  | [], _, _, j, _, _, hf, _ => by simp at hf
  | f0 :: fs, hs, k, 0, f, hok, hf, hc => by
    simp only [List.getElem?_cons_zero, Option.some.injEq] at hf
    subst hf
    unfold ctFuncsOk at hok
    simp only [Bool.and_eq_true] at hok
    simp only [Nat.add_zero] at hc
    rw [hc] at hok
    simp only [if_true] at hok
    cases hs with
    | nil => simp at hok
    | cons h hs' => exact ⟨h, rfl, hok.1⟩
  | f0 :: fs, hs, k, j + 1, f, hok, hf, hc => by
    simp only [List.getElem?_cons_succ] at hf
    unfold ctFuncsOk at hok
    simp only [Bool.and_eq_true] at hok
    have hc' : checked.testBit (k + 1 + j) = true := by
      rwa [show k + 1 + j = k + (j + 1) by omega]
    obtain ⟨h, hh, hfo⟩ := ctFuncsOk_get fs hs.tail (k + 1) j f hok.2 hf hc'
    refine ⟨h, ?_, hfo⟩
    cases hs with
    | nil => simp at hh
    | cons h0 hs' => simpa using hh

theorem envOk_of_ctOkSimple {prog : Program} {hints : List FuncHints} {pol : CtPolicy} {al : AllowedSites}
    (h : ctOkSimple prog hints pol al = true) : (Env.mk prog hints al (ctChecked prog pol)).Ok := by
  intro fi f hf hc
  unfold ctOkSimple at h
  exact ctFuncsOk_get prog.funcs hints 0 fi f h hf (by simpa using hc)

/-! ## traces -/

theorem runTrace_suffix (p : Program) : ∀ (fuel : Nat) (s : State) (tr : List Event), ∃ suf, (runTrace p fuel s tr).2 = suf ++ tr
  | 0, s, tr => ⟨[], rfl⟩
  | fuel + 1, s, tr => by
    unfold runTrace
    split
    · rename_i s' ev _
      obtain ⟨suf, hs⟩ := runTrace_suffix p fuel s' (ev.reverse ++ tr)
      exact ⟨suf ++ ev.reverse, by rw [hs]; simp⟩
    · rename_i s' rets ev _
      exact ⟨ev.reverse, rfl⟩
    · rename_i s' cd ev _
      exact ⟨ev.reverse, rfl⟩
    · exact ⟨[], rfl⟩

/-- the trace after one more step: everything emitted by the step comes first -/
theorem runTrace_succ (p : Program) (fuel : Nat) (s : State) (tr : List Event) :
    ∃ suf, (runTrace p (fuel + 1) s tr).2 = suf ++ (step p s).events.reverse ++ tr := by
  unfold runTrace
  split
  · rename_i s' ev he
    obtain ⟨suf, hs⟩ := runTrace_suffix p fuel s' (ev.reverse ++ tr)
    rw [he]
    exact ⟨suf, by rw [hs]; simp [Step.events]⟩
  · rename_i s' rets ev he
    rw [he]
    exact ⟨[], by simp [Step.events]⟩
  · rename_i s' cd ev he
    rw [he]
    exact ⟨[], by simp [Step.events]⟩
  · rename_i w he
    rw [he]
    exact ⟨[], by simp [Step.events]⟩

theorem ni_run {E : Env} (hE : E.Ok) : ∀ (fuel : Nat) (s1 s2 : State) (tr : List Event), RelState E s1 s2 →
    TraceRel E.al (runTrace E.prog fuel s1 tr).2.reverse (runTrace E.prog fuel s2 tr).2.reverse
  | 0, s1, s2, tr, _ => Or.inl rfl
  | fuel + 1, s1, s2, tr, hs => by
    have hstep := step_rel hE hs
    obtain ⟨suf1, h1⟩ := runTrace_succ E.prog fuel s1 tr
    obtain ⟨suf2, h2⟩ := runTrace_succ E.prog fuel s2 tr
    generalize hst1 : step E.prog s1 = st1 at hstep h1
    generalize hst2 : step E.prog s2 = st2 at hstep h2
    cases hstep with
    | cont hq =>
      rename_i s1' s2' ev
      have e1 : (runTrace E.prog (fuel + 1) s1 tr) = runTrace E.prog fuel s1' (ev.reverse ++ tr) := by
        rw [runTrace, hst1]
      have e2 : (runTrace E.prog (fuel + 1) s2 tr) = runTrace E.prog fuel s2' (ev.reverse ++ tr) := by
        rw [runTrace, hst2]
      rw [e1, e2]
      exact ni_run hE fuel s1' s2' _ hq
    | done =>
      left
      rw [runTrace, runTrace, hst1, hst2]
    | panic =>
      left
      rw [runTrace, runTrace, hst1, hst2]
    | fault =>
      left
      rw [runTrace, runTrace, hst1, hst2]
    | declass hd =>
      right
      obtain ⟨pre, e1, e2, r1, r2, hev1, hev2, hne, hfn, hk, hal⟩ := hd
      refine ⟨tr.reverse ++ pre, e1, e2, r1 ++ suf1.reverse, r2 ++ suf2.reverse, ?_, ?_, hne, hfn, hk, hal⟩
      · rw [h1, hev1]; simp
      · rw [h2, hev2]; simp

/-! ## the initial state -/

theorem paramHi_of_paramSecret {ps : List Param} {pub : Nat} {i : Nat} (h : paramSecret ps pub i = true) : paramHi ps pub i = true := by
  unfold paramSecret at h
  unfold paramHi
  cases hp : ps[i]? with
  | none => rfl
  | some p =>
    rw [hp] at h
    simp only [Bool.and_eq_true] at h
    simp only
    rw [h.2]
    simp

theorem relArgs_params {f : Func} {h : FuncHints} : ∀ (args1 args2 : List RVal) (k : Nat), RelArgs f h k args1 args2 →
    (∀ j : Nat, RelV (paramHi f.params h.publicParams (k + j)) ((args1[j]?).getD []) ((args2[j]?).getD [])) ∧
      args1.length = args2.length
  | [], [], _, _ => ⟨fun j => by simp; exact RelV.refl _ _, rfl⟩
  | [], _ :: _, _, hr => by cases hr
  | _ :: _, [], _, hr => by cases hr
  | a :: as, b :: bs, k, hr => by
    obtain ⟨h1, h2⟩ := hr
    obtain ⟨ih1, ih2⟩ := relArgs_params as bs (k + 1) h2
    refine ⟨fun j => ?_, by simp [ih2]⟩
    cases j with
    | zero =>
      simp only [List.getElem?_cons_zero, Option.getD_some, Nat.add_zero]
      exact RelV.of_relR h1 paramHi_of_paramSecret
    | succ j =>
      simp only [List.getElem?_cons_succ]
      have := ih1 j
      rwa [show k + 1 + j = k + (j + 1) by omega] at this

theorem callState_rel {E : Env} (hE : E.Ok) {fi : Nat} {f : Func} {h : FuncHints} (hc : E.checked.testBit fi = true)
    (hf : E.prog.funcs[fi]? = some f) (hh : E.hints[fi]? = some h) {h1 h2 : Heap} {args1 args2 : List RVal}
    (hheap : RelHeap h1 h2) (hargs : RelArgs f h 0 args1 args2) {s1 s2 : State}
    (e1 : callState E.prog h1 fi args1 = some s1) (e2 : callState E.prog h2 fi args2 = some s2) : RelState E s1 s2 := by
  obtain ⟨_, f1, rfl⟩ := callState_eq_some hf e1
  obtain ⟨_, f2, rfl⟩ := callState_eq_some hf e2
  obtain ⟨hp, hlen⟩ := relArgs_params args1 args2 0 hargs
  simp only [Nat.zero_add] at hp
  rcases (mkFrame_rel hE hf hc hh none hp hlen).cases with ⟨m1, m2⟩ | ⟨n1, n2, m1, m2, hn⟩
  · rw [m1] at f1; cases f1
  · rw [m1] at f1
    rw [m2] at f2
    cases f1; cases f2
    exact ⟨hheap, .cons hn trivial .nil⟩

end EdVerif.Ssa
