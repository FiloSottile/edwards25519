import EdVerif.Ssa.Tie.FiatSmall
/-!
# `fiatScalarSub`
-/
namespace EdVerif.Ssa.Tie
open EdVerif.Ssa EdVerif.Gen.Ssa EdVerif.Prims EdVerif.Gen.Fiat
set_option maxRecDepth 100000

def body102 : List Instr := body% f102
theorem funcs_102 : prog.funcs[102]? = some f102 := rfl
theorem mkFrame_102 (args : List RVal) (dest : Option Nat) :
    mkFrame 102 f102 args dest = some ⟨102, f102, #[], args.toArray, 0, body102, dest⟩ := rfl
theorem resultTys_102 : f102.resultTys = [] := rfl
theorem funcIdx_102 : prog.funcIdx? (nm! "fiatScalarSub") = some 102 := by decide +kernel

/-- Every instruction of `fiatScalarSub` but the final `Return`, whatever lies below its frame, on any heap in which the
    argument blocks hold four words each.  The blocks may coincide: the kernel loads its arguments before its first
    store to `out`, so this one run covers every aliasing of the pointers. -/
theorem pre_fiatScalarSub (H : Heap) (bo ba bb : Nat) (o a b : W4) (hlt_b : b.lt64)
    (ho : H.blocks[bo]? = some (w4Cells o)) (ha : H.blocks[ba]? = some (w4Cells a)) (hb : H.blocks[bb]? = some (w4Cells b)) (dest : Option Nat) (frs : List Frame) :
    ∃ ext regs, steps prog 77 ⟨H, ⟨102, f102, #[], #[[.ptr bo 0], [.ptr ba 0], [.ptr bb 0]], 0, body102, dest⟩ :: frs⟩
      = some ⟨mkH H [(bo, w4Cells (fiatScalarSub o a b))] ext,
          ⟨102, f102, regs, #[[.ptr bo 0], [.ptr ba 0], [.ptr bb 0]], 0, List.drop 69 body102, dest⟩ :: frs⟩ := by
  obtain ⟨o0, o1, o2, o3⟩ := o
  obtain ⟨a0, a1, a2, a3⟩ := a
  obtain ⟨b0, b1, b2, b3⟩ := b
  obtain ⟨hlt_b0, hlt_b1, hlt_b2, hlt_b3⟩ := hlt_b
  have hbo := lt_of_get ho
  have hba := lt_of_get ha
  have hbb := lt_of_get hb
  simp only [w4Cells] at ho ha hb
  apply Exists.intro
  apply Exists.intro
  apply steps_of_base
  simp only [body102]
  fiat_exec [resultTys_102, funcs_96, mkFrame_96, ↓steps_Cmovznz_ext, and_eq, read_base, write_base, write_hit, ho, ha, hb, hbo, hba, hbb, hlt_b0, hlt_b1, hlt_b2, hlt_b3]
  refine state_eq ?_ rfl
  simp only [w4Cells, fiatScalarSub, Bits.Add64, Bits.Sub64]
  rfl

/-- the call returns into any caller frame -/
theorem call_fiatScalarSub (H : Heap) (bo ba bb : Nat) (o a b : W4) (hlt_b : b.lt64)
    (ho : H.blocks[bo]? = some (w4Cells o)) (ha : H.blocks[ba]? = some (w4Cells a)) (hb : H.blocks[bb]? = some (w4Cells b)) (d : Nat) (cfi : Nat) (cf : Func) (cregs cparams : Array RVal) (cblk : Nat) (crest : List Instr) (cdest : Option Nat) (frs : List Frame) :
    ∃ ext, steps prog 78 ⟨H, ⟨102, f102, #[], #[[.ptr bo 0], [.ptr ba 0], [.ptr bb 0]], 0, body102, some d⟩ :: ⟨cfi, cf, cregs, cparams, cblk, crest, cdest⟩ :: frs⟩
      = some ⟨mkH H [(bo, w4Cells (fiatScalarSub o a b))] ext, ⟨cfi, cf, regSet cregs d [], cparams, cblk, crest, cdest⟩ :: frs⟩ := by
  obtain ⟨ext, regs, hp⟩ := pre_fiatScalarSub H bo ba bb o a b hlt_b ho ha hb (some d) (⟨cfi, cf, cregs, cparams, cblk, crest, cdest⟩ :: frs)
  refine ⟨ext, Eq.trans (steps_steps' hp 1) ?_⟩
  simp only [body102, List.drop_succ_cons, List.drop_zero]
  fiat_exec [resultTys_102]

/-- **tie** (any aliasing): `fiatScalarSub` on an arbitrary heap in which the argument blocks hold the words of the arguments
    (the blocks may coincide, in which case the arguments do). -/
theorem tie_fiatScalarSub (h : Heap) (bo ba bb : Nat) (o a b : W4) (hlt_b : b.lt64)
    (ho : h.blocks[bo]? = some (w4Cells o)) (ha : h.blocks[ba]? = some (w4Cells a)) (hb : h.blocks[bb]? = some (w4Cells b)) :
    ∃ h', runCall prog 78 h (nm! "fiatScalarSub") [[.ptr bo 0], [.ptr ba 0], [.ptr bb 0]] = some (.done ⟨h', []⟩ [])
      ∧ Post1 h h' bo (w4Cells (fiatScalarSub o a b)) := by
  obtain ⟨ext, regs, hp⟩ := pre_fiatScalarSub h bo ba bb o a b hlt_b ho ha hb none []
  refine ⟨_, ?_, post1_base _ ext (lt_of_get ho)⟩
  rw [runCall_eq funcIdx_102 funcs_102 (mkFrame_102 _ _), run_steps' hp 1]
  simp only [body102, List.drop_succ_cons, List.drop_zero]
  fiat_exec [resultTys_102]

end EdVerif.Ssa.Tie
