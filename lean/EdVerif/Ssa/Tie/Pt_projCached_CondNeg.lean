import EdVerif.Ssa.Tie.PtGlob
import EdVerif.Ssa.Tie.KernESwap
import EdVerif.Gen.Formulas
/-!
# GENERATED by gen_pt.py — `(*projCached).CondNeg`: SSA execution = T5's `Formulas.projCached_CondNeg`
-/
namespace EdVerif.Ssa.Tie
open EdVerif.Ssa EdVerif.Gen.Ssa EdVerif.Prims EdVerif.Impl EdVerif.Gen
set_option maxRecDepth 100000
set_option linter.unusedVariables false

def body48 : List Instr := body% f48
theorem funcs_48 : prog.funcs[48]? = some f48 := rfl
theorem mkFrame_48 (args : List RVal) (dest : Option Nat) :
    mkFrame 48 f48 args dest = some ⟨48, f48, #[], args.toArray, 0, body48, dest⟩ := rfl
theorem resultTys_48 : f48.resultTys = [14] := rfl
theorem funcIdx_48 : prog.funcIdx? (nm! "(*projCached).CondNeg") = some 48 := by decide +kernel

/-- every instruction of `(*projCached).CondNeg` but the final `Return`, whatever lies below its frame, on the canonical heap of its parameters;
    the blocks allocated (locals and temporaries of the callees) depend on the values only -/
theorem preE_projCached_CondNeg (v : Cached) (c : Nat) (hc : c < 2 ^ 64) : ∃ E : List (Array Val), ∀ (H : Heap) (bv bg_feZero : Nat) (hfv : Fits H bv 0 20)  (hg_feZero : H.read 13 0 1 = some [.ptr bg_feZero 0]) (hfg_feZero : Fits H bg_feZero 0 5) (hn_feZero : bg_feZero ≠ 13) (hne_v_feZero : bv ≠ bg_feZero) (hng_v_feZero : bv ≠ 13) (dest : Option Nat) (frs : List Frame), ∃ regs,
    steps prog 245 ⟨mkE H (entsC bv v ++ [(bg_feZero, 0, feL EdVerif.Gen.Field.feZero)]) [],
        ⟨48, f48, #[], #[[.ptr bv 0], [.int c]], 0, body48, dest⟩ :: frs⟩
      = some ⟨mkE H (entsC bv (Formulas.projCached_CondNeg v c) ++ [(bg_feZero, 0, feL EdVerif.Gen.Field.feZero)]) E,
          ⟨48, f48, regs, #[[.ptr bv 0], [.int c]], 0, [⟨9, .none, 419, .ret [(.param 0)], 0, [14]⟩], dest⟩ :: frs⟩ := by
  apply Exists.intro
  intro H bv bg_feZero hfv  hg_feZero hfg_feZero hn_feZero hne_v_feZero hng_v_feZero dest frs
  apply Exists.intro
  have hbv := hfv.1
  have hfv0 := fits_sub 0 hfv (by decide)
  have hfv1 := fits_sub 5 hfv (by decide)
  have hfv2 := fits_sub 10 hfv (by decide)
  have hfv3 := fits_sub 15 hfv (by decide)
  simp only [body48]
  ssa_execP [resultTys_48, ↓stepsA_Swap, ↓stepsA_Negate, ↓stepsA_Select, hbv, hfv0, hfv1, hfv2, hfv3, hc, read_mkE_base hg_feZero, gptr_mkE hg_feZero, isGlob_mkE hg_feZero, hfg_feZero, hfg_feZero.1, hn_feZero, hn_feZero.symm, hne_v_feZero, hne_v_feZero.symm, hng_v_feZero, hng_v_feZero.symm, NoBlk_cons, NoBlk_nil, Negate_val, Multiply_rz, Square_rz, Add_rz, Subtract_rz, Select_rz, Set_rz, funcs_80, mkFrame_80, funcs_70, mkFrame_70]
  rfl

/-- the blocks `(*projCached).CondNeg` allocates -/
noncomputable def ext_projCached_CondNeg (v : Cached) (c : Nat) : List (Array Val) :=
  open Classical in if h : c < 2 ^ 64 then Classical.choose (preE_projCached_CondNeg v c h) else []

/-- `(*projCached).CondNeg` called from any frame on an arbitrary heap in which the parameters are structures of elements in distinct blocks -/
theorem callA_projCached_CondNeg (H : Heap) (bv : Nat) (c : Nat) (hc : c < 2 ^ 64) (hkv : Ok4 H bv)  (hg_feZero : IsGlob H 13) (hkg_feZero : OkE H (gptr H 13) 0) (hvg_feZero : getE H (gptr H 13) 0 = EdVerif.Gen.Field.feZero) (hn_feZero : gptr H 13 ≠ 13) (hne_v_feZero : bv ≠ gptr H 13) (hng_v_feZero : bv ≠ 13) (d : Nat) (cfi : Nat) (cf : Func) (cregs cparams : Array RVal) (cblk : Nat) (crest : List Instr) (cdest : Option Nat) (frs : List Frame) :
    steps prog 246 ⟨H, ⟨48, f48, #[], #[[.ptr bv 0], [.int c]], 0, body48, some d⟩ :: ⟨cfi, cf, cregs, cparams, cblk, crest, cdest⟩ :: frs⟩
      = some ⟨pushB (set4 bv (Formulas.projCached_CondNeg (getC H bv) c).YplusX (Formulas.projCached_CondNeg (getC H bv) c).YminusX (Formulas.projCached_CondNeg (getC H bv) c).Z (Formulas.projCached_CondNeg (getC H bv) c).T2d H) (ext_projCached_CondNeg (getC H bv) c),
          ⟨cfi, cf, regSet cregs d [.ptr bv 0], cparams, cblk, crest, cdest⟩ :: frs⟩ := by
  have hsc : c < 2 ^ 64 := hc
  obtain ⟨regs, hp⟩ := Classical.choose_spec (preE_projCached_CondNeg (getC H bv) c hc) H bv (gptr H 13) (fits_ok4 hkv)  hg_feZero hkg_feZero.1 hn_feZero hne_v_feZero hng_v_feZero (some d) (⟨cfi, cf, cregs, cparams, cblk, crest, cdest⟩ :: frs)
  rw [show mkE H (entsC bv (getC H bv) ++ [(gptr H 13, 0, feL EdVerif.Gen.Field.feZero)]) [] = H from mkE_restates H _ (restatesO4 hkv (restates_cons_val hkg_feZero hvg_feZero (restates_nil H)))] at hp
  rw [ext_projCached_CondNeg, dif_pos hsc]
  refine (steps_steps' hp 1).trans ?_
  ssa_execP [resultTys_48]
  refine congrArg (fun hp => some (⟨hp, _⟩ : State)) ?_
  exact mkE_head4 H bv _ _ _ _ _ _ (restates_cons_val hkg_feZero hvg_feZero (restates_nil H))

derive_rules callA_projCached_CondNeg runA_projCached_CondNeg stepsA_projCached_CondNeg

/-- **tie**: `(*projCached).CondNeg` on any heap in which the (pairwise distinct) parameter blocks hold the cells of the model values and the package variables point to T5's constants: the run
    terminates and returns the receiver; the receiver's block then holds the cells of T5's `Formulas.projCached_CondNeg`; every other block of the
    heap is unchanged (the heap grows by the locals of the run). -/
theorem tie_projCached_CondNeg (h : Heap) (bv bg_feZero : Nat) (v : Cached) (c : Nat) (hc : c < 2 ^ 64) (hcv : h.blocks[bv]? = some (cellsC v))  (hgp_feZero : h.blocks[13]? = some #[.ptr bg_feZero 0]) (hgv_feZero : h.blocks[bg_feZero]? = some (feCells EdVerif.Gen.Field.feZero)) :
    ∃ h', runCall prog 246 h (nm! "(*projCached).CondNeg") [[.ptr bv 0], [.int c]] = some (.done ⟨h', []⟩ [[.ptr bv 0]])
      ∧ Post1 h h' bv (cellsC (Formulas.projCached_CondNeg v c)) := by
  obtain ⟨E, pre⟩ := preE_projCached_CondNeg v c hc
  obtain ⟨regs, hp⟩ := pre h bv bg_feZero (fits_of_get hcv 20 (Nat.le_refl _))  (read_of_get1 hgp_feZero) (fits_of_get hgv_feZero 5 (Nat.le_refl _)) (ne_of_size' hgv_feZero hgp_feZero (n1 := 5) (n2 := 1) rfl rfl (by decide)) (ne_of_size' hcv hgv_feZero (n1 := 20) (n2 := 5) rfl rfl (by decide)) (ne_of_size' hcv hgp_feZero (n1 := 20) (n2 := 1) rfl rfl (by decide)) none []
  rw [show mkE h (entsC bv v ++ [(bg_feZero, 0, feL EdVerif.Gen.Field.feZero)]) [] = h from mkE_restates h _ (restates4 hcv (restates_feCells hgv_feZero (restates_nil h)))] at hp
  refine ⟨_, ?_, post1_mkE4 _ _ _ _ _ E hcv (cells4_size _ _ _ _) (restates_feCells hgv_feZero (restates_nil h))⟩
  simp only [runCall, funcIdx_48, callState, funcs_48, mkFrame_48, Option.bind_some, Option.map_some, Option.pure_def,
    Option.bind_eq_bind]
  rw [run_steps' hp 1]
  ssa_execP [resultTys_48]

end EdVerif.Ssa.Tie
