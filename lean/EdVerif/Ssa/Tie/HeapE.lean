import EdVerif.Ssa.Tie.Heap
/-!
# Element-granular symbolic heaps

The point layer addresses `field.Element`s *inside* larger blocks (`Point` = 4 elements = 20 cells, …), so the canonical
heap of `Heap.lean` (whole blocks overridden) is refined: `mkE h0 ovr ext` is the arbitrary heap `h0` in which the cell
ranges listed in `ovr` (`(block, offset, cells)`, the head of the list applied last) are overwritten, followed by the freshly
allocated blocks `ext`.  All statements about it are derived from a cell-level characterisation (`cell`, `blkSize`).
-/
namespace EdVerif.Ssa.Tie
open EdVerif.Ssa

/-! ## cells -/

def cell (hp : Heap) (b i : Nat) : Option Val := (hp.blocks[b]?).bind (fun V => V[i]?)

def blkSize (hp : Heap) (b : Nat) : Nat := ((hp.blocks[b]?).map Array.size).getD 0

theorem cell_eq_none_of_size {hp : Heap} {b i : Nat} (h : blkSize hp b ≤ i) : cell hp b i = none := by
  simp only [cell, blkSize] at *
  cases hb : hp.blocks[b]? with
  | none => rfl
  | some V =>
    simp only [hb, Option.map_some, Option.getD_some] at h
    simp [Array.getElem?_eq_none h]

theorem cell_isSome_of_lt {hp : Heap} {b i : Nat} (h : i < blkSize hp b) : ∃ v, cell hp b i = some v := by
  simp only [cell, blkSize] at *
  cases hb : hp.blocks[b]? with
  | none => simp [hb] at h
  | some V =>
    simp only [hb, Option.map_some, Option.getD_some] at h
    exact ⟨V[i], by simp [h]⟩

theorem Heap.ext_cell {h1 h2 : Heap} (hs : h1.blocks.size = h2.blocks.size)
    (hb : ∀ b, blkSize h1 b = blkSize h2 b) (hc : ∀ b i, cell h1 b i = cell h2 b i) : h1 = h2 := by
  obtain ⟨B1⟩ := h1
  obtain ⟨B2⟩ := h2
  congr 1
  apply Array.ext_getElem?
  intro b
  by_cases hlt : b < B1.size
  · have hlt2 : b < B2.size := by simpa [← hs] using hlt
    have e1 : B1[b]? = some B1[b] := by simp [hlt]
    have e2 : B2[b]? = some B2[b] := by simp [hlt2]
    rw [e1, e2]
    congr 1
    apply Array.ext_getElem?
    intro i
    have := hc b i
    simpa [cell, e1, e2] using this
  · have hlt2 : ¬ b < B2.size := by simpa [← hs] using hlt
    rw [Array.getElem?_eq_none (by omega), Array.getElem?_eq_none (by omega)]

/-! ## overlay of a block -/

/-- `V` with the cells `W` written from offset `o` on (cells beyond the end are dropped) -/
def ovl (V : Array Val) : Nat → List Val → Array Val
  | _, [] => V
  | o, w :: ws => ovl (V.setIfInBounds o w) (o + 1) ws

@[simp] theorem ovl_size (V : Array Val) (o : Nat) (W : List Val) : (ovl V o W).size = V.size := by
  induction W generalizing V o with
  | nil => rfl
  | cons w ws ih => simp [ovl, ih]

theorem ovl_get (V : Array Val) (o : Nat) (W : List Val) (i : Nat) :
    (ovl V o W)[i]? = if o ≤ i ∧ i < o + W.length ∧ i < V.size then W[i - o]? else V[i]? := by
  induction W generalizing V o with
  | nil =>
    have : ¬ (o ≤ i ∧ i < o + ([] : List Val).length ∧ i < V.size) := by simp; omega
    simp only [ovl, this, if_false]
  | cons w ws ih =>
    simp only [ovl]
    rw [ih]
    simp only [Array.size_setIfInBounds, Array.getElem?_setIfInBounds, List.length_cons]
    by_cases h1 : o = i
    · subst h1
      by_cases h2 : o < V.size
      · have c0 : ¬ o + 1 ≤ o := by omega
        simp [c0, h2]
      · have c0 : ¬ o + 1 ≤ o := by omega
        simp [c0, h2]
    · by_cases c : o + 1 ≤ i ∧ i < o + 1 + ws.length ∧ i < V.size
      · have c2 : (o ≤ i ∧ i < o + (ws.length + 1) ∧ i < V.size) := by omega
        have e : i - o = (i - (o + 1)) + 1 := by omega
        simp only [c, c2, and_self, if_true]
        rw [e, List.getElem?_cons_succ]
      · have c2 : ¬ (o ≤ i ∧ i < o + (ws.length + 1) ∧ i < V.size) := by omega
        simp [c, c2, h1]

/-! ## overlay of a heap -/

/-- the heap `hp` with the cells `W` written at `(b, o)` -/
def ovE (b o : Nat) (W : List Val) (hp : Heap) : Heap := ⟨hp.blocks.modify b (fun V => ovl V o W)⟩

@[simp] theorem ovE_size (b o W hp) : (ovE b o W hp).blocks.size = hp.blocks.size := by simp [ovE]

@[simp] theorem ovE_blkSize (b o W hp c) : blkSize (ovE b o W hp) c = blkSize hp c := by
  simp only [blkSize, ovE, Array.getElem?_modify]
  by_cases e : b = c
  · subst e; cases hp.blocks[b]? <;> simp
  · simp [e]

theorem ovE_cell (b o : Nat) (W : List Val) (hp : Heap) (c i : Nat) :
    cell (ovE b o W hp) c i
      = if c = b ∧ o ≤ i ∧ i < o + W.length ∧ i < blkSize hp c then W[i - o]? else cell hp c i := by
  simp only [cell, ovE, Array.getElem?_modify, blkSize]
  by_cases e : b = c
  · subst e
    simp only [if_true, true_and]
    cases hp.blocks[b]? with
    | none => simp
    | some V => simp [ovl_get]
  · have e' : ¬ c = b := fun h => e h.symm
    simp [e, e']

/-! ## the canonical heap -/

abbrev Ent := Nat × Nat × List Val

def baseE (h0 : Heap) : List Ent → Heap
  | [] => h0
  | e :: r => ovE e.1 e.2.1 e.2.2 (baseE h0 r)

def mkE (h0 : Heap) (ovr : List Ent) (ext : List (Array Val)) : Heap := ⟨(baseE h0 ovr).blocks ++ ext.toArray⟩

@[simp] theorem baseE_size (h0 : Heap) : ∀ ovr, (baseE h0 ovr).blocks.size = h0.blocks.size
  | [] => rfl
  | e :: r => by simp [baseE, baseE_size h0 r]

@[simp] theorem baseE_blkSize (h0 : Heap) (c : Nat) : ∀ ovr, blkSize (baseE h0 ovr) c = blkSize h0 c
  | [] => rfl
  | e :: r => by simp [baseE, baseE_blkSize h0 c r]

theorem mkE_size (h0 : Heap) (ovr ext) : (mkE h0 ovr ext).blocks.size = h0.blocks.size + ext.length := by
  simp [mkE]

/-- the range `[o, o+n)` lies inside block `b` of `h0` -/
def Fits (h0 : Heap) (b o n : Nat) : Prop := b < h0.blocks.size ∧ o + n ≤ blkSize h0 b

/-- two element slots are disjoint -/
def SepE (b o c o' : Nat) : Prop := c ≠ b ∨ o + 5 ≤ o' ∨ o' + 5 ≤ o

theorem SepE.symm {b o c o' : Nat} (h : SepE b o c o') : SepE c o' b o := by
  unfold SepE at *; omega

theorem mkE_blkSize_lt (h0 : Heap) (ovr ext) (c : Nat) (hc : c < h0.blocks.size) :
    blkSize (mkE h0 ovr ext) c = blkSize h0 c := by
  simp only [blkSize, mkE]
  rw [Array.getElem?_append_left (by simpa using hc)]
  exact baseE_blkSize h0 c ovr

theorem mkE_cell_lt (h0 : Heap) (ovr ext) (c i : Nat) (hc : c < h0.blocks.size) :
    cell (mkE h0 ovr ext) c i = cell (baseE h0 ovr) c i := by
  simp only [cell, mkE]
  rw [Array.getElem?_append_left (by simpa using hc)]

theorem mkE_get_ext (h0 : Heap) (ovr ext) (k : Nat) : (mkE h0 ovr ext).blocks[h0.blocks.size + k]? = ext[k]? := by
  simp only [mkE]
  rw [Array.getElem?_append_right (by simp)]
  simp

theorem mkE_cell_ge (h0 : Heap) (ovr ext) (c i : Nat) (hc : h0.blocks.size ≤ c) :
    cell (mkE h0 ovr ext) c i = (ext[c - h0.blocks.size]?).bind (fun V => V[i]?) := by
  obtain ⟨k, rfl⟩ : ∃ k, c = h0.blocks.size + k := ⟨c - h0.blocks.size, by omega⟩
  simp only [cell, mkE_get_ext]
  simp

theorem mkE_blkSize_ge (h0 : Heap) (ovr ext) (c : Nat) (hc : h0.blocks.size ≤ c) :
    blkSize (mkE h0 ovr ext) c = ((ext[c - h0.blocks.size]?).map Array.size).getD 0 := by
  obtain ⟨k, rfl⟩ : ∃ k, c = h0.blocks.size + k := ⟨c - h0.blocks.size, by omega⟩
  simp only [blkSize, mkE_get_ext]
  simp

/-- cell of the head entry -/
theorem mkE_cell_hit (h0 : Heap) (b o : Nat) (W : List Val) (ovr ext) (k : Nat) (hf : Fits h0 b o W.length) (hk : k < W.length) :
    cell (mkE h0 ((b, o, W) :: ovr) ext) b (o + k) = W[k]? := by
  rw [mkE_cell_lt _ _ _ _ _ hf.1]
  simp only [baseE, ovE_cell, baseE_blkSize]
  have : (b = b ∧ o ≤ o + k ∧ o + k < o + W.length ∧ o + k < blkSize h0 b) := ⟨rfl, by omega, by omega, by have := hf.2; omega⟩
  simp only [this, and_self, if_true]
  congr 1; omega

/-- cell outside the head entry -/
theorem mkE_cell_miss (h0 : Heap) (b o : Nat) (W : List Val) (ovr ext) (c i : Nat) (h : c ≠ b ∨ i < o ∨ o + W.length ≤ i) :
    cell (mkE h0 ((b, o, W) :: ovr) ext) c i = cell (mkE h0 ovr ext) c i := by
  by_cases hc : c < h0.blocks.size
  · rw [mkE_cell_lt _ _ _ _ _ hc, mkE_cell_lt _ _ _ _ _ hc]
    simp only [baseE, ovE_cell]
    have : ¬ (c = b ∧ o ≤ i ∧ i < o + W.length ∧ i < blkSize (baseE h0 ovr) c) := by omega
    simp only [this, if_false]
  · rw [mkE_cell_ge _ _ _ _ _ (by omega), mkE_cell_ge _ _ _ _ _ (by omega)]

theorem mkE_blkSize_cons (h0 : Heap) (e : Ent) (ovr ext) (c : Nat) :
    blkSize (mkE h0 (e :: ovr) ext) c = blkSize (mkE h0 ovr ext) c := by
  by_cases hc : c < h0.blocks.size
  · rw [mkE_blkSize_lt _ _ _ _ hc, mkE_blkSize_lt _ _ _ _ hc]
  · rw [mkE_blkSize_ge _ _ _ _ (by omega), mkE_blkSize_ge _ _ _ _ (by omega)]

/-! ## `read` -/

theorem read_cell1 (hp : Heap) (b o : Nat) : hp.read b o 1 = (cell hp b o).map (fun v => [v]) := by
  simp only [Heap.read, cell]
  cases hp.blocks[b]? with
  | none => rfl
  | some V =>
    simp only [Option.bind_some, readCells, Option.bind_eq_bind, Option.pure_def]
    cases V[o]? <;> rfl

theorem read_cell5 (hp : Heap) (b o : Nat) :
    hp.read b o 5 = (cell hp b o).bind fun v0 => (cell hp b (o + 1)).bind fun v1 => (cell hp b (o + 1 + 1)).bind fun v2 =>
      (cell hp b (o + 1 + 1 + 1)).bind fun v3 => (cell hp b (o + 1 + 1 + 1 + 1)).bind fun v4 => some [v0, v1, v2, v3, v4] := by
  simp only [Heap.read, cell]
  cases hp.blocks[b]? with
  | none => rfl
  | some V =>
    simp only [Option.bind_some, readCells, Option.bind_eq_bind, Option.pure_def]
    cases V[o]? <;> try rfl
    cases V[o + 1]? <;> try rfl
    cases V[o + 1 + 1]? <;> try rfl
    cases V[o + 1 + 1 + 1]? <;> try rfl
    cases V[o + 1 + 1 + 1 + 1]? <;> rfl

section five
variable (h0 : Heap) (b o : Nat) (w0 w1 w2 w3 w4 : Val) (ovr : List Ent) (ext : List (Array Val))

theorem readE_hit_0 (hf : Fits h0 b o 5) : (mkE h0 ((b, o, [w0, w1, w2, w3, w4]) :: ovr) ext).read b (o + 0) 1 = some [w0] := by
  rw [read_cell1, mkE_cell_hit _ _ _ _ _ _ 0 hf (by simp)]; rfl
theorem readE_hit_1 (hf : Fits h0 b o 5) : (mkE h0 ((b, o, [w0, w1, w2, w3, w4]) :: ovr) ext).read b (o + 1) 1 = some [w1] := by
  rw [read_cell1, mkE_cell_hit _ _ _ _ _ _ 1 hf (by simp)]; rfl
theorem readE_hit_2 (hf : Fits h0 b o 5) : (mkE h0 ((b, o, [w0, w1, w2, w3, w4]) :: ovr) ext).read b (o + 2) 1 = some [w2] := by
  rw [read_cell1, mkE_cell_hit _ _ _ _ _ _ 2 hf (by simp)]; rfl
theorem readE_hit_3 (hf : Fits h0 b o 5) : (mkE h0 ((b, o, [w0, w1, w2, w3, w4]) :: ovr) ext).read b (o + 3) 1 = some [w3] := by
  rw [read_cell1, mkE_cell_hit _ _ _ _ _ _ 3 hf (by simp)]; rfl
theorem readE_hit_4 (hf : Fits h0 b o 5) : (mkE h0 ((b, o, [w0, w1, w2, w3, w4]) :: ovr) ext).read b (o + 4) 1 = some [w4] := by
  rw [read_cell1, mkE_cell_hit _ _ _ _ _ _ 4 hf (by simp)]; rfl

/-- a whole element of the head entry -/
theorem readE_hit5 (hf : Fits h0 b o 5) :
    (mkE h0 ((b, o, [w0, w1, w2, w3, w4]) :: ovr) ext).read b o 5 = some [w0, w1, w2, w3, w4] := by
  rw [read_cell5]
  have e0 := mkE_cell_hit h0 b o [w0, w1, w2, w3, w4] ovr ext 0 hf (by simp)
  have e1 := mkE_cell_hit h0 b o [w0, w1, w2, w3, w4] ovr ext 1 hf (by simp)
  have e2 := mkE_cell_hit h0 b o [w0, w1, w2, w3, w4] ovr ext 2 hf (by simp)
  have e3 := mkE_cell_hit h0 b o [w0, w1, w2, w3, w4] ovr ext 3 hf (by simp)
  have e4 := mkE_cell_hit h0 b o [w0, w1, w2, w3, w4] ovr ext 4 hf (by simp)
  simp only [Nat.add_zero] at e0
  rw [e0, e1, show o + 1 + 1 = o + 2 from rfl, e2, show o + 2 + 1 = o + 3 from rfl, e3, show o + 3 + 1 = o + 4 from rfl, e4]
  rfl

/-- one cell of another element slot -/
theorem readE_miss (c o' k : Nat) (hs : SepE b o c o') (hk : k < 5) :
    (mkE h0 ((b, o, [w0, w1, w2, w3, w4]) :: ovr) ext).read c (o' + k) 1 = (mkE h0 ovr ext).read c (o' + k) 1 := by
  rw [read_cell1, read_cell1, mkE_cell_miss]
  simp only [List.length_cons, List.length_nil]
  unfold SepE at hs; omega

/-- a whole other element slot -/
theorem readE_miss5 (c o' : Nat) (hs : SepE b o c o') :
    (mkE h0 ((b, o, [w0, w1, w2, w3, w4]) :: ovr) ext).read c o' 5 = (mkE h0 ovr ext).read c o' 5 := by
  have hm : ∀ k, k < 5 → cell (mkE h0 ((b, o, [w0, w1, w2, w3, w4]) :: ovr) ext) c (o' + k) = cell (mkE h0 ovr ext) c (o' + k) := by
    intro k hk
    apply mkE_cell_miss
    simp only [List.length_cons, List.length_nil]
    unfold SepE at hs; omega
  rw [read_cell5, read_cell5]
  have e0 := hm 0 (by omega)
  simp only [Nat.add_zero] at e0
  rw [e0, hm 1 (by omega), show o' + 1 + 1 = o' + 2 from rfl, hm 2 (by omega), show o' + 2 + 1 = o' + 3 from rfl, hm 3 (by omega),
    show o' + 3 + 1 = o' + 4 from rfl, hm 4 (by omega)]

/-- a cell of a block that is not the head entry's -/
theorem readE_miss_blk (c x n : Nat) (W : List Val) (hne : c ≠ b) :
    (mkE h0 ((b, o, W) :: ovr) ext).read c x n = (mkE h0 ovr ext).read c x n := by
  simp only [Heap.read]
  congr 1
  by_cases hc : c < h0.blocks.size
  · simp only [mkE]
    rw [Array.getElem?_append_left (by simpa using hc), Array.getElem?_append_left (by simpa using hc)]
    simp [baseE, ovE, Array.getElem?_modify, Ne.symm hne]
  · simp only [mkE]
    rw [Array.getElem?_append_right (by simp; omega), Array.getElem?_append_right (by simp; omega)]
    simp

end five

theorem readE_ext (h0 : Heap) (ovr ext) (k o n : Nat) :
    (mkE h0 ovr ext).read (h0.blocks.size + k) o n = (ext[k]?).bind (fun blk => readCells blk o n) := by
  simp only [Heap.read, mkE_get_ext]
  cases ext[k]? <;> rfl

/-! ## `write` -/

theorem writeCells_eq_ovl : ∀ (vs : List Val) (blk : Array Val) (off : Nat),
    (∀ j (hj : j < vs.length), ∃ old, blk[off + j]? = some old ∧ old.cls = (vs[j]).cls) → writeCells blk off vs = some (ovl blk off vs)
  | [], _, _, _ => rfl
  | v :: vs, blk, off, h => by
    obtain ⟨old, ho, hcls⟩ := h 0 (by simp)
    simp only [Nat.add_zero, List.getElem_cons_zero] at ho hcls
    simp only [writeCells, ho, hcls, if_true, ovl]
    apply writeCells_eq_ovl
    intro j hj
    obtain ⟨old', ho', hcls'⟩ := h (j + 1) (by simp; omega)
    refine ⟨old', ?_, by simpa using hcls'⟩
    rw [Array.getElem?_setIfInBounds]
    have : off ≠ off + 1 + j := by omega
    simp only [this, if_false]
    rw [← ho']; congr 1; omega

theorem write_eq_ovE (hp : Heap) (b o : Nat) (vs : List Val)
    (h : ∀ j (hj : j < vs.length), ∃ old, cell hp b (o + j) = some old ∧ old.cls = (vs[j]).cls) (hne : vs ≠ []) :
    hp.write b o vs = some (ovE b o vs hp) := by
  have hlen : 0 < vs.length := List.length_pos_iff.mpr hne
  obtain ⟨old0, h0, _⟩ := h 0 hlen
  simp only [cell] at h0
  cases hb : hp.blocks[b]? with
  | none => simp [hb] at h0
  | some blk =>
    rw [write_of_get hb, writeCells_eq_ovl]
    · simp only [Option.map_some, ovE]
      congr 2
      apply Array.ext_getElem?
      intro j
      rw [Array.getElem?_setIfInBounds, Array.getElem?_modify]
      by_cases e : b = j
      · subst e
        obtain ⟨hlt, rfl⟩ := Array.getElem?_eq_some_iff.mp hb
        simp [hlt]
      · simp [e]
    · intro j hj
      obtain ⟨old, ho, hc⟩ := h j hj
      simp only [cell, hb, Option.bind_some] at ho
      exact ⟨old, ho, hc⟩

/-! ## algebra of `ovE` -/

theorem ovE_ext {h1 h2 : Heap} (hs : h1.blocks.size = h2.blocks.size) (hb : ∀ b, blkSize h1 b = blkSize h2 b)
    (hc : ∀ b i, i < blkSize h1 b → cell h1 b i = cell h2 b i) : h1 = h2 := by
  apply Heap.ext_cell hs hb
  intro b i
  by_cases hi : i < blkSize h1 b
  · exact hc b i hi
  · rw [cell_eq_none_of_size (by omega), cell_eq_none_of_size (by rw [← hb]; omega)]

/-- writing one cell inside a written range -/
theorem ovE_set (b o : Nat) (W : List Val) (hp : Heap) (k : Nat) (x : Val) (hk : k < W.length) :
    ovE b (o + k) [x] (ovE b o W hp) = ovE b o (W.set k x) hp := by
  apply ovE_ext (by simp) (by simp)
  intro c i hi
  simp only [ovE_blkSize] at hi
  simp only [ovE_cell, ovE_blkSize, List.length_cons, List.length_nil, List.length_set]
  by_cases hA : c = b ∧ i = o + k
  · rw [if_pos (by omega), if_pos (by omega)]
    have e : i - (o + k) = 0 := by omega
    have e' : i - o = k := by omega
    rw [e, e', List.getElem?_set_self hk]; rfl
  · rw [if_neg (by omega)]
    by_cases hB : c = b ∧ o ≤ i ∧ i < o + W.length
    · rw [if_pos (by omega), if_pos (by omega), List.getElem?_set_ne (by omega)]
    · rw [if_neg (by omega), if_neg (by omega)]

/-- overwriting a written range -/
theorem ovE_ovE_same (b o : Nat) (W W' : List Val) (hp : Heap) (hl : W.length = W'.length) :
    ovE b o W (ovE b o W' hp) = ovE b o W hp := by
  apply ovE_ext (by simp) (by simp)
  intro c i hi
  simp only [ovE_blkSize] at hi
  simp only [ovE_cell, ovE_blkSize]
  by_cases h1 : c = b ∧ o ≤ i ∧ i < o + W.length
  · rw [if_pos (by omega), if_pos (by omega)]
  · rw [if_neg (by omega), if_neg (by omega), if_neg (by omega)]

/-- disjoint ranges commute -/
theorem ovE_comm (b o : Nat) (W : List Val) (b' o' : Nat) (W' : List Val) (hp : Heap)
    (h : b ≠ b' ∨ o + W.length ≤ o' ∨ o' + W'.length ≤ o) :
    ovE b o W (ovE b' o' W' hp) = ovE b' o' W' (ovE b o W hp) := by
  apply ovE_ext (by simp) (by simp)
  intro c i hi
  simp only [ovE_blkSize] at hi
  simp only [ovE_cell, ovE_blkSize]
  by_cases h1 : c = b ∧ o ≤ i ∧ i < o + W.length
  · rw [if_pos (by omega), if_neg (by omega), if_pos (by omega)]
  · rw [if_neg (by omega)]
    by_cases h2 : c = b' ∧ o' ≤ i ∧ i < o' + W'.length
    · rw [if_pos (by omega), if_pos (by omega)]
    · rw [if_neg (by omega), if_neg (by omega), if_neg (by omega)]

/-- writing what is there -/
theorem ovE_self (b o : Nat) (W : List Val) (hp : Heap) (h : ∀ k, k < W.length → o + k < blkSize hp b → cell hp b (o + k) = W[k]?) :
    ovE b o W hp = hp := by
  apply ovE_ext (by simp) (by simp)
  intro c i hi
  simp only [ovE_blkSize] at hi
  simp only [ovE_cell]
  by_cases h1 : c = b ∧ o ≤ i ∧ i < o + W.length
  · rw [if_pos (by omega)]
    obtain ⟨rfl, h2, h3⟩ := h1
    have := h (i - o) (by omega) (by rw [show o + (i - o) = i by omega]; exact hi)
    rw [show o + (i - o) = i by omega] at this
    exact this.symm
  · rw [if_neg (by omega)]

/-! ## `mkE` in terms of `ovE` -/

def pushB (hp : Heap) (ext : List (Array Val)) : Heap := ⟨hp.blocks ++ ext.toArray⟩

theorem mkE_eq (h0 : Heap) (ovr ext) : mkE h0 ovr ext = pushB (baseE h0 ovr) ext := rfl

theorem pushB_nil (hp : Heap) : pushB hp [] = hp := by simp [pushB]

theorem pushB_pushB (hp : Heap) (e1 e2) : pushB (pushB hp e1) e2 = pushB hp (e1 ++ e2) := by
  simp [pushB, Array.append_assoc]

@[simp] theorem pushB_size (hp : Heap) (ext) : (pushB hp ext).blocks.size = hp.blocks.size + ext.length := by simp [pushB]

theorem ovE_pushB (b o : Nat) (W : List Val) (hp : Heap) (ext) (hb : b < hp.blocks.size) :
    ovE b o W (pushB hp ext) = pushB (ovE b o W hp) ext := by
  simp only [ovE, pushB]
  congr 1
  apply Array.ext_getElem?
  intro j
  rw [Array.getElem?_modify]
  by_cases hj : j < hp.blocks.size
  · rw [Array.getElem?_append_left hj, Array.getElem?_append_left (by simpa using hj), Array.getElem?_modify]
  · have : b ≠ j := by omega
    rw [Array.getElem?_append_right (by omega), Array.getElem?_append_right (by simp; omega)]
    simp [this]

theorem mkE_cons (h0 : Heap) (b o : Nat) (W : List Val) (ovr ext) (hb : b < h0.blocks.size) :
    mkE h0 ((b, o, W) :: ovr) ext = ovE b o W (mkE h0 ovr ext) := by
  rw [mkE_eq, mkE_eq, ovE_pushB _ _ _ _ _ (by simpa using hb)]
  rfl

theorem mkE_nil (h0 : Heap) : mkE h0 [] [] = h0 := by simp [mkE, baseE]

theorem mkE_mkE (h0 : Heap) (ovr ext ext') : mkE (mkE h0 ovr ext) [] ext' = mkE h0 ovr (ext ++ ext') := by
  simp [mkE, baseE, Array.append_assoc]

theorem alloc_mkE (h0 : Heap) (ovr ext) (vs : List Val) :
    (mkE h0 ovr ext).alloc vs = (mkE h0 ovr (ext ++ [vs.toArray]), h0.blocks.size + ext.length) := by
  simp only [Heap.alloc, mkE]
  rw [← Array.append_push, List.push_toArray]
  simp

theorem writeE_ext (h0 : Heap) (ovr ext) (k o : Nat) (vs : List Val) :
    (mkE h0 ovr ext).write (h0.blocks.size + k) o vs
      = (ext[k]?).bind (fun blk => (writeCells blk o vs).map (fun blk' => mkE h0 ovr (ext.set k blk'))) := by
  cases hk : ext[k]? with
  | none =>
    simp only [Heap.write, mkE_get_ext, hk]; rfl
  | some blk =>
    rw [write_of_get (by rw [mkE_get_ext]; exact hk)]
    simp only [Option.bind_some]
    congr 1
    funext blk'
    simp only [mkE]
    rw [Array.setIfInBounds_append_right (by simp)]
    simp

/-! ### writes into entries -/

section five
variable (h0 : Heap) (b o : Nat) (w0 w1 w2 w3 w4 : Nat) (ovr : List Ent) (ext : List (Array Val))

theorem write1_mkE (W : List Val) (k x : Nat) (w : Nat) (hf : Fits h0 b o W.length) (hk : k < W.length) (hw : W[k]? = some (.int w)) :
    (mkE h0 ((b, o, W) :: ovr) ext).write b (o + k) [.int x] = some (mkE h0 ((b, o, W.set k (.int x)) :: ovr) ext) := by
  rw [write_eq_ovE _ _ _ _ _ (by simp)]
  · rw [mkE_cons _ _ _ _ _ _ hf.1, mkE_cons _ _ _ _ _ _ hf.1, ovE_set _ _ _ _ _ _ hk]
  · intro j hj
    have : j = 0 := by simpa using hj
    subst this
    refine ⟨.int w, ?_, rfl⟩
    rw [Nat.add_zero, mkE_cell_hit _ _ _ _ _ _ k hf hk, hw]

theorem writeE_hit_0 (x : Nat) (hf : Fits h0 b o 5) :
    (mkE h0 ((b, o, [.int w0, .int w1, .int w2, .int w3, .int w4]) :: ovr) ext).write b (o + 0) [.int x]
      = some (mkE h0 ((b, o, [.int x, .int w1, .int w2, .int w3, .int w4]) :: ovr) ext) :=
  write1_mkE h0 b o ovr ext _ 0 x w0 hf (by simp) rfl
theorem writeE_hit_1 (x : Nat) (hf : Fits h0 b o 5) :
    (mkE h0 ((b, o, [.int w0, .int w1, .int w2, .int w3, .int w4]) :: ovr) ext).write b (o + 1) [.int x]
      = some (mkE h0 ((b, o, [.int w0, .int x, .int w2, .int w3, .int w4]) :: ovr) ext) :=
  write1_mkE h0 b o ovr ext _ 1 x w1 hf (by simp) rfl
theorem writeE_hit_2 (x : Nat) (hf : Fits h0 b o 5) :
    (mkE h0 ((b, o, [.int w0, .int w1, .int w2, .int w3, .int w4]) :: ovr) ext).write b (o + 2) [.int x]
      = some (mkE h0 ((b, o, [.int w0, .int w1, .int x, .int w3, .int w4]) :: ovr) ext) :=
  write1_mkE h0 b o ovr ext _ 2 x w2 hf (by simp) rfl
theorem writeE_hit_3 (x : Nat) (hf : Fits h0 b o 5) :
    (mkE h0 ((b, o, [.int w0, .int w1, .int w2, .int w3, .int w4]) :: ovr) ext).write b (o + 3) [.int x]
      = some (mkE h0 ((b, o, [.int w0, .int w1, .int w2, .int x, .int w4]) :: ovr) ext) :=
  write1_mkE h0 b o ovr ext _ 3 x w3 hf (by simp) rfl
theorem writeE_hit_4 (x : Nat) (hf : Fits h0 b o 5) :
    (mkE h0 ((b, o, [.int w0, .int w1, .int w2, .int w3, .int w4]) :: ovr) ext).write b (o + 4) [.int x]
      = some (mkE h0 ((b, o, [.int w0, .int w1, .int w2, .int w3, .int x]) :: ovr) ext) :=
  write1_mkE h0 b o ovr ext _ 4 x w4 hf (by simp) rfl

/-- a whole element onto the head entry -/
theorem writeE_hit5 (x0 x1 x2 x3 x4 : Nat) (hf : Fits h0 b o 5) :
    (mkE h0 ((b, o, [.int w0, .int w1, .int w2, .int w3, .int w4]) :: ovr) ext).write b o [.int x0, .int x1, .int x2, .int x3, .int x4]
      = some (mkE h0 ((b, o, [.int x0, .int x1, .int x2, .int x3, .int x4]) :: ovr) ext) := by
  rw [write_eq_ovE _ _ _ _ _ (by simp)]
  · rw [mkE_cons _ _ _ _ _ _ hf.1, mkE_cons _ _ _ _ _ _ hf.1, ovE_ovE_same _ _ _ _ _ (by simp)]
  · intro j hj
    have hj' : j < 5 := by simpa using hj
    rw [mkE_cell_hit _ _ _ _ _ _ j hf (by simpa using hj')]
    match j, hj' with
    | 0, _ => exact ⟨_, rfl, rfl⟩
    | 1, _ => exact ⟨_, rfl, rfl⟩
    | 2, _ => exact ⟨_, rfl, rfl⟩
    | 3, _ => exact ⟨_, rfl, rfl⟩
    | 4, _ => exact ⟨_, rfl, rfl⟩

end five

/-- swap the first two entries -/
theorem mkE_swap (h0 : Heap) (b o : Nat) (W : List Val) (b' o' : Nat) (W' : List Val) (ovr ext)
    (h : b ≠ b' ∨ o + W.length ≤ o' ∨ o' + W'.length ≤ o) :
    mkE h0 ((b, o, W) :: (b', o', W') :: ovr) ext = mkE h0 ((b', o', W') :: (b, o, W) :: ovr) ext := by
  simp only [mkE, baseE]
  rw [ovE_comm _ _ _ _ _ _ _ h]

theorem SepE.disj5 {b o c o' : Nat} (h : SepE b o c o') : b ≠ c ∨ o + 5 ≤ o' ∨ o' + 5 ≤ o := by
  unfold SepE at h; omega

section five2
variable (h0 : Heap) (b0 o0 : Nat) (u0 u1 u2 u3 u4 : Val) (b o : Nat) (w0 w1 w2 w3 w4 : Nat) (ovr : List Ent) (ext : List (Array Val))

theorem write1_mkE_2 (U W : List Val) (k x w : Nat) (hU : U.length = 5) (hW : W.length = 5) (hs : SepE b0 o0 b o) (hf : Fits h0 b o 5)
    (hk : k < 5) (hw : W[k]? = some (.int w)) :
    (mkE h0 ((b0, o0, U) :: (b, o, W) :: ovr) ext).write b (o + k) [.int x]
      = some (mkE h0 ((b0, o0, U) :: (b, o, W.set k (.int x)) :: ovr) ext) := by
  rw [mkE_swap _ _ _ _ _ _ _ _ _ (by have := hs.disj5; omega), write1_mkE _ _ _ _ _ _ _ _ w (by rw [hW]; exact hf) (by omega) hw,
    mkE_swap _ _ _ _ _ _ _ _ _ (by have := hs.symm.disj5; simp only [List.length_set]; omega)]

/-- one cell of the second entry -/
theorem writeE_hit1_0 (x : Nat) (hs : SepE b0 o0 b o) (hf : Fits h0 b o 5) :
    (mkE h0 ((b0, o0, [u0, u1, u2, u3, u4]) :: (b, o, [.int w0, .int w1, .int w2, .int w3, .int w4]) :: ovr) ext).write b (o + 0) [.int x]
      = some (mkE h0 ((b0, o0, [u0, u1, u2, u3, u4]) :: (b, o, [.int x, .int w1, .int w2, .int w3, .int w4]) :: ovr) ext) :=
  write1_mkE_2 h0 b0 o0 b o ovr ext _ _ 0 x w0 rfl rfl hs hf (by omega) rfl
theorem writeE_hit1_1 (x : Nat) (hs : SepE b0 o0 b o) (hf : Fits h0 b o 5) :
    (mkE h0 ((b0, o0, [u0, u1, u2, u3, u4]) :: (b, o, [.int w0, .int w1, .int w2, .int w3, .int w4]) :: ovr) ext).write b (o + 1) [.int x]
      = some (mkE h0 ((b0, o0, [u0, u1, u2, u3, u4]) :: (b, o, [.int w0, .int x, .int w2, .int w3, .int w4]) :: ovr) ext) :=
  write1_mkE_2 h0 b0 o0 b o ovr ext _ _ 1 x w1 rfl rfl hs hf (by omega) rfl
theorem writeE_hit1_2 (x : Nat) (hs : SepE b0 o0 b o) (hf : Fits h0 b o 5) :
    (mkE h0 ((b0, o0, [u0, u1, u2, u3, u4]) :: (b, o, [.int w0, .int w1, .int w2, .int w3, .int w4]) :: ovr) ext).write b (o + 2) [.int x]
      = some (mkE h0 ((b0, o0, [u0, u1, u2, u3, u4]) :: (b, o, [.int w0, .int w1, .int x, .int w3, .int w4]) :: ovr) ext) :=
  write1_mkE_2 h0 b0 o0 b o ovr ext _ _ 2 x w2 rfl rfl hs hf (by omega) rfl
theorem writeE_hit1_3 (x : Nat) (hs : SepE b0 o0 b o) (hf : Fits h0 b o 5) :
    (mkE h0 ((b0, o0, [u0, u1, u2, u3, u4]) :: (b, o, [.int w0, .int w1, .int w2, .int w3, .int w4]) :: ovr) ext).write b (o + 3) [.int x]
      = some (mkE h0 ((b0, o0, [u0, u1, u2, u3, u4]) :: (b, o, [.int w0, .int w1, .int w2, .int x, .int w4]) :: ovr) ext) :=
  write1_mkE_2 h0 b0 o0 b o ovr ext _ _ 3 x w3 rfl rfl hs hf (by omega) rfl
theorem writeE_hit1_4 (x : Nat) (hs : SepE b0 o0 b o) (hf : Fits h0 b o 5) :
    (mkE h0 ((b0, o0, [u0, u1, u2, u3, u4]) :: (b, o, [.int w0, .int w1, .int w2, .int w3, .int w4]) :: ovr) ext).write b (o + 4) [.int x]
      = some (mkE h0 ((b0, o0, [u0, u1, u2, u3, u4]) :: (b, o, [.int w0, .int w1, .int w2, .int w3, .int x]) :: ovr) ext) :=
  write1_mkE_2 h0 b0 o0 b o ovr ext _ _ 4 x w4 rfl rfl hs hf (by omega) rfl

end five2

/-- every entry restates what `h` holds: the heap is unchanged -/
theorem mkE_intro (h : Heap) : ∀ (ovr : List Ent),
    (∀ e ∈ ovr, ∀ k, k < e.2.2.length → cell h e.1 (e.2.1 + k) = e.2.2[k]?) → mkE h ovr [] = h := by
  intro ovr hall
  have hb : baseE h ovr = h := by
    induction ovr with
    | nil => rfl
    | cons e r ih =>
      simp only [baseE]
      rw [ih (fun x hx => hall x (List.mem_cons_of_mem _ hx))]
      exact ovE_self _ _ _ _ (fun k hk _ => hall e List.mem_cons_self k hk)
  simp [mkE, hb]

end EdVerif.Ssa.Tie
