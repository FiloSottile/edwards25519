import EdVerif.Ssa.Tie.CarryE
/-!
# Elements in an arbitrary heap: `getE`, `OkE`, `setE`

`OkE H b o`: `(b, o)` is an element slot of `H` (five integer cells); `getE H b o` the element it holds; `setE b o x H` the heap with `x`
stored there; `Compat`: two slots are the same or disjoint.  The call lemmas of the kernels (`callA_K`, in the kernel files) are stated
with these on an *arbitrary* heap.  On a canonical heap `mkE h0 ovr ext` whose entries are elements (`feL x`), `getE`/`OkE`/`setE` are
evaluated by the rewrite rules at the end of this file.
-/
namespace EdVerif.Ssa.Tie
open EdVerif.Ssa EdVerif.Gen.Ssa EdVerif.Prims

def natOf : Option Val → Nat
  | some (.int n) => n
  | _ => 0

/-- the element stored at `(b, o)` -/
def getE (H : Heap) (b o : Nat) : Fe :=
  ⟨natOf (cell H b (o + 0)), natOf (cell H b (o + 1)), natOf (cell H b (o + 2)), natOf (cell H b (o + 3)), natOf (cell H b (o + 4))⟩

/-- `(b, o)` is an element slot of `H`: five integer cells -/
def OkE (H : Heap) (b o : Nat) : Prop := Fits H b o 5 ∧ ∀ k, k < 5 → ∃ n, cell H b (o + k) = some (.int n)

/-- `H` with the element `x` stored at `(b, o)` -/
def setE (b o : Nat) (x : Fe) (H : Heap) : Heap := ovE b o (feL x) H

/-- two element slots are the same or disjoint -/
def Compat (b o c o' : Nat) : Prop := (b = c ∧ o = o') ∨ SepE b o c o'

/-- unfolding rules for `simp` (not `rfl`-lemmas: a side condition discharged through a definitional unfolding cannot be assigned
    at reducible transparency) -/
theorem SepE_eq (b o c o' : Nat) : SepE b o c o' = (c ≠ b ∨ o + 5 ≤ o' ∨ o' + 5 ≤ o) := by rw [SepE]
theorem Compat_eq (b o c o' : Nat) : Compat b o c o' = ((b = c ∧ o = o') ∨ SepE b o c o') := by rw [Compat]

theorem nsep {b o c o' : Nat} (h : SepE b o c o') : (b = c ∧ o = o') = False := by
  apply eq_false; unfold SepE at h; omega

theorem feL_length (x : Fe) : (feL x).length = 5 := rfl

theorem okE_cell {H : Heap} {b o : Nat} (h : OkE H b o) : ∀ k, k < 5 → cell H b (o + k) = (feL (getE H b o))[k]? := by
  intro k hk
  obtain ⟨n, hn⟩ := h.2 k hk
  rw [hn]
  match k, hk with
  | 0, _ => simp only [feL, getE, hn, natOf]; rfl
  | 1, _ => simp only [feL, getE, hn, natOf]; rfl
  | 2, _ => simp only [feL, getE, hn, natOf]; rfl
  | 3, _ => simp only [feL, getE, hn, natOf]; rfl
  | 4, _ => simp only [feL, getE, hn, natOf]; rfl

/-- every entry restates what `H` holds -/
def Restates (H : Heap) (ovr : List Ent) : Prop := ∀ e ∈ ovr, ∀ k, k < e.2.2.length → cell H e.1 (e.2.1 + k) = e.2.2[k]?

theorem restates_nil (H : Heap) : Restates H [] := by intro e he; cases he

theorem restates_cons {H : Heap} {b o : Nat} {r : List Ent} (h : OkE H b o) (hr : Restates H r) :
    Restates H ((b, o, feL (getE H b o)) :: r) := by
  intro e he k hk
  rcases List.mem_cons.mp he with rfl | he
  · exact okE_cell h k hk
  · exact hr e he k hk

theorem baseE_restates (H : Heap) : ∀ (ovr : List Ent), Restates H ovr → baseE H ovr = H := by
  intro ovr hall
  induction ovr with
  | nil => rfl
  | cons e r ih =>
    simp only [baseE]
    rw [ih (fun x hx => hall x (List.mem_cons_of_mem _ hx))]
    exact ovE_self _ _ _ _ (fun k hk _ => hall e List.mem_cons_self k hk)

theorem mkE_restates (H : Heap) (ovr : List Ent) (h : Restates H ovr) : mkE H ovr [] = H := mkE_intro H ovr h

theorem mkE_head_intro (H : Heap) (b o : Nat) (W : List Val) (rest : List Ent) (E : List (Array Val)) (hr : Restates H rest) :
    mkE H ((b, o, W) :: rest) E = pushB (ovE b o W H) E := by
  rw [mkE_eq]
  simp only [baseE]
  rw [baseE_restates H rest hr]

/-! ## evaluation on a canonical heap whose entries are elements -/

section eval
variable (h0 : Heap) (b o : Nat) (x y : Fe) (ovr : List Ent) (ext : List (Array Val))

theorem mkE_cell_feL (hf : Fits h0 b o 5) (k : Nat) (hk : k < 5) : cell (mkE h0 ((b, o, feL x) :: ovr) ext) b (o + k) = (feL x)[k]? :=
  mkE_cell_hit h0 b o (feL x) ovr ext k hf hk

theorem getE_hit (hf : Fits h0 b o 5) : getE (mkE h0 ((b, o, feL x) :: ovr) ext) b o = x := by
  simp only [getE, mkE_cell_feL h0 b o x ovr ext hf _ (by decide : 0 < 5), mkE_cell_feL h0 b o x ovr ext hf _ (by decide : 1 < 5),
    mkE_cell_feL h0 b o x ovr ext hf _ (by decide : 2 < 5), mkE_cell_feL h0 b o x ovr ext hf _ (by decide : 3 < 5),
    mkE_cell_feL h0 b o x ovr ext hf _ (by decide : 4 < 5)]
  rfl

theorem mkE_cell_sep (c o' k : Nat) (hs : SepE b o c o') (hk : k < 5) :
    cell (mkE h0 ((b, o, feL x) :: ovr) ext) c (o' + k) = cell (mkE h0 ovr ext) c (o' + k) := by
  apply mkE_cell_miss
  rw [feL_length]
  unfold SepE at hs; omega

theorem getE_miss (c o' : Nat) (hs : SepE b o c o') : getE (mkE h0 ((b, o, feL x) :: ovr) ext) c o' = getE (mkE h0 ovr ext) c o' := by
  simp only [getE, mkE_cell_sep h0 b o x ovr ext c o' _ hs (by decide : 0 < 5), mkE_cell_sep h0 b o x ovr ext c o' _ hs (by decide : 1 < 5),
    mkE_cell_sep h0 b o x ovr ext c o' _ hs (by decide : 2 < 5), mkE_cell_sep h0 b o x ovr ext c o' _ hs (by decide : 3 < 5),
    mkE_cell_sep h0 b o x ovr ext c o' _ hs (by decide : 4 < 5)]

theorem fits_mkE_lt (c o' : Nat) (hf : Fits h0 c o' 5) : Fits (mkE h0 ovr ext) c o' 5 := by
  refine ⟨by rw [mkE_size]; have := hf.1; omega, ?_⟩
  rw [mkE_blkSize_lt _ _ _ _ hf.1]; exact hf.2

theorem okE_hit (hf : Fits h0 b o 5) : OkE (mkE h0 ((b, o, feL x) :: ovr) ext) b o = True := by
  apply eq_true
  refine ⟨fits_mkE_lt h0 _ ext b o hf, ?_⟩
  intro k hk
  rw [mkE_cell_feL h0 b o x ovr ext hf k hk]
  match k, hk with
  | 0, _ => exact ⟨_, rfl⟩
  | 1, _ => exact ⟨_, rfl⟩
  | 2, _ => exact ⟨_, rfl⟩
  | 3, _ => exact ⟨_, rfl⟩
  | 4, _ => exact ⟨_, rfl⟩

theorem okE_miss (c o' : Nat) (hs : SepE b o c o') :
    OkE (mkE h0 ((b, o, feL x) :: ovr) ext) c o' = OkE (mkE h0 ovr ext) c o' := by
  have hc : ∀ k, k < 5 → cell (mkE h0 ((b, o, feL x) :: ovr) ext) c (o' + k) = cell (mkE h0 ovr ext) c (o' + k) :=
    fun k hk => mkE_cell_sep h0 b o x ovr ext c o' k hs hk
  apply propext
  constructor
  · intro ⟨hf, hk⟩
    refine ⟨⟨by have := hf.1; simpa [mkE_size] using this, by have := hf.2; rwa [mkE_blkSize_cons] at this⟩, ?_⟩
    intro k hk'; rw [← hc k hk']; exact hk k hk'
  · intro ⟨hf, hk⟩
    refine ⟨⟨by have := hf.1; simpa [mkE_size] using this, by rw [mkE_blkSize_cons]; exact hf.2⟩, ?_⟩
    intro k hk'; rw [hc k hk']; exact hk k hk'

/-! ### freshly allocated elements (whole blocks of `ext`) -/

def feOfBlk : Option (Array Val) → Fe
  | some V => ⟨natOf V[0]?, natOf V[1]?, natOf V[2]?, natOf V[3]?, natOf V[4]?⟩
  | none => ⟨0, 0, 0, 0, 0⟩

def okBlk : Option (Array Val) → Prop
  | some V => V.size = 5 ∧ ∀ k, k < 5 → ∃ n, V[k]? = some (.int n)
  | none => False

/- not `rfl`-lemmas: `simp` would use them definitionally and the kernel would later re-check the definitional equality on the
   computed values (unfolding the field arithmetic) -/
theorem feOfBlk_feL : feOfBlk (some (feL x).toArray) = x := by cases x; rfl
theorem feOfBlk_lit (a0 a1 a2 a3 a4 : Nat) : feOfBlk (some #[.int a0, .int a1, .int a2, .int a3, .int a4]) = ⟨a0, a1, a2, a3, a4⟩ := by
  rw [feOfBlk]; rfl

theorem okBlk_lit (a0 a1 a2 a3 a4 : Nat) : okBlk (some #[.int a0, .int a1, .int a2, .int a3, .int a4]) = True := by
  apply eq_true
  refine ⟨rfl, ?_⟩
  intro k hk
  match k, hk with
  | 0, _ => exact ⟨_, rfl⟩
  | 1, _ => exact ⟨_, rfl⟩
  | 2, _ => exact ⟨_, rfl⟩
  | 3, _ => exact ⟨_, rfl⟩
  | 4, _ => exact ⟨_, rfl⟩

theorem okBlk_feL : okBlk (some (feL x).toArray) = True := okBlk_lit _ _ _ _ _

theorem mkE_cell_ext (k i : Nat) : cell (mkE h0 ovr ext) (h0.blocks.size + k) i = (ext[k]?).bind (fun V => V[i]?) := by
  rw [mkE_cell_ge _ _ _ _ _ (by omega)]
  congr 2; omega

theorem getE_ext (k : Nat) : getE (mkE h0 ovr ext) (h0.blocks.size + k) 0 = feOfBlk (ext[k]?) := by
  simp only [getE, mkE_cell_ext, Nat.zero_add]
  cases ext[k]? <;> rfl

theorem okE_ext (k : Nat) (h : okBlk (ext[k]?)) : OkE (mkE h0 ovr ext) (h0.blocks.size + k) 0 = True := by
  apply eq_true
  cases hk : ext[k]? with
  | none => rw [hk] at h; exact h.elim
  | some V =>
    rw [hk] at h
    have hlt : k < ext.length := by
      apply Classical.byContradiction; intro hn
      rw [List.getElem?_eq_none (by omega)] at hk; cases hk
    refine ⟨⟨by rw [mkE_size]; omega, ?_⟩, ?_⟩
    · rw [mkE_blkSize_ge _ _ _ _ (by omega), show h0.blocks.size + k - h0.blocks.size = k by omega, hk]
      simp only [Option.map_some, Option.getD_some]
      have := h.1; omega
    · intro j hj
      rw [mkE_cell_ext, hk, Nat.zero_add]
      exact h.2 j hj

/-! ### `setE`, `pushB` -/

theorem pushB_mkE (E : List (Array Val)) : pushB (mkE h0 ovr ext) E = mkE h0 ovr (ext ++ E) := by
  simp [pushB, mkE, Array.append_assoc]

theorem setE_hit (hb : b < h0.blocks.size) : setE b o x (mkE h0 ((b, o, feL y) :: ovr) ext) = mkE h0 ((b, o, feL x) :: ovr) ext := by
  rw [setE, mkE_cons _ _ _ _ _ _ hb, mkE_cons _ _ _ _ _ _ hb]
  exact ovE_ovE_same _ _ _ _ _ rfl

/-- an entry put back on top of a canonical heap -/
def consE (b o : Nat) (W : List Val) (H : Heap) : Heap := ovE b o W H

theorem consE_mkE (W : List Val) (hb : b < h0.blocks.size) : consE b o W (mkE h0 ovr ext) = mkE h0 ((b, o, W) :: ovr) ext :=
  (mkE_cons _ _ _ _ _ _ hb).symm

theorem setE_miss (c o' : Nat) (hs : SepE b o c o') (hb : b < h0.blocks.size) :
    setE c o' x (mkE h0 ((b, o, feL y) :: ovr) ext) = consE b o (feL y) (setE c o' x (mkE h0 ovr ext)) := by
  rw [setE, setE, consE, mkE_cons _ _ _ _ _ _ hb, ovE_comm]
  rw [feL_length, feL_length]
  have := hs.disj5; omega

theorem setE_nil (hb : b < h0.blocks.size) : setE b o x (mkE h0 [] ext) = mkE h0 [(b, o, feL x)] ext := by
  rw [setE, mkE_cons _ _ _ _ _ _ hb]

theorem ovl_full (V : Array Val) (W : List Val) (h : V.size = W.length) : ovl V 0 W = W.toArray := by
  apply Array.ext_getElem?
  intro i
  rw [ovl_get]
  by_cases hi : i < W.length
  · rw [if_pos (by omega)]; simp
  · rw [if_neg (by omega), Array.getElem?_eq_none (by omega)]
    simp [List.getElem?_eq_none (Nat.le_of_not_lt hi)]

theorem setE_ext (k : Nat) (h : okBlk (ext[k]?)) :
    setE (h0.blocks.size + k) 0 x (mkE h0 ovr ext) = mkE h0 ovr (ext.set k (feL x).toArray) := by
  cases hk : ext[k]? with
  | none => rw [hk] at h; exact h.elim
  | some V =>
    rw [hk] at h
    have hlt : k < ext.length := by
      apply Classical.byContradiction; intro hn
      rw [List.getElem?_eq_none (by omega)] at hk; cases hk
    simp only [setE, ovE, mkE]
    congr 1
    apply Array.ext_getElem?
    intro j
    rw [Array.getElem?_modify]
    by_cases hj : j < h0.blocks.size
    · have : h0.blocks.size + k ≠ j := by omega
      rw [if_neg this, Array.getElem?_append_left (by simpa using hj), Array.getElem?_append_left (by simpa using hj)]
    · rw [Array.getElem?_append_right (by simp; omega), Array.getElem?_append_right (by simp; omega)]
      simp only [baseE_size, List.getElem?_toArray]
      by_cases e : h0.blocks.size + k = j
      · subst e
        simp only [if_true, show h0.blocks.size + k - h0.blocks.size = k by omega, hk, Option.map_some]
        rw [List.getElem?_set_self hlt, ovl_full _ _ (by rw [feL_length]; exact h.1)]
      · rw [if_neg e, List.getElem?_set_ne (by omega)]

end eval

end EdVerif.Ssa.Tie
