import EdVerif.Ssa.Tie.Wide
import EdVerif.Gen.FiatKernels
/-!
# Stepper rules for the fiat scalar kernels (`EdVerif/Gen/FiatKernels.lean`)

New with respect to the field kernels: `ChangeType` (identity), `IndexAddr` into `*[4]uint64` / `*[32]byte`,
`math/bits.Sub64`, allocation of `uint64` / `[4]uint64` / `[32]byte` locals, `uint8` cells, the one-field struct `Scalar`.
The externals are stated directly in the vocabulary of `Prims.lean` (`Bits.Add64`, `Bits.Sub64`, `Bits.Mul64`).

`Sem` computes the difference of `Sub64` as `(x + 2^65 - y - b) % 2^64`, `Prims` as `(x + 2^64 - y - b) % 2^64`
(truncated subtraction): they agree when `y < 2^64` and `b ≤ 1`, which is the contract of `bits.Sub64`
(the borrow-in "must be 0 or 1") and holds at every call site (side conditions of `extern_sub64`).
-/
namespace EdVerif.Ssa.Tie
open EdVerif.Ssa EdVerif.Gen.Ssa EdVerif.Prims
set_option maxRecDepth 100000

/-! ## `ChangeType` -/

/-- continuation of a `ChangeType` once the operand is evaluated -/
def ctK (fr : Frame) (frs : List Frame) (id : Nat) (hp : Heap) : Option RVal → Step
  | some v => contReg fr frs id v hp []
  | none => .fault "changeType"

theorem step_changeType (p : Program) (hp : Heap) (fi : Nat) (f : Func) (regs params : Array RVal) (blk : Nat) (rest : List Instr)
    (dest : Option Nat) (frs : List Frame) (id : Nat) (k : VK) (ln ty : Nat) (tys : List Nat) (x : Opnd) :
    step p ⟨hp, ⟨fi, f, regs, params, blk, ⟨id, k, ln, .changeType x, ty, tys⟩ :: rest, dest⟩ :: frs⟩
      = ctK ⟨fi, f, regs, params, blk, rest, dest⟩ frs id hp
          (evalOpnd p ⟨fi, f, regs, params, blk, rest, dest⟩ (tys.headD 0) x) := by
  rfl

theorem ctK_some (fr : Frame) (frs : List Frame) (id : Nat) (hp : Heap) (v : RVal) :
    ctK fr frs id hp (some v) = contReg fr frs id v hp [] := rfl

/-! ## the type table -/

theorem tyOf_27 : prog.tyOf 27 = .arr 4 3 := rfl
theorem tyOf_28 : prog.tyOf 28 = .struct [27] := rfl
theorem tyOf_29 : prog.tyOf 29 = .ptr 28 := rfl
theorem tyOf_59 : prog.tyOf 59 = .ptr 27 := rfl
theorem span28_0 : prog.fieldSpan [27] 0 = some (0, 4) := rfl
theorem zeros_27 : prog.zeros 27 = some [.int 0, .int 0, .int 0, .int 0] := rfl
theorem zeros_28 : prog.zeros 28 = some [.int 0, .int 0, .int 0, .int 0] := rfl

theorem cls4 (a b c d : Nat) : listEqClasses [.int a, .int b, .int c, .int d] [.int 0, .int 0, .int 0, .int 0] = true := rfl

/-- `new(uint64)` -/
theorem stepAlloc_60 (hp : Heap) (fr : Frame) (frs : List Frame) (id : Nat) (k : VK) (ln : Nat) (op : Op) (tys : List Nat) :
    stepAlloc prog hp fr frs ⟨id, k, ln, op, 60, tys⟩ = contReg fr frs id [.ptr (hp.alloc [.int 0]).2 0] (hp.alloc [.int 0]).1 [] :=
  stepAlloc_of tyOf_60 zeros_3 (by decide) hp fr frs id k ln op tys

/-- `new([4]uint64)` -/
theorem stepAlloc_59 (hp : Heap) (fr : Frame) (frs : List Frame) (id : Nat) (k : VK) (ln : Nat) (op : Op) (tys : List Nat) :
    stepAlloc prog hp fr frs ⟨id, k, ln, op, 59, tys⟩
      = contReg fr frs id [.ptr (hp.alloc [.int 0, .int 0, .int 0, .int 0]).2 0] (hp.alloc [.int 0, .int 0, .int 0, .int 0]).1 [] :=
  stepAlloc_of tyOf_59 zeros_27 (by decide) hp fr frs id k ln op tys

/-! ## externals, in the vocabulary of `Prims` -/

theorem bits_mul64 (p : Program) (hp : Heap) (fr : Frame) (frs : List Frame) (i : Instr) (x y : Nat) :
    stepExtern p hp fr frs i N252 [[.int x], [.int y]]
      = contReg fr frs i.id [.int (Bits.Mul64 x y).1, .int (Bits.Mul64 x y).2] hp [] := by
  rw [extern_mul64]; rfl

theorem bits_add64 (p : Program) (hp : Heap) (fr : Frame) (frs : List Frame) (i : Instr) (x y c : Nat) :
    stepExtern p hp fr frs i N240 [[.int x], [.int y], [.int c]]
      = contReg fr frs i.id [.int (Bits.Add64 x y c).1, .int (Bits.Add64 x y c).2] hp [] := by
  rw [extern_add64]; rfl

theorem sub64_bridge (x y b : Nat) (hy : y < 18446744073709551616) (hb : b ≤ 1) :
    (x + 2 ^ 65 - y - b) % 2 ^ 64 = (Bits.Sub64 x y b).1 := by
  simp only [Bits.Sub64]
  have e : x + 2 ^ 65 - y - b = (x + 2 ^ 64 - y - b) + 2 ^ 64 := by omega
  rw [e, Nat.add_mod_right]

/-- `bits.Sub64(x, y, b)` for `y < 2^64` and a borrow-in `b ≤ 1` -/
theorem bits_sub64 (p : Program) (hp : Heap) (fr : Frame) (frs : List Frame) (i : Instr) (x y b : Nat)
    (hy : y < 18446744073709551616) (hb : b ≤ 1) :
    stepExtern p hp fr frs i N241 [[.int x], [.int y], [.int b]]
      = contReg fr frs i.id [.int (Bits.Sub64 x y b).1, .int (Bits.Sub64 x y b).2] hp [] := by
  have h1 : (N241 == Ext.mul64) = false := by decide
  have h2 : (N241 == Ext.add64) = false := by decide
  have h3 : (N241 == Ext.sub64) = true := by decide
  simp only [stepExtern, h1, h2, h3, if_true, Bool.false_eq_true, if_false]
  rw [sub64_bridge x y b hy hb]
  rfl

theorem sub64_borrow_le (x y b : Nat) : (Bits.Sub64 x y b).2 ≤ 1 := by
  simp only [Bits.Sub64]; split <;> omega

theorem add64_carry_le (x y c : Nat) (hx : x < 2 ^ 64) (hy : y < 2 ^ 64) (hc : c ≤ 1) : (Bits.Add64 x y c).2 ≤ 1 := by
  simp only [Bits.Add64]; omega

theorem add64_lt (x y c : Nat) : (Bits.Add64 x y c).1 < 18446744073709551616 := by
  simp only [Bits.Add64]; omega

theorem sub64_lt (x y b : Nat) : (Bits.Sub64 x y b).1 < 18446744073709551616 := by
  simp only [Bits.Sub64]; omega

theorem mul64_lo_lt (x y : Nat) : (Bits.Mul64 x y).2 < 18446744073709551616 := by
  simp only [Bits.Mul64]; omega

/-! ## `^x` on a wrapped value -/

theorem not64_mul (a b : Nat) : (2 ^ 64 - 1) ^^^ U.mul 64 a b = U.not 64 (U.mul 64 a b) :=
  not64 _ (by simp only [U.mul]; omega)

/-! ## scalars as heap blocks -/

/-- the four cells of a `[4]uint64` -/
def w4Cells (v : W4) : Array Val := #[.int v.w0, .int v.w1, .int v.w2, .int v.w3]

theorem w4Cells_inj {v a : W4} (h : w4Cells v = w4Cells a) : v = a := by
  obtain ⟨v0, v1, v2, v3⟩ := v
  obtain ⟨a0, a1, a2, a3⟩ := a
  simp only [w4Cells, Array.mk.injEq, List.cons.injEq, Val.int.injEq, and_true] at h
  obtain ⟨h0, h1, h2, h3⟩ := h
  subst h0 h1 h2 h3; rfl

/-- all four words are 64-bit values -/
def _root_.EdVerif.Prims.W4.lt64 (v : W4) : Prop := v.w0 < 2 ^ 64 ∧ v.w1 < 2 ^ 64 ∧ v.w2 < 2 ^ 64 ∧ v.w3 < 2 ^ 64

/-! ## the stepper -/

syntax "fiat_exec" "[" Lean.Parser.Tactic.simpLemma,* "]" : tactic
macro_rules
  | `(tactic| fiat_exec [$ls,*]) => `(tactic|
  simp (maxSteps := 4000000) only [run_succ, runK_cont, runK_done, steps_succ, stepsK_cont, steps_zero,
    step_alloc, step_binop, step_unop, step_load, step_call, step_convert, step_extract, step_fieldAddr, step_field,
    step_store, step_ret, step_indexAddr, step_changeType, ctK_some,
    stepStore, stepLoad, stepFieldAddr, stepField, stepBinop, stepUnop, stepConvert, stepRet, stepCall, stepIndexAddr,
    evalOpnd_reg, evalOpnd_param, evalOpnd_cint, evalOpnds_nil, evalOpnds_cons,
    contReg, contNoReg, regSet_empty, regSet_regsN, regSet_regsN_lt, regsN_get, intBinop, beq_shl_shl, beq_shr_shl, intShift_shl, intShift_shr, isConst_cint,
    tyOf_3, tyOf_10, tyOf_15, tyOf_17, tyOf_18, tyOf_27, tyOf_28, tyOf_29, tyOf_52, tyOf_59, tyOf_60, tyOf_73,
    zeros_3, zeros_15, zeros_27, zeros_28, zeros_73, size_3, size_15, span2_0, span2_1, span28_0,
    intOfTy_3, intOfTy_10, intOfTy_15, checkIndex_lit,
    stepAlloc_60, stepAlloc_59, cls1, cls2, cls4, cls_int, bits_mul64, bits_add64, bits_sub64, sub64_borrow_le,
    alloc_mkH, read_ext, write_ext, readCells, writeCells, mkH_mkH, retValue,
    List.headD, List.tail, List.getElem?_toArray, List.getElem?_cons_zero, List.getElem?_cons_succ, List.getD_cons_zero, List.getD_cons_succ, List.getD_nil,
    List.length_cons, List.length_nil, List.cons_append, List.nil_append, List.replicate, List.set_cons_zero, List.set_cons_succ,
    List.setIfInBounds_toArray, List.drop, List.take, List.flatten_cons, List.flatten_nil, List.append_nil,
    Option.bind_some, Option.map_some, Option.pure_def, Option.bind_eq_bind,
    if_true, if_false, ite_true, ite_false, Bool.false_eq_true, Nat.reduceAdd, Nat.reduceSub, Nat.reduceLT, Nat.reduceLeDiff, Nat.reduceGT,
    reduceIte, Nat.reduceMul, Nat.zero_le, Nat.le_refl, $ls,*])

end EdVerif.Ssa.Tie
