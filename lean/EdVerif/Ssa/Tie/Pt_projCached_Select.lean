import EdVerif.Ssa.Tie.PtGlob
import EdVerif.Ssa.Tie.KernESwap
import EdVerif.Gen.Formulas
/-!
# GENERATED by gen_pt.py — `(*projCached).Select`: SSA execution = T5's `Formulas.projCached_Select`
-/
namespace EdVerif.Ssa.Tie
open EdVerif.Ssa EdVerif.Gen.Ssa EdVerif.Prims EdVerif.Impl EdVerif.Gen
set_option maxRecDepth 100000
set_option linter.unusedVariables false

def body50 : List Instr := body% f50
theorem funcs_50 : prog.funcs[50]? = some f50 := rfl
theorem mkFrame_50 (args : List RVal) (dest : Option Nat) :
    mkFrame 50 f50 args dest = some ⟨50, f50, #[], args.toArray, 0, body50, dest⟩ := rfl
theorem resultTys_50 : f50.resultTys = [14] := rfl
theorem funcIdx_50 : prog.funcIdx? (nm! "(*projCached).Select") = some 50 := by decide +kernel

/-- every instruction of `(*projCached).Select` but the final `Return`, whatever lies below its frame, on the canonical heap of its parameters;
    the blocks allocated (locals and temporaries of the callees) depend on the values only -/
theorem preE_projCached_Select (v : Cached) (a : Cached) (b : Cached) (c : Nat) (hc : c < 2 ^ 64) : ∃ E : List (Array Val), ∀ (H : Heap) (bv ba bb : Nat) (hfv : Fits H bv 0 20) (hfa : Fits H ba 0 20) (hfb : Fits H bb 0 20) (hne_va : bv ≠ ba) (hne_vb : bv ≠ bb) (hne_ab : ba ≠ bb)  (dest : Option Nat) (frs : List Frame), ∃ regs,
    steps prog 240 ⟨mkE H (entsC bv v ++ entsC ba a ++ entsC bb b) [],
        ⟨50, f50, #[], #[[.ptr bv 0], [.ptr ba 0], [.ptr bb 0], [.int c]], 0, body50, dest⟩ :: frs⟩
      = some ⟨mkE H (entsC bv (Formulas.projCached_Select v a b c) ++ entsC ba a ++ entsC bb b) E,
          ⟨50, f50, regs, #[[.ptr bv 0], [.ptr ba 0], [.ptr bb 0], [.int c]], 0, [⟨16, .none, 404, .ret [(.param 0)], 0, [14]⟩], dest⟩ :: frs⟩ := by
  apply Exists.intro
  intro H bv ba bb hfv hfa hfb hne_va hne_vb hne_ab  dest frs
  apply Exists.intro
  have hbv := hfv.1
  have hfv0 := fits_sub 0 hfv (by decide)
  have hfv1 := fits_sub 5 hfv (by decide)
  have hfv2 := fits_sub 10 hfv (by decide)
  have hfv3 := fits_sub 15 hfv (by decide)
  have hba := hfa.1
  have hfa0 := fits_sub 0 hfa (by decide)
  have hfa1 := fits_sub 5 hfa (by decide)
  have hfa2 := fits_sub 10 hfa (by decide)
  have hfa3 := fits_sub 15 hfa (by decide)
  have hbb := hfb.1
  have hfb0 := fits_sub 0 hfb (by decide)
  have hfb1 := fits_sub 5 hfb (by decide)
  have hfb2 := fits_sub 10 hfb (by decide)
  have hfb3 := fits_sub 15 hfb (by decide)
  simp only [body50]
  ssa_execP [resultTys_50, ↓stepsA_Select, hbv, hfv0, hfv1, hfv2, hfv3, hba, hfa0, hfa1, hfa2, hfa3, hbb, hfb0, hfb1, hfb2, hfb3, hne_va, hne_va.symm, hne_vb, hne_vb.symm, hne_ab, hne_ab.symm, hc, Multiply_rz, Square_rz, Add_rz, Subtract_rz, Select_rz, Set_rz]
  rfl

/-- the blocks `(*projCached).Select` allocates -/
noncomputable def ext_projCached_Select (v : Cached) (a : Cached) (b : Cached) (c : Nat) : List (Array Val) :=
  open Classical in if h : c < 2 ^ 64 then Classical.choose (preE_projCached_Select v a b c h) else []

/-- `(*projCached).Select` called from any frame on an arbitrary heap in which the parameters are structures of elements in distinct blocks -/
theorem callA_projCached_Select (H : Heap) (bv ba bb : Nat) (c : Nat) (hc : c < 2 ^ 64) (hkv : Ok4 H bv) (hka : Ok4 H ba) (hkb : Ok4 H bb) (hne_va : bv ≠ ba) (hne_vb : bv ≠ bb) (hne_ab : ba ≠ bb)  (d : Nat) (cfi : Nat) (cf : Func) (cregs cparams : Array RVal) (cblk : Nat) (crest : List Instr) (cdest : Option Nat) (frs : List Frame) :
    steps prog 241 ⟨H, ⟨50, f50, #[], #[[.ptr bv 0], [.ptr ba 0], [.ptr bb 0], [.int c]], 0, body50, some d⟩ :: ⟨cfi, cf, cregs, cparams, cblk, crest, cdest⟩ :: frs⟩
      = some ⟨pushB (set4 bv (Formulas.projCached_Select (getC H bv) (getC H ba) (getC H bb) c).YplusX (Formulas.projCached_Select (getC H bv) (getC H ba) (getC H bb) c).YminusX (Formulas.projCached_Select (getC H bv) (getC H ba) (getC H bb) c).Z (Formulas.projCached_Select (getC H bv) (getC H ba) (getC H bb) c).T2d H) (ext_projCached_Select (getC H bv) (getC H ba) (getC H bb) c),
          ⟨cfi, cf, regSet cregs d [.ptr bv 0], cparams, cblk, crest, cdest⟩ :: frs⟩ := by
  have hsc : c < 2 ^ 64 := hc
  obtain ⟨regs, hp⟩ := Classical.choose_spec (preE_projCached_Select (getC H bv) (getC H ba) (getC H bb) c hc) H bv ba bb  (fits_ok4 hkv) (fits_ok4 hka) (fits_ok4 hkb) hne_va hne_vb hne_ab  (some d) (⟨cfi, cf, cregs, cparams, cblk, crest, cdest⟩ :: frs)
  rw [show mkE H (entsC bv (getC H bv) ++ entsC ba (getC H ba) ++ entsC bb (getC H bb)) [] = H from mkE_restates H _ (restatesO4 hkv (restatesO4 hka (restatesO4 hkb (restates_nil H))))] at hp
  rw [ext_projCached_Select, dif_pos hsc]
  refine (steps_steps' hp 1).trans ?_
  ssa_execP [resultTys_50]
  refine congrArg (fun hp => some (⟨hp, _⟩ : State)) ?_
  exact mkE_head4 H bv _ _ _ _ _ _ (restatesO4 hka (restatesO4 hkb (restates_nil H)))

derive_rules callA_projCached_Select runA_projCached_Select stepsA_projCached_Select

/-- **tie**: `(*projCached).Select` on any heap in which the (pairwise distinct) parameter blocks hold the cells of the model values: the run
    terminates and returns the receiver; the receiver's block then holds the cells of T5's `Formulas.projCached_Select`; every other block of the
    heap is unchanged (the heap grows by the locals of the run). -/
theorem tie_projCached_Select (h : Heap) (bv ba bb : Nat) (v : Cached) (a : Cached) (b : Cached) (c : Nat) (hc : c < 2 ^ 64) (hcv : h.blocks[bv]? = some (cellsC v)) (hca : h.blocks[ba]? = some (cellsC a)) (hcb : h.blocks[bb]? = some (cellsC b)) (hne_va : bv ≠ ba) (hne_vb : bv ≠ bb) (hne_ab : ba ≠ bb)  :
    ∃ h', runCall prog 241 h (nm! "(*projCached).Select") [[.ptr bv 0], [.ptr ba 0], [.ptr bb 0], [.int c]] = some (.done ⟨h', []⟩ [[.ptr bv 0]])
      ∧ Post1 h h' bv (cellsC (Formulas.projCached_Select v a b c)) := by
  obtain ⟨E, pre⟩ := preE_projCached_Select v a b c hc
  obtain ⟨regs, hp⟩ := pre h bv ba bb (fits_of_get hcv 20 (Nat.le_refl _)) (fits_of_get hca 20 (Nat.le_refl _)) (fits_of_get hcb 20 (Nat.le_refl _)) hne_va hne_vb hne_ab  none []
  rw [show mkE h (entsC bv v ++ entsC ba a ++ entsC bb b) [] = h from mkE_restates h _ (restates4 hcv (restates4 hca (restates4 hcb (restates_nil h))))] at hp
  refine ⟨_, ?_, post1_mkE4 _ _ _ _ _ E hcv (cells4_size _ _ _ _) (restates4 hca (restates4 hcb (restates_nil h)))⟩
  simp only [runCall, funcIdx_50, callState, funcs_50, mkFrame_50, Option.bind_some, Option.map_some, Option.pure_def,
    Option.bind_eq_bind]
  rw [run_steps' hp 1]
  ssa_execP [resultTys_50]

end EdVerif.Ssa.Tie
