import EdVerif.Ssa.Tie.HeapE
import EdVerif.Ssa.Tie.Exec
/-!
# The stepper on element-granular heaps (`mkE`)

`ssa_execE` is `ssa_exec` with the heap lemmas of `HeapE.lean`.  Operands are element slots `(block, offset)`; the
side conditions (`Fits`, `SepE`) are hypotheses passed to the tactic.
-/
namespace EdVerif.Ssa.Tie
open EdVerif.Ssa EdVerif.Gen.Ssa

/-- the call lemmas of the heap-independent kernels (`mul64`, …) append their locals with `mkH _ [] _` -/
theorem mkH_mkE (h0 : Heap) (ovr ext ext') : mkH (mkE h0 ovr ext) [] ext' = mkE h0 ovr (ext ++ ext') := by
  simp [mkH, base, mkE, Array.append_assoc]

theorem lt5_0 : (0 < 5) = True := by decide
theorem lt5_1 : (1 < 5) = True := by decide
theorem lt5_2 : (2 < 5) = True := by decide
theorem lt5_3 : (3 < 5) = True := by decide
theorem lt5_4 : (4 < 5) = True := by decide

syntax "ssa_execE" "[" Lean.Parser.Tactic.simpLemma,* "]" : tactic
macro_rules
  | `(tactic| ssa_execE [$ls,*]) => `(tactic|
  simp only [run_succ, runK_cont, runK_done, steps_succ, stepsK_cont, steps_zero,
    step_alloc, step_binop, step_unop, step_load, step_call, step_convert, step_extract, step_fieldAddr, step_field,
    step_store, step_ret,
    stepStore, stepLoad, stepFieldAddr, stepField, stepBinop, stepUnop, stepConvert, stepRet, stepCall,
    evalOpnd_reg, evalOpnd_param, evalOpnd_cint, evalOpnds_nil, evalOpnds_cons,
    contReg, contNoReg, regSet_empty, regSet_regsN, regSet_regsN_lt, regsN_get, intBinop, beq_shl_shl, beq_shr_shl, intShift_shl, intShift_shr, isConst_cint,
    tyOf_3, tyOf_4, tyOf_10, tyOf_19, tyOf_50, zeros_19, cls_ptr, evalOpnd_global, tyOf_60, tyOf_72, tyOf_73, tyOf_84, zeros_3, zeros_4, zeros_73,
    span2_0, span2_1, span5_0, span5_1, span5_2, span5_3, span5_4, intOfTy_3, intOfTy_10,
    stepAlloc_84, stepAlloc_19, cls1, cls2, cls5, cls_int, extern_mul64, extern_add64,
    alloc_mkE, readE_ext, writeE_ext, readCells, writeCells, mkE_mkE, mkH_mkE, retValue,
    readE_hit_0, readE_hit_1, readE_hit_2, readE_hit_3, readE_hit_4, readE_hit5, readE_miss, readE_miss5,
    writeE_hit_0, writeE_hit_1, writeE_hit_2, writeE_hit_3, writeE_hit_4, writeE_hit5,
    lt5_0, lt5_1, lt5_2, lt5_3, lt5_4,
    List.headD, List.tail, List.getElem?_toArray, List.getElem?_cons_zero, List.getElem?_cons_succ, List.getD_cons_zero, List.getD_cons_succ, List.getD_nil,
    List.length_cons, List.length_nil, List.cons_append, List.nil_append, List.replicate, List.set_cons_zero, List.set_cons_succ,
    List.setIfInBounds_toArray, List.drop, List.take, List.flatten_cons, List.flatten_nil, List.append_nil,
    Option.bind_some, Option.map_some, Option.pure_def, Option.bind_eq_bind,
    if_true, if_false, ite_true, ite_false, Bool.false_eq_true, Nat.reduceAdd, Nat.reduceSub, Nat.reduceLT, Nat.reduceLeDiff, Nat.reduceGT,
    reduceIte, Nat.reduceMul, Nat.zero_le, Nat.le_refl, $ls,*])

end EdVerif.Ssa.Tie
