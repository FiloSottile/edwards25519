import EdVerif.Ssa.Tie.PtShape
import EdVerif.Ssa.Tie.Negate
/-!
# Package-level variables holding a pointer to an element (`d`, `d2`, `feOne`, `field.feZero`, …)

Global `g` is heap block `g + 1`, one cell holding `.ptr b 0`; `b` is a 5-cell block allocated by `init`.
-/
namespace EdVerif.Ssa.Tie
open EdVerif.Ssa EdVerif.Gen.Ssa EdVerif.Prims EdVerif.Impl
set_option maxRecDepth 100000
set_option linter.unusedVariables false

/-- no entry lies in block `g` -/
def NoBlk (g : Nat) : List Ent → Prop
  | [] => True
  | e :: r => e.1 ≠ g ∧ NoBlk g r

theorem NoBlk_nil (g : Nat) : NoBlk g [] = True := by rw [NoBlk]
theorem NoBlk_cons (g b o : Nat) (W : List Val) (r : List Ent) : NoBlk g ((b, o, W) :: r) = (b ≠ g ∧ NoBlk g r) := by rw [NoBlk]

theorem get_baseE_noblk (h0 : Heap) (g : Nat) : ∀ ovr, NoBlk g ovr → (baseE h0 ovr).blocks[g]? = h0.blocks[g]?
  | [], _ => rfl
  | e :: r, h => by
    simp only [baseE]
    rw [get_ovE_other _ _ _ _ _ (Ne.symm h.1), get_baseE_noblk h0 g r h.2]

theorem lt_of_read {h : Heap} {g o n : Nat} {x : List Val} (hr : h.read g o n = some x) : g < h.blocks.size := by
  simp only [Heap.read] at hr
  cases hb : h.blocks[g]? with
  | none => simp [hb] at hr
  | some V => exact lt_of_get hb

theorem read_mkE_base {h0 : Heap} {g o n : Nat} {x : List Val} (hr : h0.read g o n = some x) (ovr : List Ent) (ext : List (Array Val))
    (hn : NoBlk g ovr) : (mkE h0 ovr ext).read g o n = some x := by
  rw [← hr]
  simp only [Heap.read, mkE]
  rw [Array.getElem?_append_left (by simpa using lt_of_read hr), get_baseE_noblk h0 g ovr hn]

/-- the block the pointer variable in block `g` points to -/
def gptr (H : Heap) (g : Nat) : Nat :=
  match H.read g 0 1 with
  | some [.ptr b _] => b
  | _ => 0

/-- block `g` holds a pointer variable pointing to the start of a block -/
def IsGlob (H : Heap) (g : Nat) : Prop := H.read g 0 1 = some [.ptr (gptr H g) 0]

theorem isGlob_of_read {H : Heap} {g b : Nat} (h : H.read g 0 1 = some [.ptr b 0]) : IsGlob H g ∧ gptr H g = b := by
  simp only [IsGlob, gptr, h, and_self]

theorem gptr_mkE {h0 : Heap} {g b : Nat} (hr : h0.read g 0 1 = some [.ptr b 0]) (ovr : List Ent) (ext : List (Array Val))
    (hn : NoBlk g ovr) : gptr (mkE h0 ovr ext) g = b :=
  (isGlob_of_read (read_mkE_base hr ovr ext hn)).2

theorem isGlob_mkE {h0 : Heap} {g b : Nat} (hr : h0.read g 0 1 = some [.ptr b 0]) (ovr : List Ent) (ext : List (Array Val))
    (hn : NoBlk g ovr) : IsGlob (mkE h0 ovr ext) g = True :=
  eq_true (isGlob_of_read (read_mkE_base hr ovr ext hn)).1

theorem read_of_get1 {h : Heap} {g : Nat} {x : Val} (hb : h.blocks[g]? = some #[x]) : h.read g 0 1 = some [x] := by
  simp [Heap.read, hb, readCells]

theorem ne_of_size {h : Heap} {b1 b2 : Nat} {V1 V2 : Array Val} (h1 : h.blocks[b1]? = some V1) (h2 : h.blocks[b2]? = some V2)
    (hne : V1.size ≠ V2.size) : b1 ≠ b2 :=
  ne_of_cells h1 h2 fun e => hne (by rw [e])

theorem ne_of_size' {h : Heap} {b1 b2 : Nat} {V1 V2 : Array Val} (h1 : h.blocks[b1]? = some V1) (h2 : h.blocks[b2]? = some V2)
    {n1 n2 : Nat} (s1 : V1.size = n1) (s2 : V2.size = n2) (hne : n1 ≠ n2) : b1 ≠ b2 :=
  ne_of_size h1 h2 (by rw [s1, s2]; exact hne)

theorem restates_cons_val {H : Heap} {b o : Nat} {x : Fe} {r : List Ent} (h : OkE H b o) (hx : getE H b o = x) (hr : Restates H r) :
    Restates H ((b, o, feL x) :: r) := by
  rw [← hx]; exact restates_cons h hr

theorem restates_feCells {h : Heap} {b : Nat} {x : Fe} {r : List Ent} (hb : h.blocks[b]? = some (feCells x)) (hr : Restates h r) :
    Restates h ((b, 0, feL x) :: r) :=
  restates_one hb (lt5_cases rfl rfl rfl rfl rfl) hr

theorem feCells_size (x : Fe) : (feCells x).size = 5 := rfl

/-- `v.Negate(a)` called from any frame on an arbitrary heap (`feZero` is global 12 = block 13) -/
theorem callA_Negate (H : Heap) (bv ov ba oa : Nat) (hg : IsGlob H 13)
    (hkv : OkE H bv ov) (hka : OkE H ba oa) (hkz : OkE H (gptr H 13) 0)
    (hc_vz : Compat bv ov (gptr H 13) 0) (hc_va : Compat bv ov ba oa) (hc_za : Compat (gptr H 13) 0 ba oa)
    (d : Nat) (cfi : Nat) (cf : Func) (cregs cparams : Array RVal) (cblk : Nat) (crest : List Instr) (cdest : Option Nat) (frs : List Frame) :
    steps prog 94 ⟨H, ⟨70, f70, #[], #[[.ptr bv ov], [.ptr ba oa]], 0, body70, some d⟩ :: ⟨cfi, cf, cregs, cparams, cblk, crest, cdest⟩ :: frs⟩
      = some ⟨setE bv ov (EdVerif.Gen.Field.Subtract (getE H bv ov) (getE H (gptr H 13) 0) (getE H ba oa)) H,
          ⟨cfi, cf, regSet cregs d [.ptr bv ov], cparams, cblk, crest, cdest⟩ :: frs⟩ := by
  have hg' : H.read 13 0 1 = some [.ptr (gptr H 13) 0] := hg
  simp only [body70]
  ssa_execE [resultTys_70, funcs_79, mkFrame_79, ↓stepsA_Subtract, hg', hkv, hka, hkz, hc_vz, hc_va, hc_za]

derive_rules callA_Negate runA_Negate stepsA_Negate

/-- T5's `field_Element_Negate` = T1's `Negate` with the dummy receiver -/
theorem Negate_val (v a : Fe) : EdVerif.Gen.Field.Subtract v EdVerif.Gen.Field.feZero a = Fe.sub Fe.zero a := by
  rw [Fe.sub, Fe.zero]; rfl

end EdVerif.Ssa.Tie
