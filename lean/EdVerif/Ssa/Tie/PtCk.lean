import EdVerif.Ssa.Tie.PtGlob
import EdVerif.Ssa.Tie.KernESwap
import EdVerif.Ssa.Tie.Bytes
import EdVerif.Gen.Formulas
/-!
# Control flow and `checkInitialized`

Rewrite rules for `Jump`, `If`, `Phi` (through `jumpTo` lemmas for the blocks of `checkInitialized` = function 93), `IndexAddr`,
`Slice` of an array, loads/stores of pointers, comparison of an element with the zero value.  The path of `checkInitialized` depends
on whether `x` is the zero value: its call lemmas (`callA_ck1`, `callA_ck2`) are proved by cases and take `ckSteps` steps, a function
of the points; a caller is run once, with `ckSteps` in its fuel, and `run_done_mono` then gives the statement with the longest path
as fuel.
-/
namespace EdVerif.Ssa.Tie
open EdVerif.Ssa EdVerif.Gen.Ssa EdVerif.Prims EdVerif.Impl
set_option maxRecDepth 100000

section rules
variable (p : Program) (hp : Heap) (fi : Nat) (f : Func) (regs params : Array RVal) (blk : Nat) (rest : List Instr)
  (dest : Option Nat) (frs : List Frame) (id : Nat) (k : VK) (ln ty : Nat) (tys : List Nat)

def jumpK (hp : Heap) (frs : List Frame) : Option Frame → Step
  | some fr' => .cont ⟨hp, fr' :: frs⟩ []
  | none => .fault "jump: target"

theorem step_jump (t : Nat) :
    step p ⟨hp, ⟨fi, f, regs, params, blk, ⟨id, k, ln, .jump t, ty, tys⟩ :: rest, dest⟩ :: frs⟩
      = jumpK hp frs (jumpTo p ⟨fi, f, regs, params, blk, rest, dest⟩ t) := by
  simp only [step, jumpK]
  cases jumpTo p ⟨fi, f, regs, params, blk, rest, dest⟩ t <;> rfl

theorem jumpK_some (fr' : Frame) : jumpK hp frs (some fr') = .cont ⟨hp, fr' :: frs⟩ [] := rfl

/-- continuation of an `If` once the condition and the target frame are known -/
def ifK2 (hp : Heap) (fr : Frame) (frs : List Frame) (b : Bool) : Option Frame → Step
  | some fr' => .cont ⟨hp, fr' :: frs⟩ [ev fr K.branch [.bool b]]
  | none => .fault "if: target"

theorem ifK_bool (fr : Frame) (t e : Nat) (b : Bool) :
    ifK p hp fr frs t e (some [.bool b]) = ifK2 hp fr frs b (jumpTo p fr (if b then t else e)) := by
  simp only [ifK, ifK2]
  cases jumpTo p fr (if b then t else e) <;> rfl

theorem ifK2_some (fr : Frame) (b : Bool) (fr' : Frame) : ifK2 hp fr frs b (some fr') = .cont ⟨hp, fr' :: frs⟩ [ev fr K.branch [.bool b]] := rfl

end rules

theorem lt_i64 (a b : Nat) (ha : a < 9223372036854775808) (hb : b < 9223372036854775808) :
    decide (asInt 64 true a < asInt 64 true b) = decide (a < b) := by
  have h1 : a < 2 ^ (64 - 1) := by omega
  have h2 : b < 2 ^ (64 - 1) := by omega
  simp [asInt, toInt, h1, h2]

theorem wrap64_lit0 : wrap 64 (18446744073709551615 + 1) = 0 := by decide
theorem wrap64_small (n : Nat) (h : n < 4) : wrap 64 (n + 1) = n + 1 := by
  simp only [wrap]; omega

theorem tyOf_7 : prog.tyOf 7 = .arr 2 6 := rfl
theorem tyOf_8 : prog.tyOf 8 = .ptr 7 := rfl
theorem tyOf_9 : prog.tyOf 9 = .ptr 6 := rfl
theorem tyOf_11 : prog.tyOf 11 = .slice 6 := rfl
theorem tyOf_23 : prog.tyOf 23 = .arr 1 6 := rfl
theorem tyOf_24 : prog.tyOf 24 = .ptr 23 := rfl
theorem size_6 : prog.size 6 = some 1 := rfl
theorem zeros_6 : prog.zeros 6 = some [.nil] := rfl
theorem zeros_7 : prog.zeros 7 = some [.nil, .nil] := rfl
theorem zeros_23 : prog.zeros 23 = some [.nil] := rfl
theorem zeros_13 : prog.zeros 13 = some [.int 0, .int 0, .int 0, .int 0, .int 0, .int 0, .int 0, .int 0, .int 0, .int 0,
    .int 0, .int 0, .int 0, .int 0, .int 0, .int 0, .int 0, .int 0, .int 0, .int 0] := rfl
theorem zeros_25 : prog.zeros 25 = some [.int 0, .int 0, .int 0, .int 0, .int 0, .int 0, .int 0, .int 0, .int 0, .int 0,
    .int 0, .int 0, .int 0, .int 0, .int 0] := rfl
theorem cls_nil_ptr (b o : Nat) : ((Val.nil).cls = (Val.ptr b o).cls) = True := by simp [Val.cls]
theorem cls_ptr_ptr (b o b' o' : Nat) : ((Val.ptr b o).cls = (Val.ptr b' o').cls) = True := by simp [Val.cls]

/-- `new(projP1xP1)`, `new(projCached)` -/
theorem stepAlloc_14 (hp : Heap) (fr : Frame) (frs : List Frame) (id : Nat) (k : VK) (ln : Nat) (op : Op) (tys : List Nat) :
    stepAlloc prog hp fr frs ⟨id, k, ln, op, 14, tys⟩
      = contReg fr frs id [.ptr (hp.alloc [.int 0, .int 0, .int 0, .int 0, .int 0, .int 0, .int 0, .int 0, .int 0, .int 0,
          .int 0, .int 0, .int 0, .int 0, .int 0, .int 0, .int 0, .int 0, .int 0, .int 0]).2 0]
        (hp.alloc [.int 0, .int 0, .int 0, .int 0, .int 0, .int 0, .int 0, .int 0, .int 0, .int 0,
          .int 0, .int 0, .int 0, .int 0, .int 0, .int 0, .int 0, .int 0, .int 0, .int 0]).1 [] :=
  stepAlloc_of tyOf_14 zeros_13 (by decide) hp fr frs id k ln op tys

/-- `new(projP2)`, `new(affineCached)` -/
theorem stepAlloc_26 (hp : Heap) (fr : Frame) (frs : List Frame) (id : Nat) (k : VK) (ln : Nat) (op : Op) (tys : List Nat) :
    stepAlloc prog hp fr frs ⟨id, k, ln, op, 26, tys⟩
      = contReg fr frs id [.ptr (hp.alloc [.int 0, .int 0, .int 0, .int 0, .int 0, .int 0, .int 0, .int 0, .int 0, .int 0,
          .int 0, .int 0, .int 0, .int 0, .int 0]).2 0]
        (hp.alloc [.int 0, .int 0, .int 0, .int 0, .int 0, .int 0, .int 0, .int 0, .int 0, .int 0,
          .int 0, .int 0, .int 0, .int 0, .int 0]).1 [] :=
  stepAlloc_of tyOf_26 zeros_25 (by decide) hp fr frs id k ln op tys

/-- `new([1]*Point)` -/
theorem stepAlloc_24 (hp : Heap) (fr : Frame) (frs : List Frame) (id : Nat) (k : VK) (ln : Nat) (op : Op) (tys : List Nat) :
    stepAlloc prog hp fr frs ⟨id, k, ln, op, 24, tys⟩ = contReg fr frs id [.ptr (hp.alloc [.nil]).2 0] (hp.alloc [.nil]).1 [] :=
  stepAlloc_of tyOf_24 zeros_23 (by decide) hp fr frs id k ln op tys

/-- `new([2]*Point)` -/
theorem stepAlloc_8 (hp : Heap) (fr : Frame) (frs : List Frame) (id : Nat) (k : VK) (ln : Nat) (op : Op) (tys : List Nat) :
    stepAlloc prog hp fr frs ⟨id, k, ln, op, 8, tys⟩ = contReg fr frs id [.ptr (hp.alloc [.nil, .nil]).2 0] (hp.alloc [.nil, .nil]).1 [] :=
  stepAlloc_of tyOf_8 zeros_7 (by decide) hp fr frs id k ln op tys

/-! ## the blocks of `checkInitialized` -/

def body93 : List Instr := body% f93
def blk93_1 : List Instr := List.tail (block% f93 1)
def blk93_2 : List Instr := block% f93 2
def blk93_3 : List Instr := block% f93 3
def blk93_5 : List Instr := block% f93 5
theorem funcs_93 : prog.funcs[93]? = some f93 := rfl
theorem mkFrame_93 (args : List RVal) (dest : Option Nat) :
    mkFrame 93 f93 args dest = some ⟨93, f93, #[], args.toArray, 0, body93, dest⟩ := rfl
theorem resultTys_93 : f93.resultTys = [] := rfl

theorem jumpTo_93_0_1 (regs params : Array RVal) (rest : List Instr) (dest : Option Nat) :
    jumpTo prog ⟨93, f93, regs, params, 0, rest, dest⟩ 1
      = some ⟨93, f93, regSet regs 2 [.int 18446744073709551615], params, 1, blk93_1, dest⟩ := rfl

theorem phi_bind (regs params : Array RVal) (dest : Option Nat) (x : Option RVal) :
    (x.bind fun v => (some ([] : List (Nat × RVal))).bind fun r => some ((2, v) :: r)).bind
        (fun vals => some (⟨93, f93, assignAll regs vals, params, 1, blk93_1, dest⟩ : Frame))
      = x.bind (fun v => some ⟨93, f93, regSet regs 2 v, params, 1, blk93_1, dest⟩) := by
  cases x <;> rfl

theorem jumpTo_93_2_1 (regs params : Array RVal) (rest : List Instr) (dest : Option Nat) :
    jumpTo prog ⟨93, f93, regs, params, 2, rest, dest⟩ 1
      = (regs[3]?).bind (fun v => some ⟨93, f93, regSet regs 2 v, params, 1, blk93_1, dest⟩) :=
  phi_bind regs params dest regs[3]?

theorem jumpTo_93_5_1 (regs params : Array RVal) (rest : List Instr) (dest : Option Nat) :
    jumpTo prog ⟨93, f93, regs, params, 5, rest, dest⟩ 1
      = (regs[3]?).bind (fun v => some ⟨93, f93, regSet regs 2 v, params, 1, blk93_1, dest⟩) :=
  phi_bind regs params dest regs[3]?

theorem jumpTo_93_1_2 (regs params : Array RVal) (rest : List Instr) (dest : Option Nat) :
    jumpTo prog ⟨93, f93, regs, params, 1, rest, dest⟩ 2 = some ⟨93, f93, regs, params, 2, blk93_2, dest⟩ := rfl
theorem jumpTo_93_1_3 (regs params : Array RVal) (rest : List Instr) (dest : Option Nat) :
    jumpTo prog ⟨93, f93, regs, params, 1, rest, dest⟩ 3 = some ⟨93, f93, regs, params, 3, blk93_3, dest⟩ := rfl
theorem jumpTo_93_2_5 (regs params : Array RVal) (rest : List Instr) (dest : Option Nat) :
    jumpTo prog ⟨93, f93, regs, params, 2, rest, dest⟩ 5 = some ⟨93, f93, regs, params, 5, blk93_5, dest⟩ := rfl

/-! ## whole elements read at the point level -/

section feL
variable (h0 : Heap) (b o : Nat) (x : Fe) (ovr : List Ent) (ext : List (Array Val))

theorem read5_feL_hit (hf : Fits h0 b o 5) : (mkE h0 ((b, o, feL x) :: ovr) ext).read b o 5 = some (feL x) := by
  cases x; exact readE_hit5 h0 b o _ _ _ _ _ ovr ext hf

theorem read5_feL_miss (c o' : Nat) (hs : SepE b o c o') :
    (mkE h0 ((b, o, feL x) :: ovr) ext).read c o' 5 = (mkE h0 ovr ext).read c o' 5 := by
  cases x; exact readE_miss5 h0 b o _ _ _ _ _ ovr ext c o' hs

theorem cls_feL : listEqClasses (feL x) [.int 0, .int 0, .int 0, .int 0, .int 0] = true := by cases x; rfl

end feL

/-- the element is the zero value (what `checkInitialized` tests, limb-wise) -/
def IsZeroE (x : Fe) : Prop := feL x = [.int 0, .int 0, .int 0, .int 0, .int 0]

theorem isZeroE_eq (x : Fe) : (feL x = [.int 0, .int 0, .int 0, .int 0, .int 0]) = IsZeroE x := by rw [IsZeroE]

theorem isZeroE_iff (x : Fe) : IsZeroE x ↔ x = Fe.rz := by
  cases x
  simp [IsZeroE, feL, Fe.rz]

/-- the point passes `checkInitialized`: `x` or `y` is not the zero value -/
def InitP (p : P3) : Prop := ¬ IsZeroE p.x ∨ ¬ IsZeroE p.y

syntax "ssa_execC" "[" Lean.Parser.Tactic.simpLemma,* "]" : tactic
macro_rules
  | `(tactic| ssa_execC [$ls,*]) => `(tactic|
  ssa_execP [step_jump, jumpK_some, step_if, ifK_bool, ifK2_some, step_indexAddr, step_slice, stepIndexAddr,
    checkIndex_lit, lt_i64, wrap64_lit0, wrap64_small, tyOf_7, tyOf_8, tyOf_9, tyOf_11, tyOf_23, tyOf_24, size_6, zeros_6, zeros_7, zeros_23,
    zeros_13, zeros_25, cls_nil_ptr, cls_ptr_ptr, stepAlloc_24, stepAlloc_8, stepSlice, evalBound_none, Option.isSome, Bool.and_self, Bool.and_true, builtin_len,
    body93, blk93_1, blk93_2, blk93_3, blk93_5, funcs_93, mkFrame_93, resultTys_93,
    jumpTo_93_0_1, jumpTo_93_2_1, jumpTo_93_5_1, jumpTo_93_1_2, jumpTo_93_1_3, jumpTo_93_2_5,
    read5_feL_hit, read5_feL_miss, cls_feL, isZeroE_eq, evalOpnd, Nat.reduceLT, decide_true, decide_false, Nat.reduceMul, Nat.reduceSub,
    funcs_70, mkFrame_70, funcs_80, mkFrame_80, NoBlk_cons, NoBlk_nil, Negate_val, $ls,*])

/-! ## `checkInitialized` as a callee -/

/-- a run that has terminated does not change with more fuel -/
theorem run_done_mono {p : Program} {s' : State} {r : List RVal} : ∀ {k : Nat} {s : State}, run p k s = .done s' r → ∀ {k' : Nat}, k ≤ k' → run p k' s = .done s' r
  | 0, s, h, _, _ => by rw [run] at h; cases h
  | k + 1, s, h, k', hk => by
    obtain ⟨k'', rfl⟩ : ∃ k'', k' = k'' + 1 := ⟨k' - 1, by omega⟩
    rw [run_succ] at h ⊢
    cases hs : step p s with
    | cont s1 ev => rw [hs] at h; exact run_done_mono (k := k) h (Nat.le_of_succ_le_succ hk)
    | done s1 r1 ev => rw [hs] at h; exact h
    | panic s1 c ev => rw [hs] at h; cases h
    | fault w => rw [hs] at h; cases h

/-- steps `checkInitialized` spends on one point: `y` is tested only when `x` is the zero value -/
noncomputable def ckCost (p : P3) : Nat := open Classical in if IsZeroE p.x then 13 else 9

/-- steps of `checkInitialized` on the points `ps` -/
noncomputable def ckSteps : List P3 → Nat
  | [] => 6
  | p :: r => ckCost p + ckSteps r

theorem ckCost_le (p : P3) : ckCost p ≤ 13 := by
  unfold ckCost; split <;> decide

theorem ckSteps_le1 (p : P3) : ckSteps [p] ≤ 19 := by
  have := ckCost_le p; simp only [ckSteps]; omega

theorem ckSteps_le2 (p q : P3) : ckSteps [p, q] ≤ 32 := by
  have := ckCost_le p; have := ckCost_le q; simp only [ckSteps]; omega

/-- `checkInitialized(p)` called from any frame on an arbitrary heap: the slice `(a, 0, 1, 1)` holds a pointer to a block whose first two
    elements are `p.x`, `p.y`; nothing changes (the body is a literal: the stepper unfolds `body93`).  The step count depends on the data (`ckSteps`), the callers are run once with it as a term. -/
theorem callA_ck1 (bp : Nat) (p : P3) (hi : InitP p) (Hc : Heap) (a : Nat) (ha : Hc.read a 0 1 = some [.ptr bp 0])
    (hx : Hc.read bp 0 5 = some (feL p.x)) (hy : Hc.read bp 5 5 = some (feL p.y))
    (d : Nat) (cfi : Nat) (cf : Func) (cregs cparams : Array RVal) (cblk : Nat) (crest : List Instr) (cdest : Option Nat) (frs : List Frame) :
    steps prog (ckSteps [p]) ⟨Hc, ⟨93, f93, #[], #[[.slice a 0 1 1]], 0, body% f93, some d⟩ :: ⟨cfi, cf, cregs, cparams, cblk, crest, cdest⟩ :: frs⟩
      = some ⟨Hc, ⟨cfi, cf, regSet cregs d [], cparams, cblk, crest, cdest⟩ :: frs⟩ := by
  by_cases hx0 : IsZeroE p.x
  · have hy0 : ¬ IsZeroE p.y := fun hy => hi.elim (fun h => h hx0) (fun h => h hy)
    simp only [ckSteps, ckCost, hx0, if_true]
    ssa_execC [resultTys_93, ha, hx, hy, eq_true hx0, eq_false hy0]
  · simp only [ckSteps, ckCost, hx0, if_false]
    ssa_execC [resultTys_93, ha, hx, hy, eq_false hx0]

derive_rules callA_ck1 runA_ck1 stepsA_ck1

/-- `checkInitialized(p, q)` -/
theorem callA_ck2 (bp bq : Nat) (p q : P3) (hi_p : InitP p) (hi_q : InitP q) (Hc : Heap) (a : Nat)
    (ha0 : Hc.read a 0 1 = some [.ptr bp 0]) (ha1 : Hc.read a 1 1 = some [.ptr bq 0])
    (hpx : Hc.read bp 0 5 = some (feL p.x)) (hpy : Hc.read bp 5 5 = some (feL p.y))
    (hqx : Hc.read bq 0 5 = some (feL q.x)) (hqy : Hc.read bq 5 5 = some (feL q.y))
    (d : Nat) (cfi : Nat) (cf : Func) (cregs cparams : Array RVal) (cblk : Nat) (crest : List Instr) (cdest : Option Nat) (frs : List Frame) :
    steps prog (ckSteps [p, q]) ⟨Hc, ⟨93, f93, #[], #[[.slice a 0 2 2]], 0, body% f93, some d⟩ :: ⟨cfi, cf, cregs, cparams, cblk, crest, cdest⟩ :: frs⟩
      = some ⟨Hc, ⟨cfi, cf, regSet cregs d [], cparams, cblk, crest, cdest⟩ :: frs⟩ := by
  by_cases hxp : IsZeroE p.x
  · have hyp : ¬ IsZeroE p.y := fun hy => hi_p.elim (fun h => h hxp) (fun h => h hy)
    by_cases hxq : IsZeroE q.x
    · have hyq : ¬ IsZeroE q.y := fun hy => hi_q.elim (fun h => h hxq) (fun h => h hy)
      simp only [ckSteps, ckCost, hxp, hxq, if_true]
      ssa_execC [resultTys_93, ha0, ha1, hpx, hpy, hqx, hqy, eq_true hxp, eq_false hyp, eq_true hxq, eq_false hyq]
    · simp only [ckSteps, ckCost, hxp, hxq, if_true, if_false]
      ssa_execC [resultTys_93, ha0, ha1, hpx, hpy, hqx, hqy, eq_true hxp, eq_false hyp, eq_false hxq]
  · by_cases hxq : IsZeroE q.x
    · have hyq : ¬ IsZeroE q.y := fun hy => hi_q.elim (fun h => h hxq) (fun h => h hy)
      simp only [ckSteps, ckCost, hxp, hxq, if_true, if_false]
      ssa_execC [resultTys_93, ha0, ha1, hpx, hpy, hqx, hqy, eq_false hxp, eq_true hxq, eq_false hyq]
    · simp only [ckSteps, ckCost, hxp, hxq, if_false]
      ssa_execC [resultTys_93, ha0, ha1, hpx, hpy, hqx, hqy, eq_false hxp, eq_false hxq]

derive_rules callA_ck2 runA_ck2 stepsA_ck2

end EdVerif.Ssa.Tie
