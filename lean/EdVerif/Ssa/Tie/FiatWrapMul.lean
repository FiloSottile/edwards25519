import EdVerif.Ssa.Tie.FiatMul
/-!
# `(*Scalar).Multiply`
-/
namespace EdVerif.Ssa.Tie
open EdVerif.Ssa EdVerif.Gen.Ssa EdVerif.Prims EdVerif.Gen.Fiat
set_option maxRecDepth 100000

def body25 : List Instr := body% f25
theorem funcs_25 : prog.funcs[25]? = some f25 := rfl
theorem mkFrame_25 (args : List RVal) (dest : Option Nat) :
    mkFrame 25 f25 args dest = some ⟨25, f25, #[], args.toArray, 0, body25, dest⟩ := rfl
theorem resultTys_25 : f25.resultTys = [29] := rfl
theorem funcIdx_25 : prog.funcIdx? (nm! "(*Scalar).Multiply") = some 25 := by decide +kernel

/-- **tie** (any aliasing): `(*Scalar).Multiply` on an arbitrary heap in which the argument blocks hold the words of the arguments
    (the blocks may coincide, in which case the arguments do). -/
theorem tie_Scalar_Multiply (h : Heap) (bs bp bq : Nat) (s p q : W4) 
    (hs : h.blocks[bs]? = some (w4Cells s)) (hp : h.blocks[bp]? = some (w4Cells p)) (hq : h.blocks[bq]? = some (w4Cells q)) :
    ∃ h', runCall prog 487 h (nm! "(*Scalar).Multiply") [[.ptr bs 0], [.ptr bp 0], [.ptr bq 0]] = some (.done ⟨h', []⟩ [[.ptr bs 0]])
      ∧ Post1 h h' bs (w4Cells (EdVerif.Gen.Fiat.Multiply s p q)) := by
  obtain ⟨ext, hc⟩ := call_fiatScalarMul h bs bp bq s p q  hs hp hq 3 25 f25 (regsN 3 [[.ptr bq 0], [.ptr bp 0], [.ptr bs 0]]) #[[.ptr bs 0], [.ptr bp 0], [.ptr bq 0]] 0 (List.drop 4 body25) none []
  simp only [body25, List.drop_succ_cons, List.drop_zero] at hc
  refine ⟨_, ?_, post1_base _ ext (lt_of_get hs)⟩
  rw [runCall_eq funcIdx_25 funcs_25 (mkFrame_25 _ _)]
  simp only [body25]
  fiat_exec [resultTys_25, funcs_99, mkFrame_99, ↓run_steps' hc]
  rfl

end EdVerif.Ssa.Tie
