import EdVerif.Ssa.Tie.Pt_Point_Negate
import EdVerif.Ssa.Tie.PtCk
import EdVerif.Ssa.Tie.KernESwap
import EdVerif.Gen.Formulas
/-!
# GENERATED by gen_pt.py — `(*Point).Negate`: SSA execution = T5's `Formulas.Point_Negate__al00`
-/
namespace EdVerif.Ssa.Tie
open EdVerif.Ssa EdVerif.Gen.Ssa EdVerif.Prims EdVerif.Impl EdVerif.Gen
set_option maxRecDepth 100000
set_option linter.unusedVariables false

/-- `(*Point).Negate` as the outermost call, on the canonical heap of its parameters, the guarded points being initialised; the fuel is the
    exact number of steps, `checkInitialized` taking `ckSteps` -/
theorem coreE_Point_Negate__al00 (v : P3) (hi_v : InitP v) : ∀ (H : Heap) (bv bg_feZero : Nat) (hfv : Fits H bv 0 20)  (hg_feZero : H.read 13 0 1 = some [.ptr bg_feZero 0]) (hfg_feZero : Fits H bg_feZero 0 5) (hn_feZero : bg_feZero ≠ 13) (hne_v_feZero : bv ≠ bg_feZero) (hng_v_feZero : bv ≠ 13), ∃ E : List (Array Val),
    run prog (207 + ckSteps [v] + 5) ⟨mkE H (entsP3 bv v ++ [(bg_feZero, 0, feL EdVerif.Gen.Field.feZero)]) [],
        [⟨7, f7, #[], #[[.ptr bv 0], [.ptr bv 0]], 0, body7, none⟩]⟩
      = .done ⟨mkE H (entsP3 bv (Formulas.Point_Negate__al00 v v) ++ [(bg_feZero, 0, feL EdVerif.Gen.Field.feZero)]) E, []⟩ [[.ptr bv 0]] := by
  intro H bv bg_feZero hfv  hg_feZero hfg_feZero hn_feZero hne_v_feZero hng_v_feZero
  apply Exists.intro
  have hbv := hfv.1
  have hfv0 := fits_sub 0 hfv (by decide)
  have hfv1 := fits_sub 5 hfv (by decide)
  have hfv2 := fits_sub 10 hfv (by decide)
  have hfv3 := fits_sub 15 hfv (by decide)
  have hlt_feZero := lt_of_read hg_feZero
  simp only [body7]
  ssa_execC [resultTys_7, ↓runA_Negate, ↓runA_Set, ↓runA_ck1 bv v hi_v, hbv, hfv0, hfv1, hfv2, hfv3, read_mkE_base hg_feZero, gptr_mkE hg_feZero, isGlob_mkE hg_feZero, hfg_feZero, hfg_feZero.1, hn_feZero, hn_feZero.symm, hne_v_feZero, hne_v_feZero.symm, hng_v_feZero, hng_v_feZero.symm, hlt_feZero, Multiply_rz, Square_rz, Add_rz, Subtract_rz, Select_rz, Set_rz]
  rfl

/-- **tie**: `(*Point).Negate` on any heap in which the (pairwise distinct) parameter blocks hold the cells of the model values and the package variables point to T5's constants,
    the guarded parameters (v) being initialised points (`checkInitialized` does not panic): the run terminates and
    returns the receiver; the receiver's block then holds the cells of T5's `Formulas.Point_Negate__al00`; every other block of the heap is unchanged. -/
theorem tie_Point_Negate__al00 (h : Heap) (bv bg_feZero : Nat) (v : P3) (hi_v : InitP v) (hcv : h.blocks[bv]? = some (cellsP3 v))  (hgp_feZero : h.blocks[13]? = some #[.ptr bg_feZero 0]) (hgv_feZero : h.blocks[bg_feZero]? = some (feCells EdVerif.Gen.Field.feZero)) :
    ∃ h', runCall prog 231 h (nm! "(*Point).Negate") [[.ptr bv 0], [.ptr bv 0]] = some (.done ⟨h', []⟩ [[.ptr bv 0]])
      ∧ Post1 h h' bv (cellsP3 (Formulas.Point_Negate__al00 v v)) := by
  obtain ⟨E, core⟩ := coreE_Point_Negate__al00 v hi_v h bv bg_feZero (fits_of_get hcv 20 (Nat.le_refl _))  (read_of_get1 hgp_feZero) (fits_of_get hgv_feZero 5 (Nat.le_refl _)) (ne_of_size' hgv_feZero hgp_feZero (n1 := 5) (n2 := 1) rfl rfl (by decide)) (ne_of_size' hcv hgv_feZero (n1 := 20) (n2 := 5) rfl rfl (by decide)) (ne_of_size' hcv hgp_feZero (n1 := 20) (n2 := 1) rfl rfl (by decide))
  have core := run_done_mono core (k' := 231) (by have := ckSteps_le1 v; omega)
  rw [show mkE h (entsP3 bv v ++ [(bg_feZero, 0, feL EdVerif.Gen.Field.feZero)]) [] = h from mkE_restates h _ (restates4 hcv (restates_feCells hgv_feZero (restates_nil h)))] at core
  refine ⟨_, ?_, post1_mkE4 _ _ _ _ _ E hcv (cells4_size _ _ _ _) (restates_feCells hgv_feZero (restates_nil h))⟩
  simp only [runCall, funcIdx_7, callState, funcs_7, mkFrame_7, Option.bind_some, Option.map_some, Option.pure_def,
    Option.bind_eq_bind]
  rw [core]
  rfl

end EdVerif.Ssa.Tie
