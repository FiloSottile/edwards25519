import EdVerif.Ssa.Tie.Carry
/-!
# `(*field.Element).reduce`
-/
namespace EdVerif.Ssa.Tie
open EdVerif.Ssa EdVerif.Gen.Ssa EdVerif.Prims
set_option maxRecDepth 100000

def body85 : List Instr := body% f85
theorem funcs_85 : prog.funcs[85]? = some f85 := rfl
theorem mkFrame_85 (args : List RVal) (dest : Option Nat) :
    mkFrame 85 f85 args dest = some ⟨85, f85, #[], args.toArray, 0, body85, dest⟩ := rfl
theorem resultTys_85 : f85.resultTys = [19] := rfl
theorem funcIdx_85 : prog.funcIdx? (nm! "(*field.Element).reduce") = some 85 := by decide +kernel

abbrev redT (v0 v1 v2 v3 v4 : Nat) : Fe := EdVerif.Gen.Field.reduce ⟨v0, v1, v2, v3, v4⟩

theorem call_reduce (h0 : Heap) (ovr ext) (bv : Nat) (v0 v1 v2 v3 v4 : Nat) (hbv : bv < h0.blocks.size) (d : Nat)
    (cfi : Nat) (cf : Func) (cregs cparams : Array RVal) (cblk : Nat) (crest : List Instr) (cdest : Option Nat) (frs : List Frame) :
    steps prog 134 ⟨mkH h0 ((bv, #[.int v0, .int v1, .int v2, .int v3, .int v4]) :: ovr) ext,
        ⟨85, f85, #[], #[[.ptr bv 0]], 0, body85, some d⟩ :: ⟨cfi, cf, cregs, cparams, cblk, crest, cdest⟩ :: frs⟩
      = some ⟨mkH h0 ((bv, #[.int (redT v0 v1 v2 v3 v4).l0, .int (redT v0 v1 v2 v3 v4).l1, .int (redT v0 v1 v2 v3 v4).l2,
                              .int (redT v0 v1 v2 v3 v4).l3, .int (redT v0 v1 v2 v3 v4).l4]) :: ovr) ext,
          ⟨cfi, cf, regSet cregs d [.ptr bv 0], cparams, cblk, crest, cdest⟩ :: frs⟩ := by
  simp only [body85]
  ssa_exec [resultTys_85, funcs_83, mkFrame_83, ↓steps_carryPropagate, read_hit, write_hit, hbv]
  rfl

derive_rules call_reduce run_reduce steps_reduce

theorem core_reduce (h0 : Heap) (ovr ext) (bv : Nat) (v0 v1 v2 v3 v4 : Nat) (hbv : bv < h0.blocks.size) :
    run prog 134 ⟨mkH h0 ((bv, #[.int v0, .int v1, .int v2, .int v3, .int v4]) :: ovr) ext,
        [⟨85, f85, #[], #[[.ptr bv 0]], 0, body85, none⟩]⟩
      = .done ⟨mkH h0 ((bv, feCells (redT v0 v1 v2 v3 v4)) :: ovr) ext, []⟩ [[.ptr bv 0]] := by
  simp only [body85]
  ssa_exec [resultTys_85, funcs_83, mkFrame_83, ↓run_carryPropagate, read_hit, write_hit, hbv]
  rfl

/-- **tie**: `v.reduce()` -/
theorem tie_reduce (h : Heap) (bv : Nat) (v : Fe) (hv : h.blocks[bv]? = some (feCells v)) :
    ∃ h', runCall prog 134 h (nm! "(*field.Element).reduce") [[.ptr bv 0]] = some (.done ⟨h', []⟩ [[.ptr bv 0]])
      ∧ Post1 h h' bv (feCells (EdVerif.Gen.Field.reduce v)) := by
  have hbv : bv < h.blocks.size := lt_of_get hv
  obtain ⟨v0, v1, v2, v3, v4⟩ := v
  have core := core_reduce h [] [] bv v0 v1 v2 v3 v4 hbv
  rw [mkH_intro h [(bv, _)] (by simpa [feCells] using hv)] at core
  refine ⟨_, ?_, post1_mkH (ovr := []) _ [] hbv (by simp)⟩
  simp only [runCall, funcIdx_85, callState, funcs_85, mkFrame_85, Option.bind_some, Option.map_some, Option.pure_def,
    Option.bind_eq_bind]
  rw [core]

end EdVerif.Ssa.Tie
