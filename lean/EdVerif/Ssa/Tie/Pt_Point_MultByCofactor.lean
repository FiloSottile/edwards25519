import EdVerif.Ssa.Tie.Pt_projP2_FromP3
import EdVerif.Ssa.Tie.Pt_projP1xP1_Double
import EdVerif.Ssa.Tie.Pt_projP2_FromP1xP1
import EdVerif.Ssa.Tie.Pt_Point_fromP1xP1
import EdVerif.Ssa.Tie.PtExt
import EdVerif.Ssa.Tie.KernESwap
import EdVerif.Gen.Formulas
/-!
# GENERATED by gen_pt.py — `(*Point).MultByCofactor`: SSA execution = T5's `Formulas.Point_MultByCofactor`
-/
namespace EdVerif.Ssa.Tie
open EdVerif.Ssa EdVerif.Gen.Ssa EdVerif.Prims EdVerif.Impl EdVerif.Gen
set_option maxRecDepth 100000
set_option linter.unusedVariables false

def body5 : List Instr := body% f5
theorem funcs_5 : prog.funcs[5]? = some f5 := rfl
theorem mkFrame_5 (args : List RVal) (dest : Option Nat) :
    mkFrame 5 f5 args dest = some ⟨5, f5, #[], args.toArray, 0, body5, dest⟩ := rfl
theorem resultTys_5 : f5.resultTys = [6] := rfl
theorem funcIdx_5 : prog.funcIdx? (nm! "(*Point).MultByCofactor") = some 5 := by decide +kernel

/-- `(*Point).MultByCofactor` as the outermost call on an arbitrary heap in which the parameter blocks hold the structures `v p` (the blocks may
    coincide: the receiver is written by the last call only), the guarded points being initialised; the fuel is the exact number of
    steps, `checkInitialized` taking `ckSteps` -/
theorem coreA_Point_MultByCofactor (v : P3) (p : P3) (hi_p : InitP p) : ∀ (H : Heap) (bv bp : Nat) (hkv : Ok4 H bv) (hkp : Ok4 H bp) (hgv : getP3 H bv = v) (hgp : getP3 H bp = p) , ∃ E : List (Array Val),
    run prog (14811 + ckSteps [p] + 5) ⟨mkE H [] [], [⟨5, f5, #[], #[[.ptr bv 0], [.ptr bp 0]], 0, body5, none⟩]⟩
      = .done ⟨mkE H (entsP3 bv (Formulas.Point_MultByCofactor v p)) E, []⟩ [[.ptr bv 0]] := by
  intro H bv bp hkv hkp hgv hgp 
  apply Exists.intro
  have hbv := hkv.1.1.1
  have hkv0 := hkv.1
  have hgv0 : getE H bv 0 = v.x := congrArg P3.x hgv
  have hkv1 := hkv.2.1
  have hgv1 : getE H bv 5 = v.y := congrArg P3.y hgv
  have hkv2 := hkv.2.2.1
  have hgv2 : getE H bv 10 = v.z := congrArg P3.z hgv
  have hkv3 := hkv.2.2.2
  have hgv3 : getE H bv 15 = v.t := congrArg P3.t hgv
  have hbp := hkp.1.1.1
  have hkp0 := hkp.1
  have hgp0 : getE H bp 0 = p.x := congrArg P3.x hgp
  have hkp1 := hkp.2.1
  have hgp1 : getE H bp 5 = p.y := congrArg P3.y hgp
  have hkp2 := hkp.2.2.1
  have hgp2 : getE H bp 10 = p.z := congrArg P3.z hgp
  have hkp3 := hkp.2.2.2
  have hgp3 : getE H bp 15 = p.t := congrArg P3.t hgp
  simp only [body5]
  ssa_execX [resultTys_5, ↓runA_projP2_FromP3, ↓runA_projP1xP1_Double, ↓runA_projP2_FromP1xP1, ↓runA_Point_fromP1xP1, ↓runA_ck1 bp p hi_p, okE_base, getE_base, readE_base5, ↓set4_base, hbv, hkv0, hgv0, hkv1, hgv1, hkv2, hgv2, hkv3, hgv3, hbp, hkp0, hgp0, hkp1, hgp1, hkp2, hgp2, hkp3, hgp3, Multiply_rz, Square_rz, Add_rz, Subtract_rz, Select_rz, Set_rz, funcs_60, mkFrame_60, funcs_56, mkFrame_56, funcs_59, mkFrame_59, funcs_19, mkFrame_19]
  rfl

/-- **tie**, any aliasing: `(*Point).MultByCofactor` on any heap in which the parameter blocks hold the cells of the model values (blocks may coincide,
    in which case the values do), the guarded parameters (p) being initialised points
    (`checkInitialized` does not panic): the run terminates and returns the receiver; the receiver's block then holds the cells of T5's
    `Formulas.Point_MultByCofactor`; every other block of the heap is unchanged. -/
theorem tie_Point_MultByCofactor_any (h : Heap) (bv bp : Nat) (v : P3) (p : P3) (hi_p : InitP p) (hcv : h.blocks[bv]? = some (cellsP3 v)) (hcp : h.blocks[bp]? = some (cellsP3 p))  :
    ∃ h', runCall prog 14835 h (nm! "(*Point).MultByCofactor") [[.ptr bv 0], [.ptr bp 0]] = some (.done ⟨h', []⟩ [[.ptr bv 0]])
      ∧ Post1 h h' bv (cellsP3 (Formulas.Point_MultByCofactor v p)) := by
  obtain ⟨E, core⟩ := coreA_Point_MultByCofactor v p hi_p h bv bp (ok4_of_cells hcv) (ok4_of_cells hcp) (getP3_of_cells hcv) (getP3_of_cells hcp) 
  have core := run_done_mono core (k' := 14835) (by have := ckSteps_le1 p; omega)
  rw [mkE_nil] at core
  refine ⟨_, ?_, post1_mkE4 _ _ _ _ [] E hcv (cells4_size _ _ _ _) (restates_nil h)⟩
  simp only [runCall, funcIdx_5, callState, funcs_5, mkFrame_5, Option.bind_some, Option.map_some, Option.pure_def,
    Option.bind_eq_bind]
  rw [core]
  rfl

/-- **tie**: `(*Point).MultByCofactor`, the parameter blocks pairwise distinct (an instance of `tie_Point_MultByCofactor_any`) -/
theorem tie_Point_MultByCofactor (h : Heap) (bv bp : Nat) (v : P3) (p : P3) (hi_p : InitP p) (hcv : h.blocks[bv]? = some (cellsP3 v)) (hcp : h.blocks[bp]? = some (cellsP3 p)) (hne_vp : bv ≠ bp)  :
    ∃ h', runCall prog 14835 h (nm! "(*Point).MultByCofactor") [[.ptr bv 0], [.ptr bp 0]] = some (.done ⟨h', []⟩ [[.ptr bv 0]])
      ∧ Post1 h h' bv (cellsP3 (Formulas.Point_MultByCofactor v p)) :=
  tie_Point_MultByCofactor_any h bv bp  v p hi_p hcv hcp 

/-- **tie**: `(*Point).MultByCofactor`, parameters sharing a block as the argument list shows, the others distinct (an instance of `tie_Point_MultByCofactor_any`) -/
theorem tie_Point_MultByCofactor__al00 (h : Heap) (bv : Nat) (v : P3) (hi_v : InitP v) (hcv : h.blocks[bv]? = some (cellsP3 v))   :
    ∃ h', runCall prog 14835 h (nm! "(*Point).MultByCofactor") [[.ptr bv 0], [.ptr bv 0]] = some (.done ⟨h', []⟩ [[.ptr bv 0]])
      ∧ Post1 h h' bv (cellsP3 (Formulas.Point_MultByCofactor__al00 v v)) :=
  tie_Point_MultByCofactor_any h bv bv  v v hi_v hcv hcv 

end EdVerif.Ssa.Tie
