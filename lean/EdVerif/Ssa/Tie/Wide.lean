import EdVerif.Ssa.Tie.Bytes
/-!
# `(*field.Element).SetWideBytes`
-/
namespace EdVerif.Ssa.Tie
open EdVerif.Ssa EdVerif.Gen.Ssa EdVerif.Prims
set_option maxRecDepth 100000

theorem tyOf_49 : prog.tyOf 49 = .struct [19, 32] := rfl
theorem span49_0 : prog.fieldSpan [19, 32] 0 = some (0, 1) := rfl
theorem span49_1 : prog.fieldSpan [19, 32] 1 = some (1, 1) := rfl


/-- the 64 bytes `x 0 … x 63` as a T1 byte string -/
def bytes64 (x : Nat → Nat) : Bytes := Array.ofFn (n := 64) fun i => x i.1

theorem bytes64_size (x : Nat → Nat) : (bytes64 x).size = 64 := by simp [bytes64]

theorem bytes64_get (x : Nat → Nat) (i : Nat) (h : i < 64) : (bytes64 x)[i]! = x i := by
  rw [getElem!_pos (bytes64 x) i (by rw [bytes64_size]; exact h)]
  simp [bytes64]

theorem bytes64_slice_get (x : Nat → Nat) (s e i : Nat) (h : s + i < 64) (h2 : s + i < e) (h3 : e ≤ 64) :
    (Bin.slice (bytes64 x) s e)[i]! = x (s + i) := by
  have hs : i < (Bin.slice (bytes64 x) s e).size := by
    simp only [Bin.slice, Array.size_extract, bytes64_size]; omega
  rw [getElem!_pos _ i hs]
  simp only [Bin.slice, Array.getElem_extract]
  have := bytes64_get x (s + i) h
  rw [getElem!_pos (bytes64 x) (s + i) (by rw [bytes64_size]; exact h)] at this
  exact this

theorem shr8_eq (a k : Nat) : U.shr 8 a k = U.shr 64 a k := by rw [U.shr, U.shr]

def body76 : List Instr := body% f76
def blk76_2 : List Instr := block% f76 2
theorem funcs_76 : prog.funcs[76]? = some f76 := rfl
theorem mkFrame_76 (args : List RVal) (dest : Option Nat) :
    mkFrame 76 f76 args dest = some ⟨76, f76, #[], args.toArray, 0, body76, dest⟩ := rfl
theorem resultTys_76 : f76.resultTys = [19, 32] := rfl
theorem funcIdx_76 : prog.funcIdx? (nm! "(*field.Element).SetWideBytes") = some 76 := by decide +kernel
theorem jumpTo_76_2 (regs params : Array RVal) (rest : List Instr) (dest : Option Nat) :
    jumpTo prog ⟨76, f76, regs, params, 0, rest, dest⟩ 2 = some ⟨76, f76, regs, params, 2, blk76_2, dest⟩ := rfl

/-- the 64 cells of the input block -/
def cells64 (x : Nat → Nat) : Array Val := #[.int (x 0), .int (x 1), .int (x 2), .int (x 3), .int (x 4), .int (x 5), .int (x 6), .int (x 7), .int (x 8), .int (x 9), .int (x 10), .int (x 11), .int (x 12), .int (x 13), .int (x 14), .int (x 15), .int (x 16), .int (x 17), .int (x 18), .int (x 19), .int (x 20), .int (x 21), .int (x 22), .int (x 23), .int (x 24), .int (x 25), .int (x 26), .int (x 27), .int (x 28), .int (x 29), .int (x 30), .int (x 31), .int (x 32), .int (x 33), .int (x 34), .int (x 35), .int (x 36), .int (x 37), .int (x 38), .int (x 39), .int (x 40), .int (x 41), .int (x 42), .int (x 43), .int (x 44), .int (x 45), .int (x 46), .int (x 47), .int (x 48), .int (x 49), .int (x 50), .int (x 51), .int (x 52), .int (x 53), .int (x 54), .int (x 55), .int (x 56), .int (x 57), .int (x 58), .int (x 59), .int (x 60), .int (x 61), .int (x 62), .int (x 63)]

theorem core_SetWideBytes (h0 : Heap) (ovr) (bv bx : Nat) (v0 v1 v2 v3 v4 : Nat) (x : Nat → Nat)
    (hbv : bv < h0.blocks.size) (hbx : bx < h0.blocks.size) (h16 : 16 < h0.blocks.size) (hvx : bv ≠ bx)
    (h31 : x 31 < 2 ^ 64) (h63 : x 63 < 2 ^ 64) :
    ∃ ext, run prog 243 ⟨mkH h0 ((bv, #[.int v0, .int v1, .int v2, .int v3, .int v4]) :: (bx, cells64 x) :: ovr) [],
        [⟨76, f76, #[], #[[.ptr bv 0], [.slice bx 0 64 64]], 0, body76, none⟩]⟩
      = .done ⟨mkH h0 ((bv, feCells (EdVerif.Gen.Field.SetWideBytes ⟨v0, v1, v2, v3, v4⟩ (bytes64 x))) :: (bx, cells64 x) :: ovr) ext, []⟩
          [[.ptr bv 0], [.nil]] := by
  apply Exists.intro
  simp only [body76, cells64]
  ssa_exec [resultTys_76, resultTys_75, step_if, step_slice, step_indexAddr, stepIndexAddr, checkIndex_lit, ifK, jumpTo_75_2, blk75_2, jumpTo_76_2, blk76_2,
    body75, funcs_75, mkFrame_75, tyOf_49, span49_0, span49_1, zeros_15,
    builtin_len, extern_leUint64, leK_some, stepSlice,
    tyOf_16, size_15, zeros_12, cls0, evalBound_cint, evalBound_none, read_zero, evalOpnd_nil_iface, bytesToNat,
    bne_self_eq_false, Option.isSome_some, Option.isSome_none, Nat.reduceLeDiff, decide_true, decide_false, Bool.and_true, Bool.true_and,
    Bool.and_self, Nat.zero_le, Nat.le_refl, and_eq, shr_eq, add_eq, mul_eq,
    funcs_83, mkFrame_83, ↓run_carryPropagate,
    read_hit, read_miss, write_hit, hbv, hbx, h16, hvx, hvx.symm, ne_eq, not_false_eq_true]
  have w31 : wrap 64 (U.shr 64 (x 31) 7) = U.shr 64 (x 31) 7 := by
    rw [U.shr]; apply wrap64_of_lt; exact Nat.lt_of_le_of_lt (Nat.shiftRight_le _ _) h31
  have w63 : wrap 64 (U.shr 64 (x 63) 7) = U.shr 64 (x 63) 7 := by
    rw [U.shr]; apply wrap64_of_lt; exact Nat.lt_of_le_of_lt (Nat.shiftRight_le _ _) h63
  rw [w31, w63]
  simp only [le_bridge]
  simp only [feCells, EdVerif.Gen.Field.SetWideBytes, EdVerif.Gen.Field.SetBytes, Bin.le64, shr8_eq, bytes64_size]
  simp only [Nat.reduceAdd, Nat.reduceLT, Nat.reduceLeDiff, Nat.le_refl, bytes64_slice_get, bytes64_get, cp]
  rfl


/-- **tie**: `v.SetWideBytes(x)` for a 64-byte slice `x` = the whole of block `bx` (offset 0, length and capacity 64) holding the
    bytes `x 0 … x 63` (`cells64 x`); block 16 (the package variable `binary.LittleEndian`) must exist.  Returns `(v, nil)`; block `bv`
    then holds the limbs of T1's `SetWideBytes v (bytes64 x)`; no other block of `h` changes (two temporaries are allocated).
    Only the two bytes whose top bit is extracted need a bound (`< 2^64`; they are `< 256` in Go). -/
theorem tie_SetWideBytes (h : Heap) (bv bx : Nat) (v : Fe) (x : Nat → Nat)
    (hv : h.blocks[bv]? = some (feCells v)) (hx : h.blocks[bx]? = some (cells64 x)) (h16 : 16 < h.blocks.size)
    (h31 : x 31 < 2 ^ 64) (h63 : x 63 < 2 ^ 64) :
    ∃ h', runCall prog 243 h (nm! "(*field.Element).SetWideBytes") [[.ptr bv 0], [.slice bx 0 64 64]]
            = some (.done ⟨h', []⟩ [[.ptr bv 0], [.nil]])
      ∧ Post1 h h' bv (feCells (EdVerif.Gen.Field.SetWideBytes v (bytes64 x))) := by
  obtain ⟨v0, v1, v2, v3, v4⟩ := v
  have hvx : bv ≠ bx := ne_of_cells hv hx (by
    intro e
    have := congrArg Array.size e
    simp [feCells, cells64] at this)
  obtain ⟨ext, core⟩ := core_SetWideBytes h [] bv bx v0 v1 v2 v3 v4 x (lt_of_get hv) (lt_of_get hx) h16 hvx h31 h63
  have hall : ∀ kv ∈ [(bx, cells64 x)], h.blocks[kv.1]? = some kv.2 := by simp [hx]
  rw [show mkH h [(bv, #[.int v0, .int v1, .int v2, .int v3, .int v4]), (bx, cells64 x)] [] = h from
      mkH_intro h _ (by simpa [feCells] using ⟨hv, hx⟩)] at core
  refine ⟨_, ?_, post1_mkH _ ext (lt_of_get hv) hall⟩
  simp only [runCall, funcIdx_76, callState, funcs_76, mkFrame_76, Option.bind_some, Option.map_some, Option.pure_def,
    Option.bind_eq_bind]
  rw [core]

end EdVerif.Ssa.Tie
