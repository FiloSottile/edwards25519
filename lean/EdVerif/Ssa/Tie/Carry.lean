import EdVerif.Ssa.Tie.Small
/-!
# `(*field.Element).carryPropagateGeneric` and `(*field.Element).carryPropagate`
-/
namespace EdVerif.Ssa.Tie
open EdVerif.Ssa EdVerif.Gen.Ssa EdVerif.Prims
set_option maxRecDepth 100000

/-- the five cells of an `Element` -/
def feCells (v : Fe) : Array Val := #[.int v.l0, .int v.l1, .int v.l2, .int v.l3, .int v.l4]

theorem feCells_inj {v a : Fe} (h : feCells v = feCells a) : v = a := by
  obtain ⟨v0, v1, v2, v3, v4⟩ := v
  obtain ⟨a0, a1, a2, a3, a4⟩ := a
  simp only [feCells, Array.mk.injEq, List.cons.injEq, Val.int.injEq, and_true] at h
  obtain ⟨h0, h1, h2, h3, h4⟩ := h
  subst h0 h1 h2 h3 h4; rfl

/-- if every override restates the original contents, the blocks of `h` are unchanged -/
theorem mkH_get_orig (h : Heap) (ext) : ∀ (ovr : List (Nat × Array Val)), (∀ kv ∈ ovr, h.blocks[kv.1]? = some kv.2) →
    ∀ c, c < h.blocks.size → (mkH h ovr ext).blocks[c]? = h.blocks[c]? := by
  intro ovr
  induction ovr with
  | nil => intro _ c hc; exact mkH_get_nil h c ext hc
  | cons kv r ih =>
    intro hall c hc
    obtain ⟨b, V⟩ := kv
    by_cases e : c = b
    · subst e
      rw [mkH_get_hit h c V r ext hc]
      exact (hall (c, V) List.mem_cons_self).symm
    · rw [mkH_get_miss h b c V r ext e]
      exact ih (fun x hx => hall x (List.mem_cons_of_mem _ hx)) c hc

/-- `h'` is `h` with block `b` replaced by `V'`, possibly followed by freshly allocated blocks;
    every other block of `h` is unchanged -/
def Post1 (h h' : Heap) (b : Nat) (V' : Array Val) : Prop :=
  h.blocks.size ≤ h'.blocks.size ∧ h'.blocks[b]? = some V' ∧ ∀ c, c < h.blocks.size → c ≠ b → h'.blocks[c]? = h.blocks[c]?

/-- the same with two replaced blocks -/
def Post2 (h h' : Heap) (b1 : Nat) (V1 : Array Val) (b2 : Nat) (V2 : Array Val) : Prop :=
  h.blocks.size ≤ h'.blocks.size ∧ h'.blocks[b1]? = some V1 ∧ h'.blocks[b2]? = some V2 ∧
    ∀ c, c < h.blocks.size → c ≠ b1 → c ≠ b2 → h'.blocks[c]? = h.blocks[c]?

/-- no block of `h` changed (the heap may have grown) -/
def Post0 (h h' : Heap) : Prop :=
  h.blocks.size ≤ h'.blocks.size ∧ ∀ c, c < h.blocks.size → h'.blocks[c]? = h.blocks[c]?

theorem post0_mkH (h : Heap) (ext) : Post0 h (mkH h [] ext) :=
  ⟨by simp [mkH_size], fun c hc => mkH_get_nil h c ext hc⟩

theorem post1_mkH {h : Heap} {b : Nat} (V' : Array Val) {ovr : List (Nat × Array Val)} (ext)
    (hb : b < h.blocks.size) (hall : ∀ kv ∈ ovr, h.blocks[kv.1]? = some kv.2) :
    Post1 h (mkH h ((b, V') :: ovr) ext) b V' := by
  refine ⟨by simp [mkH_size], mkH_get_hit h b V' ovr ext hb, ?_⟩
  intro c hc hne
  rw [mkH_get_miss h b c V' ovr ext hne]
  exact mkH_get_orig h ext ovr hall c hc

theorem post1_base {h : Heap} {b : Nat} (V' : Array Val) (ext) (hb : b < h.blocks.size) :
    Post1 h (mkH h [(b, V')] ext) b V' :=
  post1_mkH V' ext hb (by simp)

theorem post2_mkH {h : Heap} {b1 b2 : Nat} (V1 V2 : Array Val) {ovr : List (Nat × Array Val)} (ext)
    (hb1 : b1 < h.blocks.size) (hb2 : b2 < h.blocks.size) (hne : b1 ≠ b2) (hall : ∀ kv ∈ ovr, h.blocks[kv.1]? = some kv.2) :
    Post2 h (mkH h ((b1, V1) :: (b2, V2) :: ovr) ext) b1 V1 b2 V2 := by
  refine ⟨by simp [mkH_size], mkH_get_hit h b1 V1 _ ext hb1, ?_, ?_⟩
  · rw [mkH_get_miss h b1 b2 V1 _ ext (Ne.symm hne)]; exact mkH_get_hit h b2 V2 ovr ext hb2
  · intro c hc h1 h2
    rw [mkH_get_miss h b1 c V1 _ ext h1, mkH_get_miss h b2 c V2 ovr ext h2]
    exact mkH_get_orig h ext ovr hall c hc

/-! ## `carryPropagateGeneric` -/

def body84 : List Instr := body% f84
theorem funcs_84 : prog.funcs[84]? = some f84 := rfl
theorem mkFrame_84 (args : List RVal) (dest : Option Nat) :
    mkFrame 84 f84 args dest = some ⟨84, f84, #[], args.toArray, 0, body84, dest⟩ := rfl
theorem resultTys_84 : f84.resultTys = [19] := rfl
theorem funcIdx_84 : prog.funcIdx? (nm! "(*field.Element).carryPropagateGeneric") = some 84 := by decide +kernel

abbrev cpg (v0 v1 v2 v3 v4 : Nat) : Fe := EdVerif.Gen.Field.carryPropagateGeneric ⟨v0, v1, v2, v3, v4⟩

theorem call_carryPropagateGeneric (h0 : Heap) (ovr ext) (bv : Nat) (v0 v1 v2 v3 v4 : Nat) (hbv : bv < h0.blocks.size) (d : Nat)
    (cfi : Nat) (cf : Func) (cregs cparams : Array RVal) (cblk : Nat) (crest : List Instr) (cdest : Option Nat) (frs : List Frame) :
    steps prog 47 ⟨mkH h0 ((bv, #[.int v0, .int v1, .int v2, .int v3, .int v4]) :: ovr) ext,
        ⟨84, f84, #[], #[[.ptr bv 0]], 0, body84, some d⟩ :: ⟨cfi, cf, cregs, cparams, cblk, crest, cdest⟩ :: frs⟩
      = some ⟨mkH h0 ((bv, #[.int (cpg v0 v1 v2 v3 v4).l0, .int (cpg v0 v1 v2 v3 v4).l1, .int (cpg v0 v1 v2 v3 v4).l2,
                              .int (cpg v0 v1 v2 v3 v4).l3, .int (cpg v0 v1 v2 v3 v4).l4]) :: ovr) ext,
          ⟨cfi, cf, regSet cregs d [.ptr bv 0], cparams, cblk, crest, cdest⟩ :: frs⟩ := by
  simp only [body84]
  ssa_exec [resultTys_84, read_hit, write_hit, hbv]
  rfl

derive_rules call_carryPropagateGeneric run_carryPropagateGeneric steps_carryPropagateGeneric

/-- the run of `carryPropagateGeneric` as the outermost call, on a canonical heap -/
theorem core_carryPropagateGeneric (h0 : Heap) (ovr ext) (bv : Nat) (v0 v1 v2 v3 v4 : Nat) (hbv : bv < h0.blocks.size) :
    run prog 47 ⟨mkH h0 ((bv, #[.int v0, .int v1, .int v2, .int v3, .int v4]) :: ovr) ext,
        [⟨84, f84, #[], #[[.ptr bv 0]], 0, body84, none⟩]⟩
      = .done ⟨mkH h0 ((bv, #[.int (cpg v0 v1 v2 v3 v4).l0, .int (cpg v0 v1 v2 v3 v4).l1, .int (cpg v0 v1 v2 v3 v4).l2,
                              .int (cpg v0 v1 v2 v3 v4).l3, .int (cpg v0 v1 v2 v3 v4).l4]) :: ovr) ext, []⟩ [[.ptr bv 0]] := by
  simp only [body84]
  ssa_exec [resultTys_84, read_hit, write_hit, hbv]
  rfl

/-- **tie**: `v.carryPropagateGeneric()` on any heap in which block `bv` holds the limbs of `v`: returns `v`, block `bv`
    then holds the limbs of T1's `carryPropagateGeneric v`, no other block changes. -/
theorem tie_carryPropagateGeneric (h : Heap) (bv : Nat) (v : Fe) (hv : h.blocks[bv]? = some (feCells v)) :
    ∃ h', runCall prog 47 h (nm! "(*field.Element).carryPropagateGeneric") [[.ptr bv 0]] = some (.done ⟨h', []⟩ [[.ptr bv 0]])
      ∧ h'.blocks[bv]? = some (feCells (EdVerif.Gen.Field.carryPropagateGeneric v))
      ∧ h'.blocks.size = h.blocks.size
      ∧ ∀ c, c ≠ bv → h'.blocks[c]? = h.blocks[c]? := by
  have hbv : bv < h.blocks.size := lt_of_get hv
  obtain ⟨v0, v1, v2, v3, v4⟩ := v
  have core := core_carryPropagateGeneric h [] [] bv v0 v1 v2 v3 v4 hbv
  rw [mkH_intro h [(bv, _)] (by simpa [feCells] using hv)] at core
  refine ⟨mkH h [(bv, feCells (cpg v0 v1 v2 v3 v4))] [], ?_, ?_, ?_, ?_⟩
  · simp only [runCall, funcIdx_84, callState, funcs_84, mkFrame_84, Option.bind_some, Option.map_some, Option.pure_def,
      Option.bind_eq_bind]
    rw [core]; rfl
  · rw [mkH_get_hit h bv _ [] [] hbv]
  · simp [mkH_size]
  · intro c hc
    rw [mkH_get_miss h bv c _ [] [] hc]
    simp [mkH, base]


/-! ## `carryPropagate` (the wrapper that the assembly build replaces) -/

def body83 : List Instr := body% f83
theorem funcs_83 : prog.funcs[83]? = some f83 := rfl
theorem mkFrame_83 (args : List RVal) (dest : Option Nat) :
    mkFrame 83 f83 args dest = some ⟨83, f83, #[], args.toArray, 0, body83, dest⟩ := rfl
theorem resultTys_83 : f83.resultTys = [19] := rfl
theorem funcIdx_83 : prog.funcIdx? (nm! "(*field.Element).carryPropagate") = some 83 := by decide +kernel

abbrev cp (v0 v1 v2 v3 v4 : Nat) : Fe := EdVerif.Gen.Field.carryPropagate ⟨v0, v1, v2, v3, v4⟩

theorem call_carryPropagate (h0 : Heap) (ovr ext) (bv : Nat) (v0 v1 v2 v3 v4 : Nat) (hbv : bv < h0.blocks.size) (d : Nat)
    (cfi : Nat) (cf : Func) (cregs cparams : Array RVal) (cblk : Nat) (crest : List Instr) (cdest : Option Nat) (frs : List Frame) :
    steps prog 49 ⟨mkH h0 ((bv, #[.int v0, .int v1, .int v2, .int v3, .int v4]) :: ovr) ext,
        ⟨83, f83, #[], #[[.ptr bv 0]], 0, body83, some d⟩ :: ⟨cfi, cf, cregs, cparams, cblk, crest, cdest⟩ :: frs⟩
      = some ⟨mkH h0 ((bv, #[.int (cp v0 v1 v2 v3 v4).l0, .int (cp v0 v1 v2 v3 v4).l1, .int (cp v0 v1 v2 v3 v4).l2,
                              .int (cp v0 v1 v2 v3 v4).l3, .int (cp v0 v1 v2 v3 v4).l4]) :: ovr) ext,
          ⟨cfi, cf, regSet cregs d [.ptr bv 0], cparams, cblk, crest, cdest⟩ :: frs⟩ := by
  simp only [body83]
  ssa_exec [resultTys_83, funcs_84, mkFrame_84, ↓steps_carryPropagateGeneric, hbv]
  rfl

derive_rules call_carryPropagate run_carryPropagate steps_carryPropagate

theorem core_carryPropagate (h0 : Heap) (ovr ext) (bv : Nat) (v0 v1 v2 v3 v4 : Nat) (hbv : bv < h0.blocks.size) :
    run prog 49 ⟨mkH h0 ((bv, #[.int v0, .int v1, .int v2, .int v3, .int v4]) :: ovr) ext,
        [⟨83, f83, #[], #[[.ptr bv 0]], 0, body83, none⟩]⟩
      = .done ⟨mkH h0 ((bv, feCells (cp v0 v1 v2 v3 v4)) :: ovr) ext, []⟩ [[.ptr bv 0]] := by
  simp only [body83]
  ssa_exec [resultTys_83, funcs_84, mkFrame_84, ↓run_carryPropagateGeneric, hbv]
  rfl

/-- **tie**: `v.carryPropagate()` -/
theorem tie_carryPropagate (h : Heap) (bv : Nat) (v : Fe) (hv : h.blocks[bv]? = some (feCells v)) :
    ∃ h', runCall prog 49 h (nm! "(*field.Element).carryPropagate") [[.ptr bv 0]] = some (.done ⟨h', []⟩ [[.ptr bv 0]])
      ∧ Post1 h h' bv (feCells (EdVerif.Gen.Field.carryPropagate v)) := by
  have hbv : bv < h.blocks.size := lt_of_get hv
  obtain ⟨v0, v1, v2, v3, v4⟩ := v
  have core := core_carryPropagate h [] [] bv v0 v1 v2 v3 v4 hbv
  rw [mkH_intro h [(bv, _)] (by simpa [feCells] using hv)] at core
  refine ⟨_, ?_, post1_mkH (ovr := []) _ [] hbv (by simp)⟩
  simp only [runCall, funcIdx_83, callState, funcs_83, mkFrame_83, Option.bind_some, Option.map_some, Option.pure_def,
    Option.bind_eq_bind]
  rw [core]

end EdVerif.Ssa.Tie
