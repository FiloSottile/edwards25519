import EdVerif.Ssa.Sem
/-!
# Symbolic heaps for the `tie_*` theorems

`mkH h0 ovr ext` is the canonical form of every heap met while a kernel runs on an arbitrary heap `h0`:
the blocks listed in `ovr` (the operands of the kernel) are replaced, and the blocks allocated by the
run (`ext`) are appended.  `Heap.read`, `Heap.write`, `Heap.alloc` on this form are computed by the
rewrite lemmas below (side conditions: the operand blocks are in range and pairwise distinct).
-/
namespace EdVerif.Ssa.Tie
open EdVerif.Ssa

/-! ## `k` continuing steps -/

def steps (p : Program) : Nat → State → Option State
  | 0, s => some s
  | k + 1, s =>
    match step p s with
    | .cont s' _ => steps p k s'
    | _ => none

theorem run_of_steps {p : Program} : ∀ (k : Nat) {s s' : State} (n : Nat),
    steps p k s = some s' → run p (k + n) s = run p n s' := by
  intro k
  induction k with
  | zero => intro s s' n h; simp only [steps, Option.some.injEq] at h; subst h; simp
  | succ k ih =>
    intro s s' n h
    have e : k + 1 + n = (k + n) + 1 := by omega
    rw [e, run]
    simp only [steps] at h
    cases hs : step p s with
    | cont s1 ev => rw [hs] at h; simp only at h ⊢; exact ih n h
    | done s1 r ev => rw [hs] at h; simp at h
    | panic s1 c ev => rw [hs] at h; simp at h
    | fault w => rw [hs] at h; simp at h

theorem steps_add {p : Program} : ∀ (a b : Nat) (s : State),
    steps p (a + b) s = (steps p a s).bind (steps p b) := by
  intro a
  induction a with
  | zero => intro b s; simp [steps]
  | succ a ih =>
    intro b s
    have e : a + 1 + b = (a + b) + 1 := by omega
    rw [e]
    simp only [steps]
    cases step p s with
    | cont s1 ev => simp only; exact ih b s1
    | done s1 r ev => simp
    | panic s1 c ev => simp
    | fault w => simp

theorem steps_trans {p : Program} {a b : Nat} {s s1 s2 : State}
    (h1 : steps p a s = some s1) (h2 : steps p b s1 = some s2) : steps p (a + b) s = some s2 := by
  rw [steps_add, h1]; exact h2

/-! ## the canonical heap -/

def base (h0 : Heap) : List (Nat × Array Val) → Array (Array Val)
  | [] => h0.blocks
  | kv :: r => (base h0 r).setIfInBounds kv.1 kv.2

def mkH (h0 : Heap) (ovr : List (Nat × Array Val)) (ext : List (Array Val)) : Heap :=
  ⟨base h0 ovr ++ ext.toArray⟩

@[simp] theorem base_size (h0 : Heap) : ∀ ovr, (base h0 ovr).size = h0.blocks.size
  | [] => rfl
  | kv :: r => by simp [base, base_size h0 r]

theorem lt_of_get {α} {a : Array α} {i : Nat} {x : α} (h : a[i]? = some x) : i < a.size := by
  apply Classical.byContradiction; intro hn
  rw [Array.getElem?_eq_none (by omega)] at h; cases h

theorem setIfInBounds_same {α} {a : Array α} {i : Nat} {v : α} (h : a[i]? = some v) : a.setIfInBounds i v = a := by
  apply Array.ext_getElem?
  intro j
  rw [Array.getElem?_setIfInBounds]
  by_cases e : i = j
  · subst e
    have : i < a.size := by
      apply Classical.byContradiction; intro hn
      rw [Array.getElem?_eq_none (by omega)] at h; cases h
    rw [h]; simp [this]
  · simp [e]

theorem setIfInBounds_comm' {α} (a : Array α) {i j : Nat} (x y : α) (h : i ≠ j) :
    (a.setIfInBounds i x).setIfInBounds j y = (a.setIfInBounds j y).setIfInBounds i x := by
  apply Array.ext_getElem?
  intro k
  simp only [Array.getElem?_setIfInBounds, Array.size_setIfInBounds]
  by_cases e1 : j = k <;> by_cases e2 : i = k <;> simp [e1, e2]
  · omega

theorem mkH_intro (h : Heap) : ∀ (ovr : List (Nat × Array Val)), (∀ kv ∈ ovr, h.blocks[kv.1]? = some kv.2) → mkH h ovr [] = h := by
  intro ovr hall
  have hb : base h ovr = h.blocks := by
    induction ovr with
    | nil => rfl
    | cons kv r ih =>
      simp only [base]
      rw [ih (fun x hx => hall x (List.mem_cons_of_mem _ hx))]
      exact setIfInBounds_same (hall kv (List.mem_cons_self))
  simp [mkH, hb]

theorem mkH_swap (h0 : Heap) (b0 b1 : Nat) (V0 V1 : Array Val) (r : List (Nat × Array Val)) (ext : List (Array Val))
    (hne : b0 ≠ b1) : mkH h0 ((b0, V0) :: (b1, V1) :: r) ext = mkH h0 ((b1, V1) :: (b0, V0) :: r) ext := by
  simp only [mkH, base]
  rw [setIfInBounds_comm' _ _ _ (Ne.symm hne)]

/-! ### lookups -/

theorem mkH_get_ext (h0 : Heap) (ovr ext) (k : Nat) : (mkH h0 ovr ext).blocks[h0.blocks.size + k]? = ext[k]? := by
  simp only [mkH]
  rw [Array.getElem?_append_right (by simp)]
  simp

theorem mkH_get_hit (h0 : Heap) (b : Nat) (V : Array Val) (ovr ext) (hb : b < h0.blocks.size) :
    (mkH h0 ((b, V) :: ovr) ext).blocks[b]? = some V := by
  simp only [mkH, base]
  rw [Array.getElem?_append_left (by simp [hb])]
  simp [hb]

theorem mkH_get_miss (h0 : Heap) (b c : Nat) (V : Array Val) (ovr ext) (hne : c ≠ b) :
    (mkH h0 ((b, V) :: ovr) ext).blocks[c]? = (mkH h0 ovr ext).blocks[c]? := by
  simp only [mkH, base]
  by_cases hc : c < h0.blocks.size
  · rw [Array.getElem?_append_left (by simp [hc]), Array.getElem?_append_left (by simp [hc])]
    simp [Ne.symm hne]
  · rw [Array.getElem?_append_right (by simp; omega), Array.getElem?_append_right (by simp; omega)]
    simp

theorem mkH_get_nil (h0 : Heap) (c : Nat) (ext) (hc : c < h0.blocks.size) :
    (mkH h0 [] ext).blocks[c]? = h0.blocks[c]? := by
  simp only [mkH, base]
  rw [Array.getElem?_append_left hc]

theorem mkH_size (h0 : Heap) (ovr ext) : (mkH h0 ovr ext).blocks.size = h0.blocks.size + ext.length := by
  simp [mkH]

/-! ### `read` -/

theorem read_ext (h0 : Heap) (ovr ext) (k o n : Nat) :
    (mkH h0 ovr ext).read (h0.blocks.size + k) o n = (ext[k]?).bind (fun blk => readCells blk o n) := by
  simp only [Heap.read, mkH_get_ext]
  cases ext[k]? <;> rfl

theorem read_hit (h0 : Heap) (b : Nat) (V : Array Val) (ovr ext) (o n : Nat) (hb : b < h0.blocks.size) :
    (mkH h0 ((b, V) :: ovr) ext).read b o n = readCells V o n := by
  simp only [Heap.read, mkH_get_hit h0 b V ovr ext hb]; rfl

theorem read_miss (h0 : Heap) (b c : Nat) (V : Array Val) (ovr ext) (o n : Nat) (hne : c ≠ b) :
    (mkH h0 ((b, V) :: ovr) ext).read c o n = (mkH h0 ovr ext).read c o n := by
  simp only [Heap.read, mkH_get_miss h0 b c V ovr ext hne]

/-- a block of `h0` that no override mentions, whatever the run has allocated since -/
theorem read_base (h0 : Heap) (ext) (b o n : Nat) (hb : b < h0.blocks.size) :
    (mkH h0 [] ext).read b o n = (h0.blocks[b]?).bind (fun V => readCells V o n) := by
  simp only [Heap.read, mkH_get_nil h0 b ext hb]
  cases h0.blocks[b]? <;> rfl

/-! ### `write` -/

theorem write_of_get {h : Heap} {b o : Nat} {vs : List Val} {blk : Array Val} (hg : h.blocks[b]? = some blk) :
    h.write b o vs = (writeCells blk o vs).map (fun blk' => ⟨h.blocks.setIfInBounds b blk'⟩) := by
  simp only [Heap.write, hg]
  cases writeCells blk o vs with
  | none => rfl
  | some b' => simp [Array.setIfInBounds_setIfInBounds]

theorem write_ext (h0 : Heap) (ovr ext) (k o : Nat) (vs : List Val) :
    (mkH h0 ovr ext).write (h0.blocks.size + k) o vs
      = (ext[k]?).bind (fun blk => (writeCells blk o vs).map (fun blk' => mkH h0 ovr (ext.set k blk'))) := by
  cases hk : ext[k]? with
  | none =>
    simp only [Heap.write, mkH_get_ext, hk]; rfl
  | some blk =>
    rw [write_of_get (by rw [mkH_get_ext]; exact hk)]
    simp only [Option.bind_some]
    congr 1
    funext blk'
    simp only [mkH]
    rw [Array.setIfInBounds_append_right (by simp)]
    simp

theorem write_hit (h0 : Heap) (b : Nat) (V : Array Val) (ovr ext) (o : Nat) (vs : List Val) (hb : b < h0.blocks.size) :
    (mkH h0 ((b, V) :: ovr) ext).write b o vs = (writeCells V o vs).map (fun V' => mkH h0 ((b, V') :: ovr) ext) := by
  rw [write_of_get (mkH_get_hit h0 b V ovr ext hb)]
  congr 1
  funext V'
  simp only [mkH, base]
  rw [Array.setIfInBounds_append_left (by simp [hb]), Array.setIfInBounds_setIfInBounds]

theorem write_hit1 (h0 : Heap) (b0 b : Nat) (V0 V : Array Val) (ovr ext) (o : Nat) (vs : List Val)
    (hne : b ≠ b0) (hb : b < h0.blocks.size) :
    (mkH h0 ((b0, V0) :: (b, V) :: ovr) ext).write b o vs
      = (writeCells V o vs).map (fun V' => mkH h0 ((b0, V0) :: (b, V') :: ovr) ext) := by
  rw [mkH_swap h0 b0 b V0 V ovr ext (Ne.symm hne), write_hit h0 b V _ ext o vs hb]
  congr 1
  funext V'
  exact mkH_swap h0 b b0 V' V0 ovr ext hne

theorem write_hit2 (h0 : Heap) (b0 b1 b : Nat) (V0 V1 V : Array Val) (ovr ext) (o : Nat) (vs : List Val)
    (hne0 : b ≠ b0) (hne1 : b ≠ b1) (hb : b < h0.blocks.size) :
    (mkH h0 ((b0, V0) :: (b1, V1) :: (b, V) :: ovr) ext).write b o vs
      = (writeCells V o vs).map (fun V' => mkH h0 ((b0, V0) :: (b1, V1) :: (b, V') :: ovr) ext) := by
  have sw : ∀ W, mkH h0 ((b0, V0) :: (b1, V1) :: (b, W) :: ovr) ext = mkH h0 ((b, W) :: (b0, V0) :: (b1, V1) :: ovr) ext := by
    intro W
    have e1 : mkH h0 ((b0, V0) :: (b1, V1) :: (b, W) :: ovr) ext = mkH h0 ((b0, V0) :: (b, W) :: (b1, V1) :: ovr) ext := by
      simp only [mkH, base]
      rw [setIfInBounds_comm' _ _ _ hne1]
    rw [e1, mkH_swap h0 b0 b V0 W _ ext (Ne.symm hne0)]
  rw [sw V, write_hit h0 b V _ ext o vs hb]
  congr 1
  funext V'
  exact (sw V').symm

/-- the first store into a block of `h0`: from here on the block is an override -/
theorem write_base (h0 : Heap) (ext) (b o : Nat) (vs : List Val) (hb : b < h0.blocks.size) :
    (mkH h0 [] ext).write b o vs
      = (h0.blocks[b]?).bind (fun V => (writeCells V o vs).map (fun V' => mkH h0 [(b, V')] ext)) := by
  cases hg : h0.blocks[b]? with
  | none => simp [Heap.write, mkH_get_nil h0 b ext hb, hg]
  | some V =>
    rw [write_of_get (by rw [mkH_get_nil h0 b ext hb]; exact hg)]
    simp only [Option.bind_some]
    congr 1
    funext V'
    simp only [mkH, base]
    rw [Array.setIfInBounds_append_left (by simp [hb])]

/-! ### `alloc` -/

theorem alloc_mkH (h0 : Heap) (ovr ext) (vs : List Val) :
    (mkH h0 ovr ext).alloc vs = (mkH h0 ovr (ext ++ [vs.toArray]), h0.blocks.size + ext.length) := by
  simp only [Heap.alloc, mkH]
  rw [← Array.append_push, List.push_toArray]
  simp

/-! ### a canonical heap over a canonical heap -/

theorem mkH_nil (h0 : Heap) : mkH h0 [] [] = h0 := by simp [mkH, base]

/-- overriding again the head block of a canonical heap that has not allocated yet -/
theorem mkH_over_hit (h0 : Heap) (b : Nat) (V R : Array Val) (ovr ext) :
    mkH (mkH h0 ((b, V) :: ovr) []) [(b, R)] ext = mkH h0 ((b, R) :: ovr) ext := by
  simp [mkH, base, Array.setIfInBounds_setIfInBounds]

end EdVerif.Ssa.Tie
