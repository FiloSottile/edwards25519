import EdVerif.Ssa.Tie.AbsE
/-!
# Running a kernel on an arbitrary heap, operands in element slots

A kernel is stepped through once, on `mkE H [] []` (= `H`), with nothing known about which operand slots coincide beyond `Compat`
(any two are the same slot or disjoint).  Loads from the original heap are `readE_base`; the first store to the receiver makes its
slot the one entry of the canonical heap (`writeE_base`); a later load of limb `k` of an operand goes past that entry
(`readE_over`), because every kernel stores limb `k` of the receiver only after it has loaded limb `k` of its operands: if the
operand *is* the receiver the entry still holds the original limb, otherwise the entry is elsewhere.
-/
namespace EdVerif.Ssa.Tie
open EdVerif.Ssa EdVerif.Prims

variable (H : Heap) (ext : List (Array Val))

theorem cell_mkE_nil {b : Nat} (hb : b < H.blocks.size) (i : Nat) : cell (mkE H [] ext) b i = cell H b i :=
  mkE_cell_lt H [] ext b i hb

theorem readE_base {b o : Nat} (hk : OkE H b o) (k : Nat) (h5 : k < 5) :
    (mkE H [] ext).read b (o + k) 1 = ((feL (getE H b o))[k]?).map (fun v => [v]) := by
  rw [read_cell1, cell_mkE_nil H ext hk.1.1, okE_cell hk k h5]

theorem readE_over {bv ov b o : Nat} {W : List Val} (hc : Compat bv ov b o) (hkv : OkE H bv ov) (hk : OkE H b o)
    (k : Nat) (h5 : k < 5) (hW : W.length = 5) (hWk : W[k]? = (feL (getE H bv ov))[k]?) :
    (mkE H [(bv, ov, W)] ext).read b (o + k) 1 = ((feL (getE H b o))[k]?).map (fun v => [v]) := by
  rw [read_cell1]
  rcases hc with ⟨rfl, rfl⟩ | hs
  · rw [mkE_cell_hit H bv ov W [] ext k (by rw [hW]; exact hkv.1) (by omega), hWk]
  · rw [mkE_cell_miss H bv ov W [] ext b (o + k) (by rw [hW]; unfold SepE at hs; omega), cell_mkE_nil H ext hk.1.1,
      okE_cell hk k h5]


/-- an entry that restates what the slot holds changes nothing -/
theorem mkE_restate1 {b o : Nat} (hk : OkE H b o) : mkE H [] ext = mkE H [(b, o, feL (getE H b o))] ext := by
  rw [mkE_eq, mkE_eq]; simp only [baseE]
  rw [ovE_self _ _ _ _ (fun j hj _ => okE_cell hk j hj)]

theorem readE_base5 {b o : Nat} (hk : OkE H b o) : (mkE H [] ext).read b o 5 = some (feL (getE H b o)) := by
  rw [mkE_restate1 H ext hk]; exact readE_hit5 H b o _ _ _ _ _ [] ext hk.1

theorem okE_base {b o : Nat} (hk : OkE H b o) : OkE (mkE H [] ext) b o = True := by
  rw [mkE_restate1 H ext hk]; exact okE_hit H b o _ [] ext hk.1

theorem getE_base {b o : Nat} (hk : OkE H b o) : getE (mkE H [] ext) b o = getE H b o := by
  rw [mkE_restate1 H ext hk]; exact getE_hit H b o _ [] ext hk.1

theorem writeE_base {b o : Nat} (hk : OkE H b o) (k x : Nat) (h5 : k < 5) :
    (mkE H [] ext).write b (o + k) [.int x] = some (mkE H [(b, o, (feL (getE H b o)).set k (.int x))] ext) := by
  obtain ⟨n, hn⟩ := hk.2 k h5
  rw [mkE_restate1 H ext hk]
  exact write1_mkE H b o [] ext (feL (getE H b o)) k x n hk.1 h5 (by rw [← okE_cell hk k h5, hn])

theorem writeE_base5 {b o : Nat} (hk : OkE H b o) (x0 x1 x2 x3 x4 : Nat) :
    (mkE H [] ext).write b o [.int x0, .int x1, .int x2, .int x3, .int x4]
      = some (mkE H [(b, o, [.int x0, .int x1, .int x2, .int x3, .int x4])] ext) := by
  rw [mkE_restate1 H ext hk]; exact writeE_hit5 H b o _ _ _ _ _ [] ext x0 x1 x2 x3 x4 hk.1

/-! The same, limb by limb, in the shape the stepper meets them (`o + k` with a literal `k`, the entry as a literal list). -/
section limb
variable {bv ov b o : Nat} (hk : OkE H b o) (w0 w1 w2 w3 w4 : Val)
include hk

theorem readE_base_0 : (mkE H [] ext).read b (o + 0) 1 = some [.int (getE H b o).l0] :=
  readE_base H ext hk 0 (by decide)
theorem readE_base_1 : (mkE H [] ext).read b (o + 1) 1 = some [.int (getE H b o).l1] :=
  readE_base H ext hk 1 (by decide)
theorem readE_base_2 : (mkE H [] ext).read b (o + 2) 1 = some [.int (getE H b o).l2] :=
  readE_base H ext hk 2 (by decide)
theorem readE_base_3 : (mkE H [] ext).read b (o + 3) 1 = some [.int (getE H b o).l3] :=
  readE_base H ext hk 3 (by decide)
theorem readE_base_4 : (mkE H [] ext).read b (o + 4) 1 = some [.int (getE H b o).l4] :=
  readE_base H ext hk 4 (by decide)

theorem writeE_base_0 (x : Nat) : (mkE H [] ext).write b (o + 0) [.int x] = some (mkE H [(b, o, [.int x, .int (getE H b o).l1, .int (getE H b o).l2, .int (getE H b o).l3, .int (getE H b o).l4])] ext) :=
  writeE_base H ext hk 0 x (by decide)
theorem writeE_base_1 (x : Nat) : (mkE H [] ext).write b (o + 1) [.int x] = some (mkE H [(b, o, [.int (getE H b o).l0, .int x, .int (getE H b o).l2, .int (getE H b o).l3, .int (getE H b o).l4])] ext) :=
  writeE_base H ext hk 1 x (by decide)
theorem writeE_base_2 (x : Nat) : (mkE H [] ext).write b (o + 2) [.int x] = some (mkE H [(b, o, [.int (getE H b o).l0, .int (getE H b o).l1, .int x, .int (getE H b o).l3, .int (getE H b o).l4])] ext) :=
  writeE_base H ext hk 2 x (by decide)
theorem writeE_base_3 (x : Nat) : (mkE H [] ext).write b (o + 3) [.int x] = some (mkE H [(b, o, [.int (getE H b o).l0, .int (getE H b o).l1, .int (getE H b o).l2, .int x, .int (getE H b o).l4])] ext) :=
  writeE_base H ext hk 3 x (by decide)
theorem writeE_base_4 (x : Nat) : (mkE H [] ext).write b (o + 4) [.int x] = some (mkE H [(b, o, [.int (getE H b o).l0, .int (getE H b o).l1, .int (getE H b o).l2, .int (getE H b o).l3, .int x])] ext) :=
  writeE_base H ext hk 4 x (by decide)

variable (hc : Compat bv ov b o) (hkv : OkE H bv ov)
include hc hkv

theorem readE_over_0 : (mkE H [(bv, ov, [.int (getE H bv ov).l0, w1, w2, w3, w4])] ext).read b (o + 0) 1 = some [.int (getE H b o).l0] :=
  readE_over H ext hc hkv hk 0 (by decide) rfl rfl
theorem readE_over_1 : (mkE H [(bv, ov, [w0, .int (getE H bv ov).l1, w2, w3, w4])] ext).read b (o + 1) 1 = some [.int (getE H b o).l1] :=
  readE_over H ext hc hkv hk 1 (by decide) rfl rfl
theorem readE_over_2 : (mkE H [(bv, ov, [w0, w1, .int (getE H bv ov).l2, w3, w4])] ext).read b (o + 2) 1 = some [.int (getE H b o).l2] :=
  readE_over H ext hc hkv hk 2 (by decide) rfl rfl
theorem readE_over_3 : (mkE H [(bv, ov, [w0, w1, w2, .int (getE H bv ov).l3, w4])] ext).read b (o + 3) 1 = some [.int (getE H b o).l3] :=
  readE_over H ext hc hkv hk 3 (by decide) rfl rfl
theorem readE_over_4 : (mkE H [(bv, ov, [w0, w1, w2, w3, .int (getE H bv ov).l4])] ext).read b (o + 4) 1 = some [.int (getE H b o).l4] :=
  readE_over H ext hc hkv hk 4 (by decide) rfl rfl

end limb

/-! ## a whole five-cell block as the slot at offset 0 -/

theorem cell_of_get {h : Heap} {b : Nat} {V : Array Val} (hb : h.blocks[b]? = some V) (i : Nat) : cell h b i = V[i]? := by
  simp [cell, hb]

theorem fits_of_get {h : Heap} {b : Nat} {V : Array Val} (hb : h.blocks[b]? = some V) (n : Nat) (hn : n ≤ V.size) : Fits h b 0 n := by
  refine ⟨lt_of_get hb, ?_⟩
  simp [blkSize, hb, hn]

theorem get_ovE_same (b o : Nat) (W : List Val) (hp : Heap) : (ovE b o W hp).blocks[b]? = (hp.blocks[b]?).map (fun V => ovl V o W) := by
  simp [ovE, Array.getElem?_modify]

theorem get_ovE_other (b o : Nat) (W : List Val) (hp : Heap) (c : Nat) (hc : c ≠ b) : (ovE b o W hp).blocks[c]? = hp.blocks[c]? := by
  simp [ovE, Array.getElem?_modify, Ne.symm hc]

theorem get_pushB_lt (hp : Heap) (E : List (Array Val)) (c : Nat) (hc : c < hp.blocks.size) : (pushB hp E).blocks[c]? = hp.blocks[c]? := by
  simp only [pushB]; rw [Array.getElem?_append_left hc]

theorem okE_of_feCells {h : Heap} {b : Nat} {x : Fe} (hb : h.blocks[b]? = some (feCells x)) : OkE h b 0 := by
  refine ⟨fits_of_get hb 5 (Nat.le_refl _), ?_⟩
  intro k hk
  rw [cell_of_get hb]
  match k, hk with
  | 0, _ => exact ⟨_, rfl⟩
  | 1, _ => exact ⟨_, rfl⟩
  | 2, _ => exact ⟨_, rfl⟩
  | 3, _ => exact ⟨_, rfl⟩
  | 4, _ => exact ⟨_, rfl⟩

theorem getE_of_feCells {h : Heap} {b : Nat} {x : Fe} (hb : h.blocks[b]? = some (feCells x)) : getE h b 0 = x := by
  simp only [getE, cell_of_get hb]
  cases x; rfl

theorem compat_zero (b c : Nat) : Compat b 0 c 0 := by
  by_cases e : b = c
  · exact Or.inl ⟨e, rfl⟩
  · exact Or.inr (Or.inl (Ne.symm e))

/-- storing an element over a whole five-cell block -/
theorem post1_setE {h : Heap} {b : Nat} {V : Array Val} (x : Fe) (E : List (Array Val))
    (hb : h.blocks[b]? = some V) (hs : V.size = 5) : Post1 h (pushB (setE b 0 x h) E) b (feCells x) := by
  have hlt := lt_of_get hb
  refine ⟨by simp only [pushB_size, setE, ovE_size]; omega, ?_, ?_⟩
  · rw [get_pushB_lt _ _ _ (by simpa [setE] using hlt), setE, get_ovE_same, hb]
    exact congrArg some (ovl_full _ _ (by rw [feL_length]; exact hs))
  · intro c hc hne
    rw [get_pushB_lt _ _ _ (by simpa [setE] using hc), setE, get_ovE_other _ _ _ _ _ hne]

/-- the run is stated on `H` and stepped through on its canonical form -/
theorem steps_of_baseE {p : Program} {k : Nat} {frs : List Frame} {R : Option State}
    (h : steps p k ⟨mkE H [] [], frs⟩ = R) : steps p k ⟨H, frs⟩ = R := by rwa [mkE_nil] at h

/-- at the end of the run the one entry is the receiver's slot -/
theorem mkE_setE (b o : Nat) (x : Fe) (E : List (Array Val)) : mkE H [(b, o, feL x)] E = pushB (setE b o x H) E :=
  mkE_head_intro H b o (feL x) [] E (restates_nil H)

/-- `ssa_execE` with the rules above: the stepper for a kernel run on `mkE H [] []`.  The side conditions (`OkE`, `Compat`) are
    discharged from the hypotheses passed in `[…]`. -/
syntax "ssa_execS" "[" Lean.Parser.Tactic.simpLemma,* "]" : tactic
macro_rules
  | `(tactic| ssa_execS [$ls,*]) => `(tactic|
  ssa_execE [readE_base_0, readE_base_1, readE_base_2, readE_base_3, readE_base_4, readE_base5,
    readE_over_0, readE_over_1, readE_over_2, readE_over_3, readE_over_4,
    writeE_base_0, writeE_base_1, writeE_base_2, writeE_base_3, writeE_base_4, writeE_base5, $ls,*])

end EdVerif.Ssa.Tie
