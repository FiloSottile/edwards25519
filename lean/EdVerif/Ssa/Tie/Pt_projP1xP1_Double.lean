import EdVerif.Ssa.Tie.PtGlob
import EdVerif.Ssa.Tie.KernESwap
import EdVerif.Gen.Formulas
/-!
# GENERATED by gen_pt.py — `(*projP1xP1).Double`: SSA execution = T5's `Formulas.projP1xP1_Double`
-/
namespace EdVerif.Ssa.Tie
open EdVerif.Ssa EdVerif.Gen.Ssa EdVerif.Prims EdVerif.Impl EdVerif.Gen
set_option maxRecDepth 100000
set_option linter.unusedVariables false

def body56 : List Instr := body% f56
theorem funcs_56 : prog.funcs[56]? = some f56 := rfl
theorem mkFrame_56 (args : List RVal) (dest : Option Nat) :
    mkFrame 56 f56 args dest = some ⟨56, f56, #[], args.toArray, 0, body56, dest⟩ := rfl
theorem resultTys_56 : f56.resultTys = [14] := rfl
theorem funcIdx_56 : prog.funcIdx? (nm! "(*projP1xP1).Double") = some 56 := by decide +kernel

/-- every instruction of `(*projP1xP1).Double` but the final `Return`, whatever lies below its frame, on the canonical heap of its parameters;
    the blocks allocated (locals and temporaries of the callees) depend on the values only -/
theorem preE_projP1xP1_Double (v : P1xP1) (p : P2)  : ∃ E : List (Array Val), ∀ (H : Heap) (bv bp : Nat) (hfv : Fits H bv 0 20) (hfp : Fits H bp 0 15) (hne_vp : bv ≠ bp)  (dest : Option Nat) (frs : List Frame), ∃ regs,
    steps prog 2462 ⟨mkE H (entsP1 bv v ++ entsP2 bp p) [],
        ⟨56, f56, #[], #[[.ptr bv 0], [.ptr bp 0]], 0, body56, dest⟩ :: frs⟩
      = some ⟨mkE H (entsP1 bv (Formulas.projP1xP1_Double v p) ++ entsP2 bp p) E,
          ⟨56, f56, regs, #[[.ptr bv 0], [.ptr bp 0]], 0, [⟨25, .none, 368, .ret [(.param 0)], 0, [14]⟩], dest⟩ :: frs⟩ := by
  apply Exists.intro
  intro H bv bp hfv hfp hne_vp  dest frs
  apply Exists.intro
  have hbv := hfv.1
  have hfv0 := fits_sub 0 hfv (by decide)
  have hfv1 := fits_sub 5 hfv (by decide)
  have hfv2 := fits_sub 10 hfv (by decide)
  have hfv3 := fits_sub 15 hfv (by decide)
  have hbp := hfp.1
  have hfp0 := fits_sub 0 hfp (by decide)
  have hfp1 := fits_sub 5 hfp (by decide)
  have hfp2 := fits_sub 10 hfp (by decide)
  simp only [body56]
  ssa_execP [resultTys_56, ↓stepsA_Square, ↓stepsA_Add, ↓stepsA_Subtract, hbv, hfv0, hfv1, hfv2, hfv3, hbp, hfp0, hfp1, hfp2, hne_vp, hne_vp.symm, Multiply_rz, Square_rz, Add_rz, Subtract_rz, Select_rz, Set_rz]
  rfl

/-- the blocks `(*projP1xP1).Double` allocates -/
noncomputable def ext_projP1xP1_Double (v : P1xP1) (p : P2) : List (Array Val) :=
  open Classical in if h : True then Classical.choose (preE_projP1xP1_Double v p  ) else []

/-- `(*projP1xP1).Double` called from any frame on an arbitrary heap in which the parameters are structures of elements in distinct blocks -/
theorem callA_projP1xP1_Double (H : Heap) (bv bp : Nat)  (hkv : Ok4 H bv) (hkp : Ok3 H bp) (hne_vp : bv ≠ bp)  (d : Nat) (cfi : Nat) (cf : Func) (cregs cparams : Array RVal) (cblk : Nat) (crest : List Instr) (cdest : Option Nat) (frs : List Frame) :
    steps prog 2463 ⟨H, ⟨56, f56, #[], #[[.ptr bv 0], [.ptr bp 0]], 0, body56, some d⟩ :: ⟨cfi, cf, cregs, cparams, cblk, crest, cdest⟩ :: frs⟩
      = some ⟨pushB (set4 bv (Formulas.projP1xP1_Double (getP1 H bv) (getP2 H bp)).X (Formulas.projP1xP1_Double (getP1 H bv) (getP2 H bp)).Y (Formulas.projP1xP1_Double (getP1 H bv) (getP2 H bp)).Z (Formulas.projP1xP1_Double (getP1 H bv) (getP2 H bp)).T H) (ext_projP1xP1_Double (getP1 H bv) (getP2 H bp) ),
          ⟨cfi, cf, regSet cregs d [.ptr bv 0], cparams, cblk, crest, cdest⟩ :: frs⟩ := by
  have hsc : True := trivial
  obtain ⟨regs, hp⟩ := Classical.choose_spec (preE_projP1xP1_Double (getP1 H bv) (getP2 H bp)  ) H bv bp  (fits_ok4 hkv) (fits_ok3 hkp) hne_vp  (some d) (⟨cfi, cf, cregs, cparams, cblk, crest, cdest⟩ :: frs)
  rw [show mkE H (entsP1 bv (getP1 H bv) ++ entsP2 bp (getP2 H bp)) [] = H from mkE_restates H _ (restatesO4 hkv (restatesO3 hkp (restates_nil H)))] at hp
  rw [ext_projP1xP1_Double, dif_pos hsc]
  refine (steps_steps' hp 1).trans ?_
  ssa_execP [resultTys_56]
  refine congrArg (fun hp => some (⟨hp, _⟩ : State)) ?_
  exact mkE_head4 H bv _ _ _ _ _ _ (restatesO3 hkp (restates_nil H))

derive_rules callA_projP1xP1_Double runA_projP1xP1_Double stepsA_projP1xP1_Double

/-- **tie**: `(*projP1xP1).Double` on any heap in which the (pairwise distinct) parameter blocks hold the cells of the model values: the run
    terminates and returns the receiver; the receiver's block then holds the cells of T5's `Formulas.projP1xP1_Double`; every other block of the
    heap is unchanged (the heap grows by the locals of the run). -/
theorem tie_projP1xP1_Double (h : Heap) (bv bp : Nat) (v : P1xP1) (p : P2)  (hcv : h.blocks[bv]? = some (cellsP1 v)) (hcp : h.blocks[bp]? = some (cellsP2 p)) (hne_vp : bv ≠ bp)  :
    ∃ h', runCall prog 2463 h (nm! "(*projP1xP1).Double") [[.ptr bv 0], [.ptr bp 0]] = some (.done ⟨h', []⟩ [[.ptr bv 0]])
      ∧ Post1 h h' bv (cellsP1 (Formulas.projP1xP1_Double v p)) := by
  obtain ⟨E, pre⟩ := preE_projP1xP1_Double v p  
  obtain ⟨regs, hp⟩ := pre h bv bp (fits_of_get hcv 20 (Nat.le_refl _)) (fits_of_get hcp 15 (Nat.le_refl _)) hne_vp  none []
  rw [show mkE h (entsP1 bv v ++ entsP2 bp p) [] = h from mkE_restates h _ (restates4 hcv (restates3 hcp (restates_nil h)))] at hp
  refine ⟨_, ?_, post1_mkE4 _ _ _ _ _ E hcv (cells4_size _ _ _ _) (restates3 hcp (restates_nil h))⟩
  simp only [runCall, funcIdx_56, callState, funcs_56, mkFrame_56, Option.bind_some, Option.map_some, Option.pure_def,
    Option.bind_eq_bind]
  rw [run_steps' hp 1]
  ssa_execP [resultTys_56]

end EdVerif.Ssa.Tie
