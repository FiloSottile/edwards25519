import EdVerif.Ssa.Tie.FeEqual
import EdVerif.Ssa.Tie.PtExt
/-!
# `(*Point).Equal`: SSA execution = T5's `Formulas.Point_Equal` (written by hand on the model of the generated `Pt_Point_*` files)

`checkInitialized(v, u)` (`runA_ck2`), four `Multiply` into fresh locals, two `Equal` (`runA_Equal`), `&`.  Nothing is written to the parameters: they are read from the heap
itself, so the two blocks may coincide.
-/
namespace EdVerif.Ssa.Tie
open EdVerif.Ssa EdVerif.Gen.Ssa EdVerif.Prims EdVerif.Impl EdVerif.Gen
set_option maxRecDepth 100000
set_option linter.unusedVariables false

def body3 : List Instr := body% f3
theorem funcs_3 : prog.funcs[3]? = some f3 := rfl
theorem mkFrame_3 (args : List RVal) (dest : Option Nat) :
    mkFrame 3 f3 args dest = some ⟨3, f3, #[], args.toArray, 0, body3, dest⟩ := rfl
theorem resultTys_3 : f3.resultTys = [10] := rfl
theorem funcIdx_3 : prog.funcIdx? (nm! "(*Point).Equal") = some 3 := by decide +kernel

/-- `(*Point).Equal` as the outermost call on an arbitrary heap in which blocks `bv`, `bu` (possibly the same) hold the initialised points
    `v`, `u`; the fuel is the exact number of steps, `checkInitialized` taking `ckSteps` -/
theorem coreA_Point_Equal (v u : P3) (hi_v : InitP v) (hi_u : InitP u) : ∀ (H : Heap) (bv bu : Nat) (hkv : Ok4 H bv) (hku : Ok4 H bu) (hgv : getP3 H bv = v) (hgu : getP3 H bu = u) (h16 : 16 < H.blocks.size), ∃ E : List (Array Val),
    run prog (6261 + ckSteps [v, u] + 7) ⟨mkE H [] [], [⟨3, f3, #[], #[[.ptr bv 0], [.ptr bu 0]], 0, body3, none⟩]⟩
      = .done ⟨mkE H [] E, []⟩ [[.int (Formulas.Point_Equal v u)]] := by
  intro H bv bu hkv hku hgv hgu h16
  apply Exists.intro
  have hbv := hkv.1.1.1
  have hbu := hku.1.1.1
  have hgv0 : getE H bv 0 = v.x := congrArg P3.x hgv
  have hgv1 : getE H bv 5 = v.y := congrArg P3.y hgv
  have hgv2 : getE H bv 10 = v.z := congrArg P3.z hgv
  have hgu0 : getE H bu 0 = u.x := congrArg P3.x hgu
  have hgu1 : getE H bu 5 = u.y := congrArg P3.y hgu
  have hgu2 : getE H bu 10 = u.z := congrArg P3.z hgu
  simp only [body3]
  ssa_execX [resultTys_3, ↓runA_Multiply, ↓runA_Equal, ↓runA_ck2 bv bu v u hi_v hi_u, funcs_65, mkFrame_65, okE_base, getE_base, readE_base5, hbv, hbu,
    hkv.1, hkv.2.1, hkv.2.2.1, hku.1, hku.2.1, hku.2.2.1, hgv0, hgv1, hgv2, hgu0, hgu1, hgu2,
    h16, mkE_size, lt16_add, Multiply_rz, Square_rz, Add_rz, Subtract_rz, Select_rz, Set_rz]
  rfl

/-- **tie**, any aliasing: `v.Equal(u)` on any heap in which the blocks `bv`, `bu` (possibly the same, in which case `v = u`) hold the
    cells of the initialised points `v`, `u` (and the block of the package variable `binary.LittleEndian` exists): the run terminates
    and returns T5's `Formulas.Point_Equal v u`; no block of the heap changes (the heap grows by the locals of the run). -/
theorem tie_Point_Equal_any (h : Heap) (bv bu : Nat) (v u : P3) (hi_v : InitP v) (hi_u : InitP u)
    (hcv : h.blocks[bv]? = some (cellsP3 v)) (hcu : h.blocks[bu]? = some (cellsP3 u)) (h16 : 16 < h.blocks.size) :
    ∃ h', runCall prog 6300 h (nm! "(*Point).Equal") [[.ptr bv 0], [.ptr bu 0]] = some (.done ⟨h', []⟩ [[.int (Formulas.Point_Equal v u)]])
      ∧ Post0 h h' := by
  obtain ⟨E, core⟩ := coreA_Point_Equal v u hi_v hi_u h bv bu (ok4_of_cells hcv) (ok4_of_cells hcu) (getP3_of_cells hcv) (getP3_of_cells hcu) h16
  have core := run_done_mono core (k' := 6300) (by have := ckSteps_le2 v u; omega)
  rw [mkE_nil, mkE_restates_ext h [] E (restates_nil h)] at core
  refine ⟨pushB h E, ?_, post0_pushB h E⟩
  simp only [runCall, funcIdx_3, callState, funcs_3, mkFrame_3, Option.bind_some, Option.map_some, Option.pure_def,
    Option.bind_eq_bind]
  rw [core]

/-- **tie**: `v.Equal(u)` on any heap in which the (distinct) blocks `bv`, `bu` hold the cells of the initialised points `v`, `u`
    (and the block of the package variable `binary.LittleEndian` exists): the run terminates and returns T5's
    `Formulas.Point_Equal v u`; no block of the heap changes (the heap grows by the locals of the run). -/
theorem tie_Point_Equal (h : Heap) (bv bu : Nat) (v u : P3) (hi_v : InitP v) (hi_u : InitP u)
    (hcv : h.blocks[bv]? = some (cellsP3 v)) (hcu : h.blocks[bu]? = some (cellsP3 u)) (hne_vu : bv ≠ bu) (h16 : 16 < h.blocks.size) :
    ∃ h', runCall prog 6300 h (nm! "(*Point).Equal") [[.ptr bv 0], [.ptr bu 0]] = some (.done ⟨h', []⟩ [[.int (Formulas.Point_Equal v u)]])
      ∧ Post0 h h' :=
  tie_Point_Equal_any h bv bu v u hi_v hi_u hcv hcu h16

/-- **tie**: `v.Equal(v)` (the two parameters are the same block; `u` is the unused second value of T5's aliased definition) -/
theorem tie_Point_Equal__al00 (h : Heap) (bv : Nat) (v u : P3) (hi_v : InitP v)
    (hcv : h.blocks[bv]? = some (cellsP3 v)) (h16 : 16 < h.blocks.size) :
    ∃ h', runCall prog 6300 h (nm! "(*Point).Equal") [[.ptr bv 0], [.ptr bv 0]] = some (.done ⟨h', []⟩ [[.int (Formulas.Point_Equal__al00 v u)]])
      ∧ Post0 h h' :=
  tie_Point_Equal_any h bv bv v v hi_v hi_v hcv hcv h16

end EdVerif.Ssa.Tie
