import EdVerif.Ssa.Tie.Slot
/-!
# `(*field.Element).Add`
-/
namespace EdVerif.Ssa.Tie
open EdVerif.Ssa EdVerif.Gen.Ssa EdVerif.Prims
set_option maxRecDepth 100000

def body63 : List Instr := body% f63
theorem funcs_63 : prog.funcs[63]? = some f63 := rfl
theorem mkFrame_63 (args : List RVal) (dest : Option Nat) :
    mkFrame 63 f63 args dest = some ⟨63, f63, #[], args.toArray, 0, body63, dest⟩ := rfl
theorem resultTys_63 : f63.resultTys = [19] := rfl
theorem funcIdx_63 : prog.funcIdx? (nm! "(*field.Element).Add") = some 63 := by decide +kernel

/-- Every instruction of `(*field.Element).Add` but the final `Return`, whatever lies below its frame, on any heap: the operands are element slots
    `(block, offset)`, any of which may be the receiver's slot.  Limb `k` of `v` is stored after limb `k` of `a` and `b` has been loaded, so one run covers every aliasing. -/
theorem preA_Add (H : Heap) (bv ov ba oa bb ob : Nat)
    (hkv : OkE H bv ov) (hka : OkE H ba oa) (hkb : OkE H bb ob) (hc_va : Compat bv ov ba oa) (hc_vb : Compat bv ov bb ob) (dest : Option Nat) (frs : List Frame) :
    ∃ regs, steps prog 83 ⟨H, ⟨63, f63, #[], #[[.ptr bv ov], [.ptr ba oa], [.ptr bb ob]], 0, body63, dest⟩ :: frs⟩
      = some ⟨setE bv ov (EdVerif.Gen.Field.Add (getE H bv ov) (getE H ba oa) (getE H bb ob)) H,
          ⟨63, f63, regs, #[[.ptr bv ov], [.ptr ba oa], [.ptr bb ob]], 0, List.drop 36 body63, dest⟩ :: frs⟩
      ∧ regs[35]? = some [.ptr bv ov] := by
  refine ⟨?regs, ?run, ?reg⟩
  case run =>
    apply steps_of_baseE
    simp only [body63]
    ssa_execS [resultTys_63, funcs_84, mkFrame_84, ↓stepsE_carryPropagateGeneric, hkv, hka, hkb, hc_va, hc_vb, hkv.1]
    refine state_eq ((mkE_setE H bv ov _ []).trans (pushB_nil _)) ?_
    rfl
  case reg => rfl

/-- `(*field.Element).Add` called from any frame on an arbitrary heap: the slots hold elements, the receiver's slot and an operand's are the same or disjoint -/
theorem callA_Add (H : Heap) (bv ov ba oa bb ob : Nat)
    (hkv : OkE H bv ov) (hka : OkE H ba oa) (hkb : OkE H bb ob) (hc_va : Compat bv ov ba oa) (hc_vb : Compat bv ov bb ob) (d : Nat) (cfi : Nat) (cf : Func) (cregs cparams : Array RVal) (cblk : Nat) (crest : List Instr) (cdest : Option Nat) (frs : List Frame) :
    steps prog 84 ⟨H, ⟨63, f63, #[], #[[.ptr bv ov], [.ptr ba oa], [.ptr bb ob]], 0, body63, some d⟩ :: ⟨cfi, cf, cregs, cparams, cblk, crest, cdest⟩ :: frs⟩
      = some ⟨setE bv ov (EdVerif.Gen.Field.Add (getE H bv ov) (getE H ba oa) (getE H bb ob)) H,
          ⟨cfi, cf, regSet cregs d [.ptr bv ov], cparams, cblk, crest, cdest⟩ :: frs⟩ := by
  obtain ⟨regs, hp, hr⟩ := preA_Add H bv ov ba oa bb ob hkv hka hkb hc_va hc_vb (some d) (⟨cfi, cf, cregs, cparams, cblk, crest, cdest⟩ :: frs)
  refine Eq.trans (steps_steps' hp 1) ?_
  simp only [body63, List.drop_succ_cons, List.drop_zero]
  ssa_execE [resultTys_63, hr]

derive_rules callA_Add runA_Add stepsA_Add

/-- **tie** (any aliasing): `(*field.Element).Add` on an arbitrary heap in which the argument blocks hold the limbs of the arguments
    (the blocks may coincide, in which case the arguments do). -/
theorem tie_Add_any (h : Heap) (bv ba bb : Nat) (v a b : Fe) 
    (hv : h.blocks[bv]? = some (feCells v)) (ha : h.blocks[ba]? = some (feCells a)) (hb : h.blocks[bb]? = some (feCells b)) :
    ∃ h', runCall prog 84 h (nm! "(*field.Element).Add") [[.ptr bv 0], [.ptr ba 0], [.ptr bb 0]] = some (.done ⟨h', []⟩ [[.ptr bv 0]])
      ∧ Post1 h h' bv (feCells (EdVerif.Gen.Field.Add v a b)) := by
  obtain ⟨regs, hp, hr⟩ := preA_Add h bv 0 ba 0 bb 0 (okE_of_feCells hv) (okE_of_feCells ha) (okE_of_feCells hb) (compat_zero bv ba) (compat_zero bv bb) none []
  rw [getE_of_feCells hv, getE_of_feCells ha, getE_of_feCells hb] at hp
  refine ⟨_, ?_, (pushB_nil _) ▸ post1_setE _ [] hv rfl⟩
  rw [runCall_eq funcIdx_63 funcs_63 (mkFrame_63 _ _), run_steps' hp 1]
  simp only [body63, List.drop_succ_cons, List.drop_zero]
  ssa_execE [resultTys_63, hr]

end EdVerif.Ssa.Tie
