import EdVerif.Ssa.Tie.FeInvertA
/-!
# `(*field.Element).Invert`: the theorems (from `preE_Invert`): outermost call, callee, abstract call lemma, `tie_Invert`
-/
namespace EdVerif.Ssa.Tie
open EdVerif.Ssa EdVerif.Gen.Ssa EdVerif.Prims EdVerif.Impl EdVerif.Gen
set_option maxRecDepth 100000

/-- the blocks `v.Invert(z)` allocates (nine local elements and the temporaries of the 265 kernel calls): they depend on the values only -/
noncomputable def ext_Invert (v z : Fe) : List (Array Val) := Classical.choose (preE_Invert v z)

theorem preX_Invert (v z : Fe) (H : Heap) (bv ov bz oz : Nat) (hfv : Fits H bv ov 5) (hfz : Fits H bz oz 5)
    (hs : SepE bv ov bz oz) (dest : Option Nat) (tail : List Frame) : ∃ regs : Array RVal,
    steps prog 130744 ⟨mkE H [(bv, ov, feL v), (bz, oz, feL z)] [], ⟨66, f66, #[], #[[.ptr bv ov], [.ptr bz oz]], 0, body66, dest⟩ :: tail⟩
      = some ⟨mkE H [(bv, ov, feL (Formulas.field_Element_Invert v z)), (bz, oz, feL z)] (ext_Invert v z),
          ⟨66, f66, regs, #[[.ptr bv ov], [.ptr bz oz]], 20, [⟨82, .none, 181, .ret [(.reg 81)], 0, [19]⟩], dest⟩ :: tail⟩
    ∧ regs[81]? = some [.ptr bv ov] :=
  Classical.choose_spec (preE_Invert v z) H bv ov bz oz hfv hfz hs dest tail

/-- `v.Invert(z)` called from any frame, on the canonical heap of its parameters (disjoint element slots) -/
theorem callX_Invert (v z : Fe) (H : Heap) (bv ov bz oz : Nat) (hfv : Fits H bv ov 5) (hfz : Fits H bz oz 5) (hs : SepE bv ov bz oz)
    (d : Nat) (cfi : Nat) (cf : Func) (cregs cparams : Array RVal) (cblk : Nat) (crest : List Instr) (cdest : Option Nat) (frs : List Frame) :
    steps prog 130745 ⟨mkE H [(bv, ov, feL v), (bz, oz, feL z)] [],
        ⟨66, f66, #[], #[[.ptr bv ov], [.ptr bz oz]], 0, body66, some d⟩ :: ⟨cfi, cf, cregs, cparams, cblk, crest, cdest⟩ :: frs⟩
      = some ⟨mkE H [(bv, ov, feL (Formulas.field_Element_Invert v z)), (bz, oz, feL z)] (ext_Invert v z),
          ⟨cfi, cf, regSet cregs d [.ptr bv ov], cparams, cblk, crest, cdest⟩ :: frs⟩ := by
  obtain ⟨regs, h1, h2⟩ := preX_Invert v z H bv ov bz oz hfv hfz hs (some d) (⟨cfi, cf, cregs, cparams, cblk, crest, cdest⟩ :: frs)
  refine steps_trans (a := 130744) (b := 1) h1 ?_
  ssa_execI [h2]

/-- `v.Invert(z)` as the outermost call -/
theorem coreX_Invert (v z : Fe) (H : Heap) (bv ov bz oz : Nat) (hfv : Fits H bv ov 5) (hfz : Fits H bz oz 5) (hs : SepE bv ov bz oz) :
    run prog 130745 ⟨mkE H [(bv, ov, feL v), (bz, oz, feL z)] [], [⟨66, f66, #[], #[[.ptr bv ov], [.ptr bz oz]], 0, body66, none⟩]⟩
      = .done ⟨mkE H [(bv, ov, feL (Formulas.field_Element_Invert v z)), (bz, oz, feL z)] (ext_Invert v z), []⟩ [[.ptr bv ov]] := by
  obtain ⟨regs, h1, h2⟩ := preX_Invert v z H bv ov bz oz hfv hfz hs none []
  rw [run_steps' h1 1]
  ssa_execI [h2]

/-- `v.Invert(z)` called from any frame on an arbitrary heap in which `(bv, ov)` and `(bz, oz)` are disjoint element slots -/
theorem callA_Invert (H : Heap) (bv ov bz oz : Nat) (hkv : OkE H bv ov) (hkz : OkE H bz oz) (hs : SepE bv ov bz oz)
    (d : Nat) (cfi : Nat) (cf : Func) (cregs cparams : Array RVal) (cblk : Nat) (crest : List Instr) (cdest : Option Nat) (frs : List Frame) :
    steps prog 130745 ⟨H, ⟨66, f66, #[], #[[.ptr bv ov], [.ptr bz oz]], 0, body66, some d⟩ :: ⟨cfi, cf, cregs, cparams, cblk, crest, cdest⟩ :: frs⟩
      = some ⟨pushB (setE bv ov (Formulas.field_Element_Invert (getE H bv ov) (getE H bz oz)) H) (ext_Invert (getE H bv ov) (getE H bz oz)),
          ⟨cfi, cf, regSet cregs d [.ptr bv ov], cparams, cblk, crest, cdest⟩ :: frs⟩ := by
  have key := callX_Invert (getE H bv ov) (getE H bz oz) H bv ov bz oz hkv.1 hkz.1 hs d cfi cf cregs cparams cblk crest cdest frs
  rw [mkE_restates H _ (restates_cons hkv (restates_cons hkz (restates_nil H)))] at key
  rw [key]
  refine congrArg (fun hp => some (⟨hp, _⟩ : State)) ?_
  exact mkE_head_intro H _ _ _ _ _ (restates_cons hkz (restates_nil H))

derive_rules callA_Invert runA_Invert stepsA_Invert

/-- **tie**: `v.Invert(z)` (distinct blocks): block `bv` then holds the limbs of T5's `Formulas.field_Element_Invert v z` (= `Fe.invert z`);
    every other block of the heap is unchanged -/
theorem tie_Invert (h : Heap) (bv bz : Nat) (v z : Fe) (hv : h.blocks[bv]? = some (feCells v)) (hz : h.blocks[bz]? = some (feCells z))
    (hne_vz : bv ≠ bz) :
    ∃ h', runCall prog 130745 h (nm! "(*field.Element).Invert") [[.ptr bv 0], [.ptr bz 0]] = some (.done ⟨h', []⟩ [[.ptr bv 0]])
      ∧ Post1 h h' bv (feCells (Formulas.field_Element_Invert v z)) := by
  have core := coreX_Invert v z h bv 0 bz 0 (fits_of_get hv 5 (Nat.le_refl _)) (fits_of_get hz 5 (Nat.le_refl _)) (Or.inl hne_vz.symm)
  rw [mkE_restates h _ (restates_feCells hv (restates_feCells hz (restates_nil h)))] at core
  refine ⟨_, ?_, post1_mkE1 _ _ (ext_Invert v z) hv (feCells_size _) (restates_feCells hz (restates_nil h))⟩
  simp only [runCall, funcIdx_66, callState, funcs_66, mkFrame_66, Option.bind_some, Option.map_some, Option.pure_def,
    Option.bind_eq_bind]
  rw [core]

end EdVerif.Ssa.Tie
