import EdVerif.Ssa.Tie.Pt_projP2_FromP1xP1
import EdVerif.Ssa.Tie.Pt_projP2_FromP3
import EdVerif.Ssa.Tie.Pt_Point_fromP1xP1
import EdVerif.Ssa.Tie.Pt_Point_fromP2
import EdVerif.Ssa.Tie.Pt_projP1xP1_Add
import EdVerif.Ssa.Tie.Pt_projP1xP1_Sub
import EdVerif.Ssa.Tie.Pt_projP1xP1_AddAffine
import EdVerif.Ssa.Tie.Pt_projP1xP1_SubAffine
import EdVerif.Ssa.Tie.Pt_projP1xP1_Double
import EdVerif.Ssa.Tie.Pt_projCached_Select
import EdVerif.Ssa.Tie.Pt_affineCached_Select
import EdVerif.Ssa.Tie.Pt_projCached_FromP3
import EdVerif.Ssa.Tie.Pt_projCached_CondNeg
import EdVerif.Ssa.Tie.Pt_affineCached_CondNeg
import EdVerif.Ssa.Tie.Pt_Point_Negate
import EdVerif.Ssa.Tie.Pt_Point_MultByCofactor
import EdVerif.Ssa.Tie.Pt_Point_Add
import EdVerif.Ssa.Tie.Pt_Point_Subtract
import EdVerif.Ssa.Tie.Pt_Point_Negate__al00
import EdVerif.Ssa.Tie.PtSet
/-!
# Point layer: SSA execution = T5 definitions (`EdVerif/Gen/Formulas.lean`) — headline theorems and their axioms
-/
open EdVerif.Ssa.Tie
#print axioms tie_projP2_FromP1xP1
#print axioms callA_projP2_FromP1xP1
#print axioms tie_projP2_FromP3
#print axioms callA_projP2_FromP3
#print axioms tie_Point_fromP1xP1
#print axioms callA_Point_fromP1xP1
#print axioms tie_Point_fromP2
#print axioms callA_Point_fromP2
#print axioms tie_projP1xP1_Add
#print axioms callA_projP1xP1_Add
#print axioms tie_projP1xP1_Sub
#print axioms callA_projP1xP1_Sub
#print axioms tie_projP1xP1_AddAffine
#print axioms callA_projP1xP1_AddAffine
#print axioms tie_projP1xP1_SubAffine
#print axioms callA_projP1xP1_SubAffine
#print axioms tie_projP1xP1_Double
#print axioms callA_projP1xP1_Double
#print axioms tie_projCached_Select
#print axioms callA_projCached_Select
#print axioms tie_affineCached_Select
#print axioms callA_affineCached_Select
#print axioms tie_projCached_FromP3
#print axioms callA_projCached_FromP3
#print axioms tie_projCached_CondNeg
#print axioms callA_projCached_CondNeg
#print axioms tie_affineCached_CondNeg
#print axioms callA_affineCached_CondNeg
#print axioms tie_Point_Negate
#print axioms tie_Point_MultByCofactor
#print axioms tie_Point_Add
#print axioms tie_Point_Subtract
#print axioms tie_Point_Add__al010
#print axioms tie_Point_Add__al011
#print axioms tie_Point_Add__al002
#print axioms tie_Point_Add__al000
#print axioms tie_Point_Subtract__al010
#print axioms tie_Point_Subtract__al011
#print axioms tie_Point_Subtract__al002
#print axioms tie_Point_Subtract__al000
#print axioms tie_Point_Negate__al00
#print axioms tie_Point_MultByCofactor__al00
#print axioms tie_Point_Set
#print axioms callA_Add
#print axioms callA_Subtract
#print axioms callA_Multiply
#print axioms callA_Square
#print axioms callA_Select
#print axioms callA_Set
#print axioms callA_Swap
#print axioms callA_Negate
