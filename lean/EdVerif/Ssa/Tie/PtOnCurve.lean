import EdVerif.Ssa.Tie.PtEqual
/-!
# `isOnCurve`: SSA execution = T5's `Formulas.isOnCurve` (by hand; three paths, decided by the results of `Equal`, one run each; the step
count `ocSteps` and the appended blocks `ocExt` are functions of the coordinates, so that callers use it through `runA_isOnCurve`)

The locals `new(Element)` are allocated *between* kernel calls, so their block indices involve the (unknown) lengths of the blocks
appended by the callees: `getElem?_append_add`, `set_append_add` and the index disequalities below.
-/
namespace EdVerif.Ssa.Tie
open EdVerif.Ssa EdVerif.Gen.Ssa EdVerif.Prims EdVerif.Impl EdVerif.Gen
set_option maxRecDepth 100000
set_option linter.unusedVariables false

theorem getElem?_append_add {α} (X Y : List α) (j : Nat) : (X ++ Y)[X.length + j]? = Y[j]? := by
  rw [List.getElem?_append_right (by omega)]; congr 1; omega

theorem set_append_add {α} (X Y : List α) (j : Nat) (a : α) : (X ++ Y).set (X.length + j) a = X ++ Y.set j a := by
  rw [List.set_append_right _ _ (by omega)]; congr 2; omega

theorem feAt0_lit (a0 a1 a2 a3 a4 : Nat) : feAt 0 (some #[.int a0, .int a1, .int a2, .int a3, .int a4]) = ⟨a0, a1, a2, a3, a4⟩ := by
  rw [feAt]; rfl

theorem feAt0_feL (x : Fe) : feAt 0 (some (feL x).toArray) = x := by cases x; rfl


def body106 : List Instr := body% f106
def blk106_1 : List Instr := block% f106 1
def blk106_2 : List Instr := block% f106 2
def blk106_3 : List Instr := block% f106 3
def blk106_4 : List Instr := block% f106 4
theorem funcs_106 : prog.funcs[106]? = some f106 := rfl
theorem mkFrame_106 (args : List RVal) (dest : Option Nat) :
    mkFrame 106 f106 args dest = some ⟨106, f106, #[], args.toArray, 0, body106, dest⟩ := rfl
theorem resultTys_106 : f106.resultTys = [31] := rfl
theorem funcIdx_106 : prog.funcIdx? (nm! "isOnCurve") = some 106 := by decide +kernel

section jumps
variable (regs params : Array RVal) (rest : List Instr) (dest : Option Nat)
theorem jumpTo_106_0_1 : jumpTo prog ⟨106, f106, regs, params, 0, rest, dest⟩ 1 = some ⟨106, f106, regs, params, 1, blk106_1, dest⟩ := rfl
theorem jumpTo_106_0_2 : jumpTo prog ⟨106, f106, regs, params, 0, rest, dest⟩ 2 = some ⟨106, f106, regs, params, 2, blk106_2, dest⟩ := rfl
theorem jumpTo_106_2_3 : jumpTo prog ⟨106, f106, regs, params, 2, rest, dest⟩ 3 = some ⟨106, f106, regs, params, 3, blk106_3, dest⟩ := rfl
theorem jumpTo_106_2_4 : jumpTo prog ⟨106, f106, regs, params, 2, rest, dest⟩ 4 = some ⟨106, f106, regs, params, 4, blk106_4, dest⟩ := rfl
end jumps

/-- the stepper for `isOnCurve` -/
syntax "ssa_execO" "[" Lean.Parser.Tactic.simpLemma,* "]" : tactic
macro_rules
  | `(tactic| ssa_execO [$ls,*]) => `(tactic|
  ssa_execX [resultTys_106, blk106_1, blk106_2, blk106_3, blk106_4, jumpTo_106_0_1, jumpTo_106_0_2, jumpTo_106_2_3, jumpTo_106_2_4,
    ↓runA_Square, ↓runA_Multiply, ↓runA_Subtract, ↓runA_Add, ↓runA_Equal, funcs_65, mkFrame_65,
    mkE_size, lt16_add, List.length_append, getElem?_append_add, set_append_add, feAt0_lit, feAt0_feL,
    Multiply_rz, Square_rz, Add_rz, Subtract_rz, Select_rz, Set_rz, $ls,*])

/-- the side conditions of `isOnCurve` on the canonical heap of its parameters: four elements in pairwise distinct blocks, the package
    variable `d` (global 2 = block 3) pointing to a fifth block holding an element, the block of `binary.LittleEndian` -/
structure OcHeap (H : Heap) (bX bY bZ bT bg_d : Nat) : Prop where
  fX : Fits H bX 0 5
  fY : Fits H bY 0 5
  fZ : Fits H bZ 0 5
  fT : Fits H bT 0 5
  neXY : bX ≠ bY
  neXZ : bX ≠ bZ
  neXT : bX ≠ bT
  neYZ : bY ≠ bZ
  neYT : bY ≠ bT
  neZT : bZ ≠ bT
  gd : H.read 3 0 1 = some [.ptr bg_d 0]
  fd : Fits H bg_d 0 5
  nd : bg_d ≠ 3
  neXd : bX ≠ bg_d
  ngX : bX ≠ 3
  neYd : bY ≠ bg_d
  ngY : bY ≠ 3
  neZd : bZ ≠ bg_d
  ngZ : bZ ≠ 3
  neTd : bT ≠ bg_d
  ngT : bT ≠ 3
  h16 : 16 < H.blocks.size

/-- the entries of the canonical heap of `isOnCurve` -/
def ocEnts (bX bY bZ bT bg_d : Nat) (X Y Z T : Fe) : List Ent :=
  [(bX, 0, feL X), (bY, 0, feL Y), (bZ, 0, feL Z), (bT, 0, feL T), (bg_d, 0, feL Point.d)]

/-- `ssa_execO` with the facts of `hh : OcHeap …` -/
syntax "ssa_execOh" term:max "[" Lean.Parser.Tactic.simpLemma,* "]" : tactic
macro_rules
  | `(tactic| ssa_execOh $hh [$ls,*]) => `(tactic|
  ssa_execO [↓stepsA_Square, ↓stepsA_Multiply, ↓stepsA_Subtract, ↓stepsA_Add, ↓stepsA_Equal, ocEnts, ($hh).fX, ($hh).fY, ($hh).fZ, ($hh).fT, ($hh).fX.1, ($hh).fY.1, ($hh).fZ.1, ($hh).fT.1,
    ($hh).neXY, ($hh).neXY.symm, ($hh).neXZ, ($hh).neXZ.symm, ($hh).neXT, ($hh).neXT.symm, ($hh).neYZ, ($hh).neYZ.symm,
    ($hh).neYT, ($hh).neYT.symm, ($hh).neZT, ($hh).neZT.symm,
    read_mkE_base ($hh).gd, gptr_mkE ($hh).gd, isGlob_mkE ($hh).gd, ($hh).fd, ($hh).fd.1, ($hh).nd, ($hh).nd.symm,
    ($hh).neXd, ($hh).neXd.symm, ($hh).ngX, ($hh).ngX.symm, ($hh).neYd, ($hh).neYd.symm, ($hh).ngY, ($hh).ngY.symm,
    ($hh).neZd, ($hh).neZd.symm, ($hh).ngZ, ($hh).ngZ.symm, ($hh).neTd, ($hh).neTd.symm, ($hh).ngT, ($hh).ngT.symm,
    lt_of_read ($hh).gd, ($hh).h16, $ls,*])

/-- every instruction of `isOnCurve` but the final `Return` on path 1, whatever lies below its frame; the appended blocks depend on
    the values only -/
theorem preE_isOnCurve_1 (X Y Z T : Fe) (hE1 : (Formulas.field_Element_Equal Z Fe.rz == 1) = true) : ∃ E : List (Array Val), ∀ {H : Heap} {bX bY bZ bT bg_d : Nat}
    (hh : OcHeap H bX bY bZ bT bg_d) (dest : Option Nat) (frs : List Frame), ∃ regs : Array RVal,
    steps prog 3532 ⟨mkE H (ocEnts bX bY bZ bT bg_d X Y Z T) [], ⟨106, f106, #[], #[[.ptr bX 0], [.ptr bY 0], [.ptr bZ 0], [.ptr bT 0]], 0, body106, dest⟩ :: frs⟩
      = some ⟨mkE H (ocEnts bX bY bZ bT bg_d X Y Z T) E, ⟨106, f106, regs, #[[.ptr bX 0], [.ptr bY 0], [.ptr bZ 0], [.ptr bT 0]], 1, [⟨14, .none, 62, .ret [(.cbool false)], 0, [31]⟩], dest⟩ :: frs⟩ := by
  apply Exists.intro
  intro H bX bY bZ bT bg_d hh dest frs
  have hE1z : (Formulas.field_Element_Equal Z ⟨0, 0, 0, 0, 0⟩ == 1) = true := hE1
  apply Exists.intro
  simp only [body106]
  ssa_execOh hh [hE1z]
  rfl

/-- every instruction of `isOnCurve` but the final `Return` on path 2, whatever lies below its frame; the appended blocks depend on
    the values only -/
theorem preE_isOnCurve_2 (X Y Z T : Fe) (hE1 : (Formulas.field_Element_Equal Z Fe.rz == 1) = false)
    (hE2 : (Formulas.field_Element_Equal (Fe.sub (Fe.square Y) (Fe.square X)) (Fe.add (Fe.mul Point.d (Fe.square T)) (Fe.square Z)) != 1) = true) : ∃ E : List (Array Val), ∀ {H : Heap} {bX bY bZ bT bg_d : Nat}
    (hh : OcHeap H bX bY bZ bT bg_d) (dest : Option Nat) (frs : List Frame), ∃ regs : Array RVal,
    steps prog 6055 ⟨mkE H (ocEnts bX bY bZ bT bg_d X Y Z T) [], ⟨106, f106, #[], #[[.ptr bX 0], [.ptr bY 0], [.ptr bZ 0], [.ptr bT 0]], 0, body106, dest⟩ :: frs⟩
      = some ⟨mkE H (ocEnts bX bY bZ bT bg_d X Y Z T) E, ⟨106, f106, regs, #[[.ptr bX 0], [.ptr bY 0], [.ptr bZ 0], [.ptr bT 0]], 3, [⟨22, .none, 70, .ret [(.cbool false)], 0, [31]⟩], dest⟩ :: frs⟩ := by
  apply Exists.intro
  intro H bX bY bZ bT bg_d hh dest frs
  have hE1z : (Formulas.field_Element_Equal Z ⟨0, 0, 0, 0, 0⟩ == 1) = false := hE1
  apply Exists.intro
  simp only [body106]
  ssa_execOh hh [hE1z, hE2]
  rfl

/-- every instruction of `isOnCurve` but the final `Return` on path 3, whatever lies below its frame; the appended blocks depend on
    the values only -/
theorem preE_isOnCurve_3 (X Y Z T : Fe) (hE1 : (Formulas.field_Element_Equal Z Fe.rz == 1) = false)
    (hE2 : (Formulas.field_Element_Equal (Fe.sub (Fe.square Y) (Fe.square X)) (Fe.add (Fe.mul Point.d (Fe.square T)) (Fe.square Z)) != 1) = false) : ∃ E : List (Array Val), ∀ {H : Heap} {bX bY bZ bT bg_d : Nat}
    (hh : OcHeap H bX bY bZ bT bg_d) (dest : Option Nat) (frs : List Frame), ∃ regs : Array RVal,
    steps prog 9135 ⟨mkE H (ocEnts bX bY bZ bT bg_d X Y Z T) [], ⟨106, f106, #[], #[[.ptr bX 0], [.ptr bY 0], [.ptr bZ 0], [.ptr bT 0]], 0, body106, dest⟩ :: frs⟩
      = some ⟨mkE H (ocEnts bX bY bZ bT bg_d X Y Z T) E, ⟨106, f106, regs, #[[.ptr bX 0], [.ptr bY 0], [.ptr bZ 0], [.ptr bT 0]], 4, [⟨27, .none, 77, .ret [(.reg 26)], 0, [31]⟩], dest⟩ :: frs⟩
    ∧ regs[26]? = some [.bool (Formulas.field_Element_Equal (Fe.mul X Y) (Fe.mul T Z) == 1)] := by
  apply Exists.intro
  intro H bX bY bZ bT bg_d hh dest frs
  have hE1z : (Formulas.field_Element_Equal Z ⟨0, 0, 0, 0, 0⟩ == 1) = false := hE1
  refine ⟨?regs, ?run, ?reg⟩
  case run =>
    simp only [body106]
    ssa_execOh hh [hE1z, hE2]
    rfl
  case reg => rfl

/-- the number of steps of `isOnCurve`, a function of the coordinates (which of the three `return`s is reached) -/
noncomputable def ocSteps (X Y Z T : Fe) : Nat :=
  if (Formulas.field_Element_Equal Z Fe.rz == 1) then 3533 else if (Formulas.field_Element_Equal (Fe.sub (Fe.square Y) (Fe.square X)) (Fe.add (Fe.mul Point.d (Fe.square T)) (Fe.square Z)) != 1) then 6056 else 9136

theorem ocSteps_le (X Y Z T : Fe) : ocSteps X Y Z T ≤ 9136 := by
  unfold ocSteps; split
  · decide
  · split <;> decide

/-- the blocks `isOnCurve` allocates (five local elements and the temporaries of the callees) -/
noncomputable def ocExt (X Y Z T : Fe) : List (Array Val) :=
  if h1 : (Formulas.field_Element_Equal Z Fe.rz == 1) = true then Classical.choose (preE_isOnCurve_1 X Y Z T h1)
  else if h2 : (Formulas.field_Element_Equal (Fe.sub (Fe.square Y) (Fe.square X)) (Fe.add (Fe.mul Point.d (Fe.square T)) (Fe.square Z)) != 1) = true then Classical.choose (preE_isOnCurve_2 X Y Z T (Bool.eq_false_iff.mpr h1) h2)
  else Classical.choose (preE_isOnCurve_3 X Y Z T (Bool.eq_false_iff.mpr h1) (Bool.eq_false_iff.mpr h2))


/-- `isOnCurve` called from any frame, on the canonical heap of its parameters -/
theorem callE_isOnCurve (X Y Z T : Fe) {H : Heap} {bX bY bZ bT bg_d : Nat} (hh : OcHeap H bX bY bZ bT bg_d) (d : Nat) (cfi : Nat) (cf : Func) (cregs cparams : Array RVal) (cblk : Nat) (crest : List Instr) (cdest : Option Nat) (frs : List Frame) :
    steps prog (ocSteps X Y Z T) ⟨mkE H (ocEnts bX bY bZ bT bg_d X Y Z T) [], ⟨106, f106, #[], #[[.ptr bX 0], [.ptr bY 0], [.ptr bZ 0], [.ptr bT 0]], 0, body106, some d⟩ :: ⟨cfi, cf, cregs, cparams, cblk, crest, cdest⟩ :: frs⟩
      = some ⟨mkE H (ocEnts bX bY bZ bT bg_d X Y Z T) (ocExt X Y Z T),
          ⟨cfi, cf, regSet cregs d [.bool (Formulas.isOnCurve X Y Z T)], cparams, cblk, crest, cdest⟩ :: frs⟩ := by
  cases hE1 : (Formulas.field_Element_Equal Z Fe.rz == 1) with
  | true =>
    have e : Formulas.isOnCurve X Y Z T = false := by unfold Formulas.isOnCurve; simp only [hE1, if_true]
    obtain ⟨regs, hp⟩ := Classical.choose_spec (preE_isOnCurve_1 X Y Z T hE1) hh (some d) (⟨cfi, cf, cregs, cparams, cblk, crest, cdest⟩ :: frs)
    rw [ocSteps, ocExt, dif_pos hE1, if_pos hE1, e]
    refine (steps_steps' hp 1).trans ?_
    ssa_execO [resultTys_106]
  | false =>
    have n1 : ¬ (Formulas.field_Element_Equal Z Fe.rz == 1) = true := by rw [hE1]; exact Bool.false_ne_true
    cases hE2 : (Formulas.field_Element_Equal (Fe.sub (Fe.square Y) (Fe.square X)) (Fe.add (Fe.mul Point.d (Fe.square T)) (Fe.square Z)) != 1) with
    | true =>
      have e : Formulas.isOnCurve X Y Z T = false := by
        unfold Formulas.isOnCurve; simp only [hE1, hE2, if_true, if_false, Bool.false_eq_true]
      obtain ⟨regs, hp⟩ := Classical.choose_spec (preE_isOnCurve_2 X Y Z T hE1 hE2) hh (some d) (⟨cfi, cf, cregs, cparams, cblk, crest, cdest⟩ :: frs)
      rw [ocSteps, ocExt, dif_neg n1, dif_pos hE2, if_neg n1, if_pos hE2, e]
      refine (steps_steps' hp 1).trans ?_
      ssa_execO [resultTys_106]
    | false =>
      have n2 : ¬ (Formulas.field_Element_Equal (Fe.sub (Fe.square Y) (Fe.square X)) (Fe.add (Fe.mul Point.d (Fe.square T)) (Fe.square Z)) != 1) = true := by rw [hE2]; exact Bool.false_ne_true
      have e : Formulas.isOnCurve X Y Z T = (Formulas.field_Element_Equal (Fe.mul X Y) (Fe.mul T Z) == 1) := by
        unfold Formulas.isOnCurve; simp only [hE1, hE2, if_false, Bool.false_eq_true]
      obtain ⟨regs, hp, h26⟩ := Classical.choose_spec (preE_isOnCurve_3 X Y Z T hE1 hE2) hh (some d) (⟨cfi, cf, cregs, cparams, cblk, crest, cdest⟩ :: frs)
      rw [ocSteps, ocExt, dif_neg n1, dif_neg n2, if_neg n1, if_neg n2, e]
      refine (steps_steps' hp 1).trans ?_
      ssa_execO [resultTys_106, h26]

/-- `isOnCurve` as the outermost call, on the canonical heap of its parameters -/
theorem coreE_isOnCurve (X Y Z T : Fe) {H : Heap} {bX bY bZ bT bg_d : Nat} (hh : OcHeap H bX bY bZ bT bg_d) :
    run prog (ocSteps X Y Z T) ⟨mkE H (ocEnts bX bY bZ bT bg_d X Y Z T) [], [⟨106, f106, #[], #[[.ptr bX 0], [.ptr bY 0], [.ptr bZ 0], [.ptr bT 0]], 0, body106, none⟩]⟩
      = .done ⟨mkE H (ocEnts bX bY bZ bT bg_d X Y Z T) (ocExt X Y Z T), []⟩ [[.bool (Formulas.isOnCurve X Y Z T)]] := by
  cases hE1 : (Formulas.field_Element_Equal Z Fe.rz == 1) with
  | true =>
    have e : Formulas.isOnCurve X Y Z T = false := by unfold Formulas.isOnCurve; simp only [hE1, if_true]
    obtain ⟨regs, hp⟩ := Classical.choose_spec (preE_isOnCurve_1 X Y Z T hE1) hh none []
    rw [ocSteps, ocExt, dif_pos hE1, if_pos hE1, e]
    rw [run_steps' hp 1]
    ssa_execO [resultTys_106]
  | false =>
    have n1 : ¬ (Formulas.field_Element_Equal Z Fe.rz == 1) = true := by rw [hE1]; exact Bool.false_ne_true
    cases hE2 : (Formulas.field_Element_Equal (Fe.sub (Fe.square Y) (Fe.square X)) (Fe.add (Fe.mul Point.d (Fe.square T)) (Fe.square Z)) != 1) with
    | true =>
      have e : Formulas.isOnCurve X Y Z T = false := by
        unfold Formulas.isOnCurve; simp only [hE1, hE2, if_true, if_false, Bool.false_eq_true]
      obtain ⟨regs, hp⟩ := Classical.choose_spec (preE_isOnCurve_2 X Y Z T hE1 hE2) hh none []
      rw [ocSteps, ocExt, dif_neg n1, dif_pos hE2, if_neg n1, if_pos hE2, e]
      rw [run_steps' hp 1]
      ssa_execO [resultTys_106]
    | false =>
      have n2 : ¬ (Formulas.field_Element_Equal (Fe.sub (Fe.square Y) (Fe.square X)) (Fe.add (Fe.mul Point.d (Fe.square T)) (Fe.square Z)) != 1) = true := by rw [hE2]; exact Bool.false_ne_true
      have e : Formulas.isOnCurve X Y Z T = (Formulas.field_Element_Equal (Fe.mul X Y) (Fe.mul T Z) == 1) := by
        unfold Formulas.isOnCurve; simp only [hE1, hE2, if_false, Bool.false_eq_true]
      obtain ⟨regs, hp, h26⟩ := Classical.choose_spec (preE_isOnCurve_3 X Y Z T hE1 hE2) hh none []
      rw [ocSteps, ocExt, dif_neg n1, dif_neg n2, if_neg n1, if_neg n2, e]
      rw [run_steps' hp 1]
      ssa_execO [resultTys_106, h26]

/-- `isOnCurve` called from any frame on an arbitrary heap in which the four pairwise distinct blocks hold the elements `X … T` and the
    package variable `d` points to a block holding `Point.d`: the heap grows by `ocExt`, nothing else changes -/
theorem callA_isOnCurve (X Y Z T : Fe) (Hc : Heap) (bX bY bZ bT : Nat)
    (hkX : OkE Hc bX 0) (hkY : OkE Hc bY 0) (hkZ : OkE Hc bZ 0) (hkT : OkE Hc bT 0)
    (hvX : getE Hc bX 0 = X) (hvY : getE Hc bY 0 = Y) (hvZ : getE Hc bZ 0 = Z) (hvT : getE Hc bT 0 = T)
    (hne_XY : bX ≠ bY) (hne_XZ : bX ≠ bZ) (hne_XT : bX ≠ bT) (hne_YZ : bY ≠ bZ) (hne_YT : bY ≠ bT) (hne_ZT : bZ ≠ bT)
    (hg : IsGlob Hc 3) (hkg : OkE Hc (gptr Hc 3) 0) (hvg : getE Hc (gptr Hc 3) 0 = Point.d) (hn : gptr Hc 3 ≠ 3)
    (hne_X_d : bX ≠ gptr Hc 3) (hng_X : bX ≠ 3) (hne_Y_d : bY ≠ gptr Hc 3) (hng_Y : bY ≠ 3)
    (hne_Z_d : bZ ≠ gptr Hc 3) (hng_Z : bZ ≠ 3) (hne_T_d : bT ≠ gptr Hc 3) (hng_T : bT ≠ 3) (h16 : 16 < Hc.blocks.size) (d : Nat) (cfi : Nat) (cf : Func) (cregs cparams : Array RVal) (cblk : Nat) (crest : List Instr) (cdest : Option Nat) (frs : List Frame) :
    steps prog (ocSteps X Y Z T) ⟨Hc, ⟨106, f106, #[], #[[.ptr bX 0], [.ptr bY 0], [.ptr bZ 0], [.ptr bT 0]], 0, body106, some d⟩ :: ⟨cfi, cf, cregs, cparams, cblk, crest, cdest⟩ :: frs⟩
      = some ⟨pushB Hc (ocExt X Y Z T),
          ⟨cfi, cf, regSet cregs d [.bool (Formulas.isOnCurve X Y Z T)], cparams, cblk, crest, cdest⟩ :: frs⟩ := by
  have key := callE_isOnCurve X Y Z T (H := Hc) (bg_d := gptr Hc 3)
    ⟨hkX.1, hkY.1, hkZ.1, hkT.1, hne_XY, hne_XZ, hne_XT, hne_YZ, hne_YT, hne_ZT, hg, hkg.1, hn, hne_X_d, hng_X, hne_Y_d, hng_Y, hne_Z_d, hng_Z,
      hne_T_d, hng_T, h16⟩ d cfi cf cregs cparams cblk crest cdest frs
  have hr : Restates Hc (ocEnts bX bY bZ bT (gptr Hc 3) X Y Z T) :=
    restates_cons_val hkX hvX (restates_cons_val hkY hvY (restates_cons_val hkZ hvZ (restates_cons_val hkT hvT
      (restates_cons_val hkg hvg (restates_nil Hc)))))
  rw [mkE_restates Hc _ hr, mkE_restates_ext Hc _ _ hr] at key
  exact key

derive_rules callA_isOnCurve runA_isOnCurve stepsA_isOnCurve

theorem ocHeap_of_cells {h : Heap} {bX bY bZ bT bg_d : Nat} {X Y Z T : Fe}
    (hcX : h.blocks[bX]? = some (feCells X)) (hcY : h.blocks[bY]? = some (feCells Y)) (hcZ : h.blocks[bZ]? = some (feCells Z))
    (hcT : h.blocks[bT]? = some (feCells T))
    (hne_XY : bX ≠ bY) (hne_XZ : bX ≠ bZ) (hne_XT : bX ≠ bT) (hne_YZ : bY ≠ bZ) (hne_YT : bY ≠ bT) (hne_ZT : bZ ≠ bT)
    (hgp_d : h.blocks[3]? = some #[.ptr bg_d 0]) (hgv_d : h.blocks[bg_d]? = some (feCells Point.d))
    (hne_X_d : bX ≠ bg_d) (hne_Y_d : bY ≠ bg_d) (hne_Z_d : bZ ≠ bg_d) (hne_T_d : bT ≠ bg_d) (h16 : 16 < h.blocks.size) :
    OcHeap h bX bY bZ bT bg_d :=
    ⟨fits_of_get hcX 5 (Nat.le_refl _), fits_of_get hcY 5 (Nat.le_refl _), fits_of_get hcZ 5 (Nat.le_refl _), fits_of_get hcT 5 (Nat.le_refl _),
      hne_XY, hne_XZ, hne_XT, hne_YZ, hne_YT, hne_ZT, read_of_get1 hgp_d, fits_of_get hgv_d 5 (Nat.le_refl _),
      ne_of_size' hgv_d hgp_d (n1 := 5) (n2 := 1) rfl rfl (by decide),
      hne_X_d, ne_of_size' hcX hgp_d (n1 := 5) (n2 := 1) rfl rfl (by decide), hne_Y_d, ne_of_size' hcY hgp_d (n1 := 5) (n2 := 1) rfl rfl (by decide),
      hne_Z_d, ne_of_size' hcZ hgp_d (n1 := 5) (n2 := 1) rfl rfl (by decide), hne_T_d, ne_of_size' hcT hgp_d (n1 := 5) (n2 := 1) rfl rfl (by decide), h16⟩

/-- **tie**: `isOnCurve(X, Y, Z, T)` on any heap in which the pairwise distinct blocks `bX … bT` hold the limbs of `X … T`, the package
    variable `d` (global 2 = block 3) points to a block (distinct from them) holding `Point.d`, and the block of `binary.LittleEndian` exists:
    the run terminates and returns T5's `Formulas.isOnCurve X Y Z T`; no block of the heap changes. -/
theorem tie_isOnCurve (h : Heap) (bX bY bZ bT bg_d : Nat) (X Y Z T : Fe)
    (hcX : h.blocks[bX]? = some (feCells X)) (hcY : h.blocks[bY]? = some (feCells Y)) (hcZ : h.blocks[bZ]? = some (feCells Z))
    (hcT : h.blocks[bT]? = some (feCells T))
    (hne_XY : bX ≠ bY) (hne_XZ : bX ≠ bZ) (hne_XT : bX ≠ bT) (hne_YZ : bY ≠ bZ) (hne_YT : bY ≠ bT) (hne_ZT : bZ ≠ bT)
    (hgp_d : h.blocks[3]? = some #[.ptr bg_d 0]) (hgv_d : h.blocks[bg_d]? = some (feCells Point.d))
    (hne_X_d : bX ≠ bg_d) (hne_Y_d : bY ≠ bg_d) (hne_Z_d : bZ ≠ bg_d) (hne_T_d : bT ≠ bg_d) (h16 : 16 < h.blocks.size) :
    ∃ h', runCall prog 10000 h (nm! "isOnCurve") [[.ptr bX 0], [.ptr bY 0], [.ptr bZ 0], [.ptr bT 0]]
            = some (.done ⟨h', []⟩ [[.bool (Formulas.isOnCurve X Y Z T)]])
      ∧ Post0 h h' := by
  have hh := ocHeap_of_cells hcX hcY hcZ hcT hne_XY hne_XZ hne_XT hne_YZ hne_YT hne_ZT hgp_d hgv_d hne_X_d hne_Y_d hne_Z_d hne_T_d h16
  have core := run_done_mono (coreE_isOnCurve X Y Z T hh) (k' := 10000) (by have := ocSteps_le X Y Z T; omega)
  have hr : Restates h (ocEnts bX bY bZ bT bg_d X Y Z T) :=
    restates_feCells hcX (restates_feCells hcY (restates_feCells hcZ (restates_feCells hcT (restates_feCells hgv_d (restates_nil h)))))
  rw [mkE_restates h _ hr, mkE_restates_ext h _ _ hr] at core
  refine ⟨pushB h (ocExt X Y Z T), ?_, post0_pushB h _⟩
  simp only [runCall, funcIdx_106, callState, funcs_106, mkFrame_106, Option.bind_some, Option.map_some, Option.pure_def,
    Option.bind_eq_bind]
  rw [core]

end EdVerif.Ssa.Tie
