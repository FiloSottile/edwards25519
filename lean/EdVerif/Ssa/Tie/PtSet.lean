import EdVerif.Ssa.Tie.PtCk
/-!
# `(*Point).Set` (`*v = *u`: one load and one store of 20 cells)
-/
namespace EdVerif.Ssa.Tie
open EdVerif.Ssa EdVerif.Gen.Ssa EdVerif.Prims EdVerif.Impl EdVerif.Gen
set_option maxRecDepth 100000

theorem ovE_append (b o : Nat) (W1 W2 : List Val) (hp : Heap) : ovE b o W1 (ovE b (o + W1.length) W2 hp) = ovE b o (W1 ++ W2) hp := by
  apply ovE_ext (by simp) (by simp)
  intro c i hi
  simp only [ovE_blkSize] at hi
  simp only [ovE_cell, ovE_blkSize, List.length_append]
  by_cases h1 : c = b ∧ o ≤ i ∧ i < o + W1.length
  · rw [if_pos (by omega), if_pos (by omega), List.getElem?_append_left (by omega)]
  · rw [if_neg (by omega)]
    by_cases h2 : c = b ∧ o + W1.length ≤ i ∧ i < o + W1.length + W2.length
    · rw [if_pos (by omega), if_pos (by omega), List.getElem?_append_right (by omega)]
      congr 1; omega
    · rw [if_neg (by omega), if_neg (by omega)]

theorem readCells_of_get : ∀ (L : List Val) (V : Array Val) (o : Nat), (∀ k, k < L.length → V[o + k]? = L[k]?) → readCells V o L.length = some L
  | [], _, _, _ => rfl
  | a :: L, V, o, h => by
    have h0 := h 0 (by simp)
    simp only [Nat.add_zero, List.getElem?_cons_zero] at h0
    simp only [List.length_cons, readCells, h0, Option.bind_eq_bind, Option.bind_some]
    rw [readCells_of_get L V (o + 1) (fun k hk => by have := h (k + 1) (by simp; omega); rw [List.getElem?_cons_succ] at this; rw [← this]; congr 1; omega)]
    rfl

theorem read_ovE_self (b o : Nat) (L : List Val) (hp : Heap) (hf : Fits hp b o L.length) : (ovE b o L hp).read b o L.length = some L := by
  simp only [Heap.read, get_ovE_same]
  have hb : b < hp.blocks.size := hf.1
  have e : hp.blocks[b]? = some hp.blocks[b] := by simp [hb]
  rw [e]
  simp only [Option.map_some]
  apply readCells_of_get
  intro k hk
  rw [ovl_get]
  have hs : o + L.length ≤ (hp.blocks[b]).size := by have := hf.2; simpa [blkSize, e] using this
  rw [if_pos (by omega)]
  congr 1; omega

section
variable (h0 : Heap) (b : Nat) (x0 x1 x2 x3 y0 y1 y2 y3 : Fe) (ovr : List Ent) (ext : List (Array Val))

theorem mkE_four (hb : b < h0.blocks.size) :
    mkE h0 ((b, 0, feL x0) :: (b, 5, feL x1) :: (b, 10, feL x2) :: (b, 15, feL x3) :: ovr) ext
      = ovE b 0 (feL x0 ++ feL x1 ++ feL x2 ++ feL x3) (mkE h0 ovr ext) := by
  rw [mkE_cons _ _ _ _ _ _ hb, mkE_cons _ _ _ _ _ _ hb, mkE_cons _ _ _ _ _ _ hb, mkE_cons _ _ _ _ _ _ hb]
  have e2 := ovE_append b 10 (feL x2) (feL x3) (mkE h0 ovr ext)
  have e1 := ovE_append b 5 (feL x1) (feL x2 ++ feL x3) (mkE h0 ovr ext)
  have e0 := ovE_append b 0 (feL x0) (feL x1 ++ (feL x2 ++ feL x3)) (mkE h0 ovr ext)
  simp only [feL_length, Nat.reduceAdd, Nat.zero_add] at e0 e1 e2
  rw [e2, e1, e0, List.append_assoc, List.append_assoc]

theorem fits_mkE (c o n : Nat) (hf : Fits h0 c o n) : Fits (mkE h0 ovr ext) c o n := by
  refine ⟨by rw [mkE_size]; have := hf.1; omega, ?_⟩
  rw [mkE_blkSize_lt _ _ _ _ hf.1]; exact hf.2

theorem read20 (hf : Fits h0 b 0 20) :
    (mkE h0 ((b, 0, feL x0) :: (b, 5, feL x1) :: (b, 10, feL x2) :: (b, 15, feL x3) :: ovr) ext).read b 0 20
      = some (feL x0 ++ feL x1 ++ feL x2 ++ feL x3) := by
  rw [mkE_four _ _ _ _ _ _ _ _ hf.1]
  exact read_ovE_self b 0 (feL x0 ++ feL x1 ++ feL x2 ++ feL x3) _ (fits_mkE h0 ovr ext b 0 20 hf)

theorem write20 (hf : Fits h0 b 0 20) :
    (mkE h0 ((b, 0, feL y0) :: (b, 5, feL y1) :: (b, 10, feL y2) :: (b, 15, feL y3) :: ovr) ext).write b 0 (feL x0 ++ feL x1 ++ feL x2 ++ feL x3)
      = some (mkE h0 ((b, 0, feL x0) :: (b, 5, feL x1) :: (b, 10, feL x2) :: (b, 15, feL x3) :: ovr) ext) := by
  rw [mkE_four _ _ _ _ _ _ _ _ hf.1, mkE_four _ _ _ _ _ _ _ _ hf.1]
  rw [write_eq_ovE _ _ _ _ _ (by cases x0; simp [feL])]
  · congr 1
    exact ovE_ovE_same _ _ _ _ _ (by simp [feL_length])
  · intro j hj
    have hj' : j < 20 := by simpa [feL_length] using hj
    have hfit := fits_mkE h0 ovr ext b 0 20 hf
    have hlen : (feL y0 ++ feL y1 ++ feL y2 ++ feL y3).length = 20 := by simp [feL_length]
    rw [ovE_cell, if_pos (by have := hfit.2; omega), Nat.zero_add, Nat.sub_zero]
    have hcls : ∀ (L M : List Val), (∀ v ∈ L, v.cls = .data) → (∀ v ∈ M, v.cls = .data) → L.length = M.length → ∀ j (hj : j < M.length),
        ∃ old, L[j]? = some old ∧ old.cls = (M[j]).cls := by
      intro L M hL hM hlen j hj
      refine ⟨L[j]'(by omega), by simp, ?_⟩
      rw [hL _ (List.getElem_mem _), hM _ (List.getElem_mem _)]
    have hdata : ∀ (a b c d : Fe), ∀ v ∈ feL a ++ feL b ++ feL c ++ feL d, v.cls = .data := by
      intro a b c d v hv
      simp only [List.mem_append, feL, List.mem_cons, List.mem_nil_iff, or_false] at hv
      rcases hv with ((h | h) | h) | h <;> rcases h with h | h | h | h | h <;> subst h <;> rfl
    exact hcls _ _ (hdata y0 y1 y2 y3) (hdata x0 x1 x2 x3) (by simp [feL_length]) j hj

theorem cls20 : listEqClasses (feL x0 ++ feL x1 ++ feL x2 ++ feL x3)
    [.int 0, .int 0, .int 0, .int 0, .int 0, .int 0, .int 0, .int 0, .int 0, .int 0,
     .int 0, .int 0, .int 0, .int 0, .int 0, .int 0, .int 0, .int 0, .int 0, .int 0] = true := by
  cases x0; cases x1; cases x2; cases x3; rfl

end

theorem zeros_5 : prog.zeros 5 = some [.int 0, .int 0, .int 0, .int 0, .int 0, .int 0, .int 0, .int 0, .int 0, .int 0,
    .int 0, .int 0, .int 0, .int 0, .int 0, .int 0, .int 0, .int 0, .int 0, .int 0] := rfl

def body10 : List Instr := body% f10
theorem funcs_10 : prog.funcs[10]? = some f10 := rfl
theorem mkFrame_10 (args : List RVal) (dest : Option Nat) :
    mkFrame 10 f10 args dest = some ⟨10, f10, #[], args.toArray, 0, body10, dest⟩ := rfl
theorem resultTys_10 : f10.resultTys = [6] := rfl
theorem funcIdx_10 : prog.funcIdx? (nm! "(*Point).Set") = some 10 := by decide +kernel

/-- `v.Set(u)` as the outermost call, on the canonical heap of its parameters -/
theorem coreE_Point_Set (v u : P3) (H : Heap) (bv bu : Nat) (hfv : Fits H bv 0 20) (hfu : Fits H bu 0 20) (hne_vu : bv ≠ bu) :
    run prog 3 ⟨mkE H [(bv, 0, feL v.x), (bv, 5, feL v.y), (bv, 10, feL v.z), (bv, 15, feL v.t),
                       (bu, 0, feL u.x), (bu, 5, feL u.y), (bu, 10, feL u.z), (bu, 15, feL u.t)] [],
        [⟨10, f10, #[], #[[.ptr bv 0], [.ptr bu 0]], 0, body10, none⟩]⟩
      = .done ⟨mkE H [(bv, 0, feL (Formulas.Point_Set v u).x), (bv, 5, feL (Formulas.Point_Set v u).y), (bv, 10, feL (Formulas.Point_Set v u).z),
                       (bv, 15, feL (Formulas.Point_Set v u).t),
                       (bu, 0, feL u.x), (bu, 5, feL u.y), (bu, 10, feL u.z), (bu, 15, feL u.t)] [], []⟩ [[.ptr bv 0]] := by
  simp only [body10]
  ssa_execC [resultTys_10, zeros_5, readE_miss_blk, read20, write20, cls20, hfv, hfu, hne_vu, hne_vu.symm]
  rfl

/-- **tie**: `(*Point).Set` on any heap in which the two (distinct) blocks hold the cells of the model values -/
theorem tie_Point_Set (h : Heap) (bv bu : Nat) (v u : P3) (hcv : h.blocks[bv]? = some (cellsP3 v)) (hcu : h.blocks[bu]? = some (cellsP3 u))
    (hne_vu : bv ≠ bu) :
    ∃ h', runCall prog 3 h (nm! "(*Point).Set") [[.ptr bv 0], [.ptr bu 0]] = some (.done ⟨h', []⟩ [[.ptr bv 0]])
      ∧ Post1 h h' bv (cellsP3 (Formulas.Point_Set v u)) := by
  have core := coreE_Point_Set v u h bv bu (fits_of_get hcv 20 (Nat.le_refl _)) (fits_of_get hcu 20 (Nat.le_refl _)) hne_vu
  rw [show mkE h [(bv, 0, feL v.x), (bv, 5, feL v.y), (bv, 10, feL v.z), (bv, 15, feL v.t),
                       (bu, 0, feL u.x), (bu, 5, feL u.y), (bu, 10, feL u.z), (bu, 15, feL u.t)] [] = h
      from mkE_restates h _ (restates4 hcv (restates4 hcu (restates_nil h)))] at core
  refine ⟨_, ?_, post1_mkE4 _ _ _ _ _ [] hcv (cells4_size _ _ _ _) (restates4 hcu (restates_nil h))⟩
  simp only [runCall, funcIdx_10, callState, funcs_10, mkFrame_10, Option.bind_some, Option.map_some, Option.pure_def,
    Option.bind_eq_bind]
  rw [core]

end EdVerif.Ssa.Tie
