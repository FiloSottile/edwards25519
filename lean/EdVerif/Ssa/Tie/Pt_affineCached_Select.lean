import EdVerif.Ssa.Tie.PtGlob
import EdVerif.Ssa.Tie.KernESwap
import EdVerif.Gen.Formulas
/-!
# GENERATED by gen_pt.py — `(*affineCached).Select`: SSA execution = T5's `Formulas.affineCached_Select`
-/
namespace EdVerif.Ssa.Tie
open EdVerif.Ssa EdVerif.Gen.Ssa EdVerif.Prims EdVerif.Impl EdVerif.Gen
set_option maxRecDepth 100000
set_option linter.unusedVariables false

def body40 : List Instr := body% f40
theorem funcs_40 : prog.funcs[40]? = some f40 := rfl
theorem mkFrame_40 (args : List RVal) (dest : Option Nat) :
    mkFrame 40 f40 args dest = some ⟨40, f40, #[], args.toArray, 0, body40, dest⟩ := rfl
theorem resultTys_40 : f40.resultTys = [26] := rfl
theorem funcIdx_40 : prog.funcIdx? (nm! "(*affineCached).Select") = some 40 := by decide +kernel

/-- every instruction of `(*affineCached).Select` but the final `Return`, whatever lies below its frame, on the canonical heap of its parameters;
    the blocks allocated (locals and temporaries of the callees) depend on the values only -/
theorem preE_affineCached_Select (v : AffineCached) (a : AffineCached) (b : AffineCached) (c : Nat) (hc : c < 2 ^ 64) : ∃ E : List (Array Val), ∀ (H : Heap) (bv ba bb : Nat) (hfv : Fits H bv 0 15) (hfa : Fits H ba 0 15) (hfb : Fits H bb 0 15) (hne_va : bv ≠ ba) (hne_vb : bv ≠ bb) (hne_ab : ba ≠ bb)  (dest : Option Nat) (frs : List Frame), ∃ regs,
    steps prog 180 ⟨mkE H (entsA bv v ++ entsA ba a ++ entsA bb b) [],
        ⟨40, f40, #[], #[[.ptr bv 0], [.ptr ba 0], [.ptr bb 0], [.int c]], 0, body40, dest⟩ :: frs⟩
      = some ⟨mkE H (entsA bv (Formulas.affineCached_Select v a b c) ++ entsA ba a ++ entsA bb b) E,
          ⟨40, f40, regs, #[[.ptr bv 0], [.ptr ba 0], [.ptr bb 0], [.int c]], 0, [⟨12, .none, 412, .ret [(.param 0)], 0, [26]⟩], dest⟩ :: frs⟩ := by
  apply Exists.intro
  intro H bv ba bb hfv hfa hfb hne_va hne_vb hne_ab  dest frs
  apply Exists.intro
  have hbv := hfv.1
  have hfv0 := fits_sub 0 hfv (by decide)
  have hfv1 := fits_sub 5 hfv (by decide)
  have hfv2 := fits_sub 10 hfv (by decide)
  have hba := hfa.1
  have hfa0 := fits_sub 0 hfa (by decide)
  have hfa1 := fits_sub 5 hfa (by decide)
  have hfa2 := fits_sub 10 hfa (by decide)
  have hbb := hfb.1
  have hfb0 := fits_sub 0 hfb (by decide)
  have hfb1 := fits_sub 5 hfb (by decide)
  have hfb2 := fits_sub 10 hfb (by decide)
  simp only [body40]
  ssa_execP [resultTys_40, ↓stepsA_Select, hbv, hfv0, hfv1, hfv2, hba, hfa0, hfa1, hfa2, hbb, hfb0, hfb1, hfb2, hne_va, hne_va.symm, hne_vb, hne_vb.symm, hne_ab, hne_ab.symm, hc, Multiply_rz, Square_rz, Add_rz, Subtract_rz, Select_rz, Set_rz]
  rfl

/-- the blocks `(*affineCached).Select` allocates -/
noncomputable def ext_affineCached_Select (v : AffineCached) (a : AffineCached) (b : AffineCached) (c : Nat) : List (Array Val) :=
  open Classical in if h : c < 2 ^ 64 then Classical.choose (preE_affineCached_Select v a b c h) else []

/-- `(*affineCached).Select` called from any frame on an arbitrary heap in which the parameters are structures of elements in distinct blocks -/
theorem callA_affineCached_Select (H : Heap) (bv ba bb : Nat) (c : Nat) (hc : c < 2 ^ 64) (hkv : Ok3 H bv) (hka : Ok3 H ba) (hkb : Ok3 H bb) (hne_va : bv ≠ ba) (hne_vb : bv ≠ bb) (hne_ab : ba ≠ bb)  (d : Nat) (cfi : Nat) (cf : Func) (cregs cparams : Array RVal) (cblk : Nat) (crest : List Instr) (cdest : Option Nat) (frs : List Frame) :
    steps prog 181 ⟨H, ⟨40, f40, #[], #[[.ptr bv 0], [.ptr ba 0], [.ptr bb 0], [.int c]], 0, body40, some d⟩ :: ⟨cfi, cf, cregs, cparams, cblk, crest, cdest⟩ :: frs⟩
      = some ⟨pushB (set3 bv (Formulas.affineCached_Select (getA H bv) (getA H ba) (getA H bb) c).YplusX (Formulas.affineCached_Select (getA H bv) (getA H ba) (getA H bb) c).YminusX (Formulas.affineCached_Select (getA H bv) (getA H ba) (getA H bb) c).T2d H) (ext_affineCached_Select (getA H bv) (getA H ba) (getA H bb) c),
          ⟨cfi, cf, regSet cregs d [.ptr bv 0], cparams, cblk, crest, cdest⟩ :: frs⟩ := by
  have hsc : c < 2 ^ 64 := hc
  obtain ⟨regs, hp⟩ := Classical.choose_spec (preE_affineCached_Select (getA H bv) (getA H ba) (getA H bb) c hc) H bv ba bb  (fits_ok3 hkv) (fits_ok3 hka) (fits_ok3 hkb) hne_va hne_vb hne_ab  (some d) (⟨cfi, cf, cregs, cparams, cblk, crest, cdest⟩ :: frs)
  rw [show mkE H (entsA bv (getA H bv) ++ entsA ba (getA H ba) ++ entsA bb (getA H bb)) [] = H from mkE_restates H _ (restatesO3 hkv (restatesO3 hka (restatesO3 hkb (restates_nil H))))] at hp
  rw [ext_affineCached_Select, dif_pos hsc]
  refine (steps_steps' hp 1).trans ?_
  ssa_execP [resultTys_40]
  refine congrArg (fun hp => some (⟨hp, _⟩ : State)) ?_
  exact mkE_head3 H bv _ _ _ _ _ (restatesO3 hka (restatesO3 hkb (restates_nil H)))

derive_rules callA_affineCached_Select runA_affineCached_Select stepsA_affineCached_Select

/-- **tie**: `(*affineCached).Select` on any heap in which the (pairwise distinct) parameter blocks hold the cells of the model values: the run
    terminates and returns the receiver; the receiver's block then holds the cells of T5's `Formulas.affineCached_Select`; every other block of the
    heap is unchanged (the heap grows by the locals of the run). -/
theorem tie_affineCached_Select (h : Heap) (bv ba bb : Nat) (v : AffineCached) (a : AffineCached) (b : AffineCached) (c : Nat) (hc : c < 2 ^ 64) (hcv : h.blocks[bv]? = some (cellsA v)) (hca : h.blocks[ba]? = some (cellsA a)) (hcb : h.blocks[bb]? = some (cellsA b)) (hne_va : bv ≠ ba) (hne_vb : bv ≠ bb) (hne_ab : ba ≠ bb)  :
    ∃ h', runCall prog 181 h (nm! "(*affineCached).Select") [[.ptr bv 0], [.ptr ba 0], [.ptr bb 0], [.int c]] = some (.done ⟨h', []⟩ [[.ptr bv 0]])
      ∧ Post1 h h' bv (cellsA (Formulas.affineCached_Select v a b c)) := by
  obtain ⟨E, pre⟩ := preE_affineCached_Select v a b c hc
  obtain ⟨regs, hp⟩ := pre h bv ba bb (fits_of_get hcv 15 (Nat.le_refl _)) (fits_of_get hca 15 (Nat.le_refl _)) (fits_of_get hcb 15 (Nat.le_refl _)) hne_va hne_vb hne_ab  none []
  rw [show mkE h (entsA bv v ++ entsA ba a ++ entsA bb b) [] = h from mkE_restates h _ (restates3 hcv (restates3 hca (restates3 hcb (restates_nil h))))] at hp
  refine ⟨_, ?_, post1_mkE3 _ _ _ _ E hcv (cells3_size _ _ _) (restates3 hca (restates3 hcb (restates_nil h)))⟩
  simp only [runCall, funcIdx_40, callState, funcs_40, mkFrame_40, Option.bind_some, Option.map_some, Option.pure_def,
    Option.bind_eq_bind]
  rw [run_steps' hp 1]
  ssa_execP [resultTys_40]

end EdVerif.Ssa.Tie
