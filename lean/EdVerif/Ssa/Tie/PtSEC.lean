import EdVerif.Ssa.Tie.PtOnCurve
/-!
# `(*Point).SetExtendedCoordinates`: SSA execution = T5's `Formulas.Point_SetExtendedCoordinates` (pair form)

`isOnCurve` through `runA_isOnCurve` (its step count `ocSteps` is part of the fuel; two runs, by its result); on success the four `Set` go through `runA_Set`, on failure `errors.New` returns the error value.
-/
namespace EdVerif.Ssa.Tie
open EdVerif.Ssa EdVerif.Gen.Ssa EdVerif.Prims EdVerif.Impl EdVerif.Gen
set_option maxRecDepth 100000

theorem extern_errorsNew (p : Program) (hp : Heap) (fr : Frame) (frs : List Frame) (i : Instr) (n : Nat) :
    stepExtern p hp fr frs i N45 [[.opaque n]] = contReg fr frs i.id [.opaque n] hp [] := by
  have h1 : (N45 == Ext.mul64) = false := by decide
  have h2 : (N45 == Ext.add64) = false := by decide
  have h3 : (N45 == Ext.sub64) = false := by decide
  have h4 : (N45 == Ext.ctByteEq) = false := by decide
  have h5 : (N45 == Ext.ctCompare) = false := by decide
  have h6 : (N45 == Ext.leUint64) = false := by decide
  have h7 : (N45 == Ext.lePutUint64) = false := by decide
  have h8 : (N45 == Ext.errorsNew) = true := by decide
  simp only [stepExtern, h1, h2, h3, h4, h5, h6, h7, h8, if_true, Bool.false_eq_true, if_false]

def body12 : List Instr := body% f12
def blk12_1 : List Instr := block% f12 1
def blk12_2 : List Instr := block% f12 2
theorem funcs_12 : prog.funcs[12]? = some f12 := rfl
theorem mkFrame_12 (args : List RVal) (dest : Option Nat) :
    mkFrame 12 f12 args dest = some ⟨12, f12, #[], args.toArray, 0, body12, dest⟩ := rfl
theorem resultTys_12 : f12.resultTys = [6, 32] := rfl
theorem funcIdx_12 : prog.funcIdx? (nm! "(*Point).SetExtendedCoordinates") = some 12 := by decide +kernel

section jumps
variable (regs params : Array RVal) (rest : List Instr) (dest : Option Nat)
theorem jumpTo_12_0_1 : jumpTo prog ⟨12, f12, regs, params, 0, rest, dest⟩ 1 = some ⟨12, f12, regs, params, 1, blk12_1, dest⟩ := rfl
theorem jumpTo_12_0_2 : jumpTo prog ⟨12, f12, regs, params, 0, rest, dest⟩ 2 = some ⟨12, f12, regs, params, 2, blk12_2, dest⟩ := rfl
end jumps

/-- the values returned by `SetExtendedCoordinates`: `(v, nil)` or `(nil, error)` -/
def retSEC (bv : Nat) : Option P3 → List RVal
  | some _ => [[.ptr bv 0], [.nil]]
  | none => [[.nil], [.opaque (Nm.ofString "edwards25519: invalid point coordinates" + 16)]]

/-- `(*Point).SetExtendedCoordinates` as the outermost call, on the canonical heap of its parameters; the coordinates are not on the curve -/
theorem coreE_SEC_f (v : P3) (X Y Z T : Fe) (hoc : Formulas.isOnCurve X Y Z T = false) {H : Heap} {bv bX bY bZ bT bg_d : Nat}
    (hh : OcHeap H bX bY bZ bT bg_d) (hfv : Fits H bv 0 20) (hne_vX : bv ≠ bX) (hne_vY : bv ≠ bY) (hne_vZ : bv ≠ bZ) (hne_vT : bv ≠ bT) (hne_v_d : bv ≠ bg_d) (hng_v : bv ≠ 3) :
    run prog (30 + ocSteps X Y Z T + 1) ⟨mkE H (entsP3 bv v ++ ocEnts bX bY bZ bT bg_d X Y Z T) [],
        [⟨12, f12, #[], #[[.ptr bv 0], [.ptr bX 0], [.ptr bY 0], [.ptr bZ 0], [.ptr bT 0]], 0, body12, none⟩]⟩
      = .done ⟨mkE H (entsP3 bv v ++ ocEnts bX bY bZ bT bg_d X Y Z T) (ocExt X Y Z T), []⟩ [[.nil], [.opaque (Nm.ofString "edwards25519: invalid point coordinates" + 16)]] := by
  have hbv := hfv.1
  have hfv0 := fits_sub 0 hfv (by decide)
  have hfv1 := fits_sub 5 hfv (by decide)
  have hfv2 := fits_sub 10 hfv (by decide)
  have hfv3 := fits_sub 15 hfv (by decide)
  simp only [body12]
  ssa_execOh hh [resultTys_12, blk12_1, blk12_2, jumpTo_12_0_1, jumpTo_12_0_2, funcs_106, mkFrame_106, ↓runA_isOnCurve X Y Z T, ↓runA_Set, extern_errorsNew,
    hoc, hbv, hfv0, hfv1, hfv2, hfv3, hne_vX, hne_vX.symm, hne_vY, hne_vY.symm, hne_vZ, hne_vZ.symm, hne_vT, hne_vT.symm, hne_v_d, hne_v_d.symm,
    hng_v, hng_v.symm]

/-- `(*Point).SetExtendedCoordinates` as the outermost call, on the canonical heap of its parameters; the coordinates are on the curve -/
theorem coreE_SEC_t (v : P3) (X Y Z T : Fe) (hoc : Formulas.isOnCurve X Y Z T = true) {H : Heap} {bv bX bY bZ bT bg_d : Nat}
    (hh : OcHeap H bX bY bZ bT bg_d) (hfv : Fits H bv 0 20) (hne_vX : bv ≠ bX) (hne_vY : bv ≠ bY) (hne_vZ : bv ≠ bZ) (hne_vT : bv ≠ bT) (hne_v_d : bv ≠ bg_d) (hng_v : bv ≠ 3) :
    run prog (30 + ocSteps X Y Z T + 1) ⟨mkE H (entsP3 bv v ++ ocEnts bX bY bZ bT bg_d X Y Z T) [],
        [⟨12, f12, #[], #[[.ptr bv 0], [.ptr bX 0], [.ptr bY 0], [.ptr bZ 0], [.ptr bT 0]], 0, body12, none⟩]⟩
      = .done ⟨mkE H (ents4 bv X Y Z T ++ ocEnts bX bY bZ bT bg_d X Y Z T) (ocExt X Y Z T), []⟩ [[.ptr bv 0], [.nil]] := by
  have hbv := hfv.1
  have hfv0 := fits_sub 0 hfv (by decide)
  have hfv1 := fits_sub 5 hfv (by decide)
  have hfv2 := fits_sub 10 hfv (by decide)
  have hfv3 := fits_sub 15 hfv (by decide)
  simp only [body12]
  ssa_execOh hh [resultTys_12, blk12_1, blk12_2, jumpTo_12_0_1, jumpTo_12_0_2, funcs_106, mkFrame_106, ↓runA_isOnCurve X Y Z T, ↓runA_Set, extern_errorsNew,
    hoc, hbv, hfv0, hfv1, hfv2, hfv3, hne_vX, hne_vX.symm, hne_vY, hne_vY.symm, hne_vZ, hne_vZ.symm, hne_vT, hne_vT.symm, hne_v_d, hne_v_d.symm,
    hng_v, hng_v.symm]

theorem post1_pushB_same {h : Heap} {b : Nat} {V : Array Val} (E : List (Array Val)) (hb : h.blocks[b]? = some V) :
    Post1 h (pushB h E) b V :=
  ⟨by rw [pushB_size]; omega, by rw [get_pushB_lt h E b (lt_of_get hb)]; exact hb, fun c hc _ => get_pushB_lt h E c hc⟩

/-- **tie**: `v.SetExtendedCoordinates(X, Y, Z, T)` on any heap in which block `bv` holds the cells of the point `v`, the pairwise distinct
    blocks `bX … bT` hold the limbs of `X … T`, the package variable `d` (global 2 = block 3) points to a block (distinct from them)
    holding `Point.d`, and the block of `binary.LittleEndian` exists: the run terminates; it returns `(v, nil)` or `(nil, error)` according to
    the first component of T5's `Formulas.Point_SetExtendedCoordinates v X Y Z T`, and block `bv` then holds the cells of its second
    component (the final receiver); every other block of the heap is unchanged. -/
theorem tie_Point_SetExtendedCoordinates (h : Heap) (bv bX bY bZ bT bg_d : Nat) (v : P3) (X Y Z T : Fe)
    (hcv : h.blocks[bv]? = some (cellsP3 v))
    (hcX : h.blocks[bX]? = some (feCells X)) (hcY : h.blocks[bY]? = some (feCells Y)) (hcZ : h.blocks[bZ]? = some (feCells Z))
    (hcT : h.blocks[bT]? = some (feCells T))
    (hne_XY : bX ≠ bY) (hne_XZ : bX ≠ bZ) (hne_XT : bX ≠ bT) (hne_YZ : bY ≠ bZ) (hne_YT : bY ≠ bT) (hne_ZT : bZ ≠ bT)
    (hgp_d : h.blocks[3]? = some #[.ptr bg_d 0]) (hgv_d : h.blocks[bg_d]? = some (feCells Point.d))
    (hne_X_d : bX ≠ bg_d) (hne_Y_d : bY ≠ bg_d) (hne_Z_d : bZ ≠ bg_d) (hne_T_d : bT ≠ bg_d) (h16 : 16 < h.blocks.size) :
    ∃ h', runCall prog 10300 h (nm! "(*Point).SetExtendedCoordinates") [[.ptr bv 0], [.ptr bX 0], [.ptr bY 0], [.ptr bZ 0], [.ptr bT 0]]
            = some (.done ⟨h', []⟩ (retSEC bv (Formulas.Point_SetExtendedCoordinates v X Y Z T).1))
      ∧ Post1 h h' bv (cellsP3 (Formulas.Point_SetExtendedCoordinates v X Y Z T).2) := by
  have hh := ocHeap_of_cells hcX hcY hcZ hcT hne_XY hne_XZ hne_XT hne_YZ hne_YT hne_ZT hgp_d hgv_d hne_X_d hne_Y_d hne_Z_d hne_T_d h16
  have hr_rest : Restates h (ocEnts bX bY bZ bT bg_d X Y Z T) :=
    restates_feCells hcX (restates_feCells hcY (restates_feCells hcZ (restates_feCells hcT (restates_feCells hgv_d (restates_nil h)))))
  have hr_in : Restates h (entsP3 bv v ++ ocEnts bX bY bZ bT bg_d X Y Z T) := restates4 hcv hr_rest
  have hle : 30 + ocSteps X Y Z T + 1 ≤ 10300 := by have := ocSteps_le X Y Z T; omega
  cases hoc : Formulas.isOnCurve X Y Z T with
  | false =>
    have core := run_done_mono (coreE_SEC_f v X Y Z T hoc hh (fits_of_get hcv 20 (Nat.le_refl _))
      (ne_of_size' hcv hcX (n1 := 20) (n2 := 5) rfl rfl (by decide)) (ne_of_size' hcv hcY (n1 := 20) (n2 := 5) rfl rfl (by decide))
      (ne_of_size' hcv hcZ (n1 := 20) (n2 := 5) rfl rfl (by decide)) (ne_of_size' hcv hcT (n1 := 20) (n2 := 5) rfl rfl (by decide))
      (ne_of_size' hcv hgv_d (n1 := 20) (n2 := 5) rfl rfl (by decide)) (ne_of_size' hcv hgp_d (n1 := 20) (n2 := 1) rfl rfl (by decide))) hle
    have hS : Formulas.Point_SetExtendedCoordinates v X Y Z T = (none, v) := by
      unfold Formulas.Point_SetExtendedCoordinates
      simp only [hoc, Bool.false_eq_true, if_false]
    rw [hS]
    rw [mkE_restates h _ hr_in, mkE_restates_ext h _ _ hr_in] at core
    refine ⟨pushB h (ocExt X Y Z T), ?_, post1_pushB_same _ hcv⟩
    simp only [runCall, funcIdx_12, callState, funcs_12, mkFrame_12, Option.bind_some, Option.map_some, Option.pure_def,
      Option.bind_eq_bind]
    rw [core]
    rfl
  | true =>
    have core := run_done_mono (coreE_SEC_t v X Y Z T hoc hh (fits_of_get hcv 20 (Nat.le_refl _))
      (ne_of_size' hcv hcX (n1 := 20) (n2 := 5) rfl rfl (by decide)) (ne_of_size' hcv hcY (n1 := 20) (n2 := 5) rfl rfl (by decide))
      (ne_of_size' hcv hcZ (n1 := 20) (n2 := 5) rfl rfl (by decide)) (ne_of_size' hcv hcT (n1 := 20) (n2 := 5) rfl rfl (by decide))
      (ne_of_size' hcv hgv_d (n1 := 20) (n2 := 5) rfl rfl (by decide)) (ne_of_size' hcv hgp_d (n1 := 20) (n2 := 1) rfl rfl (by decide))) hle
    have hS : Formulas.Point_SetExtendedCoordinates v X Y Z T = (some ⟨X, Y, Z, T⟩, ⟨X, Y, Z, T⟩) := by
      unfold Formulas.Point_SetExtendedCoordinates
      simp only [hoc, if_true]
    rw [hS]
    rw [mkE_restates h _ hr_in] at core
    refine ⟨_, ?_, post1_mkE4 X Y Z T _ (ocExt X Y Z T) hcv (cells4_size _ _ _ _) hr_rest⟩
    simp only [runCall, funcIdx_12, callState, funcs_12, mkFrame_12, Option.bind_some, Option.map_some, Option.pure_def,
      Option.bind_eq_bind]
    rw [core]
    rfl

end EdVerif.Ssa.Tie
