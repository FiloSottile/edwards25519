import EdVerif.Ssa.Tie.PtBase
/-!
# Structures of elements (`Point`, `projP1xP1`, `projP2`, `projCached`, `affineCached`) in the heap

Whole blocks (`cells3`, `cells4`) for the top-level `tie_*` statements; `Ok*`/`get*`/`set*` for the abstract call lemmas of the
point-layer functions (used by the functions that call them).
-/
namespace EdVerif.Ssa.Tie
open EdVerif.Ssa EdVerif.Gen.Ssa EdVerif.Prims EdVerif.Impl
set_option maxRecDepth 100000

/-! ## whole blocks -/

def cells3 (a b c : Fe) : Array Val := (feL a ++ feL b ++ feL c).toArray
def cells4 (a b c d : Fe) : Array Val := (feL a ++ feL b ++ feL c ++ feL d).toArray

def cellsP3 (p : P3) : Array Val := cells4 p.x p.y p.z p.t
def cellsP1 (p : P1xP1) : Array Val := cells4 p.X p.Y p.Z p.T
def cellsP2 (p : P2) : Array Val := cells3 p.X p.Y p.Z
def cellsC (p : Cached) : Array Val := cells4 p.YplusX p.YminusX p.Z p.T2d
def cellsA (p : AffineCached) : Array Val := cells3 p.YplusX p.YminusX p.T2d

theorem restates_one {h : Heap} {b o : Nat} {V : Array Val} {W : List Val} {r : List Ent} (hb : h.blocks[b]? = some V)
    (hW : ∀ k, k < W.length → V[o + k]? = W[k]?) (hr : Restates h r) : Restates h ((b, o, W) :: r) := by
  intro e he k hk
  rcases List.mem_cons.mp he with rfl | he
  · rw [cell_of_get hb]; exact hW k hk
  · exact hr e he k hk

theorem lt5_cases {P : Nat → Prop} (h0 : P 0) (h1 : P 1) (h2 : P 2) (h3 : P 3) (h4 : P 4) : ∀ k, k < 5 → P k := by
  intro k hk
  match k, hk with
  | 0, _ => exact h0
  | 1, _ => exact h1
  | 2, _ => exact h2
  | 3, _ => exact h3
  | 4, _ => exact h4

theorem restates3 {h : Heap} {b : Nat} {x y z : Fe} {r : List Ent} (hb : h.blocks[b]? = some (cells3 x y z)) (hr : Restates h r) :
    Restates h ((b, 0, feL x) :: (b, 5, feL y) :: (b, 10, feL z) :: r) := by
  refine restates_one hb ?_ (restates_one hb ?_ (restates_one hb ?_ hr))
  · exact lt5_cases rfl rfl rfl rfl rfl
  · exact lt5_cases rfl rfl rfl rfl rfl
  · exact lt5_cases rfl rfl rfl rfl rfl

theorem restates4 {h : Heap} {b : Nat} {x y z t : Fe} {r : List Ent} (hb : h.blocks[b]? = some (cells4 x y z t)) (hr : Restates h r) :
    Restates h ((b, 0, feL x) :: (b, 5, feL y) :: (b, 10, feL z) :: (b, 15, feL t) :: r) := by
  refine restates_one hb ?_ (restates_one hb ?_ (restates_one hb ?_ (restates_one hb ?_ hr)))
  · exact lt5_cases rfl rfl rfl rfl rfl
  · exact lt5_cases rfl rfl rfl rfl rfl
  · exact lt5_cases rfl rfl rfl rfl rfl
  · exact lt5_cases rfl rfl rfl rfl rfl

/-! ## the final heap -/

theorem ovl_append (V : Array Val) (o : Nat) (W1 W2 : List Val) : ovl (ovl V (o + W1.length) W2) o W1 = ovl V o (W1 ++ W2) := by
  apply Array.ext_getElem?
  intro i
  simp only [ovl_get, ovl_size, List.length_append]
  by_cases h1 : o ≤ i ∧ i < o + W1.length ∧ i < V.size
  · rw [if_pos h1, if_pos (by omega), List.getElem?_append_left (by omega)]
  · rw [if_neg h1]
    by_cases h2 : o + W1.length ≤ i ∧ i < o + W1.length + W2.length ∧ i < V.size
    · rw [if_pos h2, if_pos (by omega), List.getElem?_append_right (by omega)]
      congr 1; omega
    · rw [if_neg h2, if_neg (by omega)]

theorem post1_mkE3 {h : Heap} {b : Nat} {V : Array Val} (x y z : Fe) (rest : List Ent) (E : List (Array Val))
    (hb : h.blocks[b]? = some V) (hs : V.size = 15) (hr : Restates h rest) :
    Post1 h (mkE h ((b, 0, feL x) :: (b, 5, feL y) :: (b, 10, feL z) :: rest) E) b (cells3 x y z) := by
  have hlt := lt_of_get hb
  rw [mkE_eq]
  simp only [baseE]
  rw [baseE_restates h rest hr]
  refine ⟨by simp only [pushB_size, ovE_size]; omega, ?_, ?_⟩
  · rw [get_pushB_lt _ _ _ (by simpa using hlt), get_ovE_same, get_ovE_same, get_ovE_same, hb]
    simp only [Option.map_some]
    refine congrArg some ?_
    unfold cells3
    have e1 := ovl_append V 5 (feL y) (feL z)
    have e2 := ovl_append V 0 (feL x) (feL y ++ feL z)
    simp only [feL_length, Nat.zero_add, Nat.reduceAdd] at e1 e2
    rw [e1, e2, ← List.append_assoc]
    exact ovl_full _ _ (by simp only [List.length_append, feL_length, hs])
  · intro c hc hne
    rw [get_pushB_lt _ _ _ (by simpa using hc), get_ovE_other _ _ _ _ _ hne, get_ovE_other _ _ _ _ _ hne, get_ovE_other _ _ _ _ _ hne]

theorem post1_mkE4 {h : Heap} {b : Nat} {V : Array Val} (x y z t : Fe) (rest : List Ent) (E : List (Array Val))
    (hb : h.blocks[b]? = some V) (hs : V.size = 20) (hr : Restates h rest) :
    Post1 h (mkE h ((b, 0, feL x) :: (b, 5, feL y) :: (b, 10, feL z) :: (b, 15, feL t) :: rest) E) b (cells4 x y z t) := by
  have hlt := lt_of_get hb
  rw [mkE_eq]
  simp only [baseE]
  rw [baseE_restates h rest hr]
  refine ⟨by simp only [pushB_size, ovE_size]; omega, ?_, ?_⟩
  · rw [get_pushB_lt _ _ _ (by simpa using hlt), get_ovE_same, get_ovE_same, get_ovE_same, get_ovE_same, hb]
    simp only [Option.map_some]
    refine congrArg some ?_
    unfold cells4
    have e0 := ovl_append V 10 (feL z) (feL t)
    have e1 := ovl_append V 5 (feL y) (feL z ++ feL t)
    have e2 := ovl_append V 0 (feL x) (feL y ++ (feL z ++ feL t))
    simp only [feL_length, Nat.zero_add, Nat.reduceAdd] at e0 e1 e2
    rw [e0, e1, e2, ← List.append_assoc, ← List.append_assoc]
    exact ovl_full _ _ (by simp only [List.length_append, feL_length, hs])
  · intro c hc hne
    rw [get_pushB_lt _ _ _ (by simpa using hc), get_ovE_other _ _ _ _ _ hne, get_ovE_other _ _ _ _ _ hne, get_ovE_other _ _ _ _ _ hne,
      get_ovE_other _ _ _ _ _ hne]

theorem cells3_size (a b c : Fe) : (cells3 a b c).size = 15 := rfl
theorem cells4_size (a b c d : Fe) : (cells4 a b c d).size = 20 := rfl

/-! ## structures in an arbitrary heap -/

def Ok3 (H : Heap) (b : Nat) : Prop := OkE H b 0 ∧ OkE H b 5 ∧ OkE H b 10
def Ok4 (H : Heap) (b : Nat) : Prop := OkE H b 0 ∧ OkE H b 5 ∧ OkE H b 10 ∧ OkE H b 15

def getP3 (H : Heap) (b : Nat) : P3 := ⟨getE H b 0, getE H b 5, getE H b 10, getE H b 15⟩
def getP1 (H : Heap) (b : Nat) : P1xP1 := ⟨getE H b 0, getE H b 5, getE H b 10, getE H b 15⟩
def getP2 (H : Heap) (b : Nat) : P2 := ⟨getE H b 0, getE H b 5, getE H b 10⟩
def getC (H : Heap) (b : Nat) : Cached := ⟨getE H b 0, getE H b 5, getE H b 10, getE H b 15⟩
def getA (H : Heap) (b : Nat) : AffineCached := ⟨getE H b 0, getE H b 5, getE H b 10⟩

def set3 (b : Nat) (x y z : Fe) (H : Heap) : Heap := setE b 0 x (setE b 5 y (setE b 10 z H))
def set4 (b : Nat) (x y z t : Fe) (H : Heap) : Heap := setE b 0 x (setE b 5 y (setE b 10 z (setE b 15 t H)))

theorem Ok3_eq (H : Heap) (b : Nat) : Ok3 H b = (OkE H b 0 ∧ OkE H b 5 ∧ OkE H b 10) := by rw [Ok3]
theorem Ok4_eq (H : Heap) (b : Nat) : Ok4 H b = (OkE H b 0 ∧ OkE H b 5 ∧ OkE H b 10 ∧ OkE H b 15) := by rw [Ok4]
theorem getP3_eq (H : Heap) (b : Nat) : getP3 H b = ⟨getE H b 0, getE H b 5, getE H b 10, getE H b 15⟩ := by rw [getP3]
theorem getP1_eq (H : Heap) (b : Nat) : getP1 H b = ⟨getE H b 0, getE H b 5, getE H b 10, getE H b 15⟩ := by rw [getP1]
theorem getP2_eq (H : Heap) (b : Nat) : getP2 H b = ⟨getE H b 0, getE H b 5, getE H b 10⟩ := by rw [getP2]
theorem getC_eq (H : Heap) (b : Nat) : getC H b = ⟨getE H b 0, getE H b 5, getE H b 10, getE H b 15⟩ := by rw [getC]
theorem getA_eq (H : Heap) (b : Nat) : getA H b = ⟨getE H b 0, getE H b 5, getE H b 10⟩ := by rw [getA]
theorem set3_eq (b : Nat) (x y z : Fe) (H : Heap) : set3 b x y z H = setE b 0 x (setE b 5 y (setE b 10 z H)) := by rw [set3]
theorem set4_eq (b : Nat) (x y z t : Fe) (H : Heap) : set4 b x y z t H = setE b 0 x (setE b 5 y (setE b 10 z (setE b 15 t H))) := by
  rw [set4]

theorem restatesO3 {H : Heap} {b : Nat} {r : List Ent} (h : Ok3 H b) (hr : Restates H r) :
    Restates H ((b, 0, feL (getE H b 0)) :: (b, 5, feL (getE H b 5)) :: (b, 10, feL (getE H b 10)) :: r) :=
  restates_cons h.1 (restates_cons h.2.1 (restates_cons h.2.2 hr))

theorem restatesO4 {H : Heap} {b : Nat} {r : List Ent} (h : Ok4 H b) (hr : Restates H r) :
    Restates H ((b, 0, feL (getE H b 0)) :: (b, 5, feL (getE H b 5)) :: (b, 10, feL (getE H b 10)) :: (b, 15, feL (getE H b 15)) :: r) :=
  restates_cons h.1 (restates_cons h.2.1 (restates_cons h.2.2.1 (restates_cons h.2.2.2 hr)))

theorem fits_ok3 {H : Heap} {b : Nat} (h : Ok3 H b) : Fits H b 0 15 := ⟨h.1.1.1, by have := h.2.2.1.2; omega⟩
theorem fits_ok4 {H : Heap} {b : Nat} (h : Ok4 H b) : Fits H b 0 20 := ⟨h.1.1.1, by have := h.2.2.2.1.2; omega⟩

theorem mkE_head3 (H : Heap) (b : Nat) (W1 W2 W3 : List Val) (rest : List Ent) (E : List (Array Val)) (hr : Restates H rest) :
    mkE H ((b, 0, W1) :: (b, 5, W2) :: (b, 10, W3) :: rest) E = pushB (ovE b 0 W1 (ovE b 5 W2 (ovE b 10 W3 H))) E := by
  rw [mkE_eq]; simp only [baseE]; rw [baseE_restates H rest hr]

theorem mkE_head4 (H : Heap) (b : Nat) (W1 W2 W3 W4 : List Val) (rest : List Ent) (E : List (Array Val)) (hr : Restates H rest) :
    mkE H ((b, 0, W1) :: (b, 5, W2) :: (b, 10, W3) :: (b, 15, W4) :: rest) E
      = pushB (ovE b 0 W1 (ovE b 5 W2 (ovE b 10 W3 (ovE b 15 W4 H)))) E := by
  rw [mkE_eq]; simp only [baseE]; rw [baseE_restates H rest hr]

end EdVerif.Ssa.Tie
