import EdVerif.Ssa.Tie.FiatAdd
/-!
# `(*Scalar).Add`
-/
namespace EdVerif.Ssa.Tie
open EdVerif.Ssa EdVerif.Gen.Ssa EdVerif.Prims EdVerif.Gen.Fiat
set_option maxRecDepth 100000

def body21 : List Instr := body% f21
theorem funcs_21 : prog.funcs[21]? = some f21 := rfl
theorem mkFrame_21 (args : List RVal) (dest : Option Nat) :
    mkFrame 21 f21 args dest = some ⟨21, f21, #[], args.toArray, 0, body21, dest⟩ := rfl
theorem resultTys_21 : f21.resultTys = [29] := rfl
theorem funcIdx_21 : prog.funcIdx? (nm! "(*Scalar).Add") = some 21 := by decide +kernel

/-- **tie** (any aliasing): `(*Scalar).Add` on an arbitrary heap in which the argument blocks hold the words of the arguments
    (the blocks may coincide, in which case the arguments do). -/
theorem tie_Scalar_Add (h : Heap) (bs bp bq : Nat) (s p q : W4) 
    (hs : h.blocks[bs]? = some (w4Cells s)) (hp : h.blocks[bp]? = some (w4Cells p)) (hq : h.blocks[bq]? = some (w4Cells q)) :
    ∃ h', runCall prog 121 h (nm! "(*Scalar).Add") [[.ptr bs 0], [.ptr bp 0], [.ptr bq 0]] = some (.done ⟨h', []⟩ [[.ptr bs 0]])
      ∧ Post1 h h' bs (w4Cells (EdVerif.Gen.Fiat.Add s p q)) := by
  obtain ⟨ext, hc⟩ := call_fiatScalarAdd h bs bp bq s p q  hs hp hq 3 21 f21 (regsN 3 [[.ptr bq 0], [.ptr bp 0], [.ptr bs 0]]) #[[.ptr bs 0], [.ptr bp 0], [.ptr bq 0]] 0 (List.drop 4 body21) none []
  simp only [body21, List.drop_succ_cons, List.drop_zero] at hc
  refine ⟨_, ?_, post1_base _ ext (lt_of_get hs)⟩
  rw [runCall_eq funcIdx_21 funcs_21 (mkFrame_21 _ _)]
  simp only [body21]
  fiat_exec [resultTys_21, funcs_95, mkFrame_95, ↓run_steps' hc]
  rfl

end EdVerif.Ssa.Tie
