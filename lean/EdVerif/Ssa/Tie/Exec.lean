import Lean
import EdVerif.Ssa.Tie.Heap
import EdVerif.Gen.Ssa
/-!
# Rewrite rules that evaluate `step` on a state with a literal frame and a canonical heap

Everything here is either `rfl` or a one-line unfolding of `Sem.lean`; the rules are stated only for
states whose top frame is a constructor application with a literal next instruction, so that `simp`
never unfolds the interpreter on a variable.
-/
namespace EdVerif.Ssa.Tie
open EdVerif.Ssa EdVerif.Gen.Ssa
set_option maxRecDepth 100000

/-! ## driving `run` and `steps` without exposing a binder -/

def runK (p : Program) (fuel : Nat) : Step → Outcome
  | .cont s' _ => run p fuel s'
  | .done s' r _ => .done s' r
  | .panic s' c _ => .panic s' c
  | .fault w => .fault w

theorem run_succ (p : Program) (fuel : Nat) (s : State) : run p (fuel + 1) s = runK p fuel (step p s) := by
  rw [run]; cases step p s <;> rfl

theorem runK_cont (p : Program) (fuel : Nat) (s : State) (ev) : runK p fuel (.cont s ev) = run p fuel s := rfl
theorem runK_done (p : Program) (fuel : Nat) (s : State) (r ev) : runK p fuel (.done s r ev) = .done s r := rfl

def stepsK (p : Program) (k : Nat) : Step → Option State
  | .cont s' _ => steps p k s'
  | _ => none

theorem steps_succ (p : Program) (k : Nat) (s : State) : steps p (k + 1) s = stepsK p k (step p s) := by
  rw [steps]; cases step p s <;> rfl

theorem stepsK_cont (p : Program) (k : Nat) (s : State) (ev) : stepsK p k (.cont s ev) = steps p k s := rfl
theorem steps_zero (p : Program) (s : State) : steps p 0 s = some s := rfl

/-! ## dispatch on the next instruction (all `rfl`) -/
section dispatch
variable (p : Program) (hp : Heap) (fi : Nat) (f : Func) (regs params : Array RVal) (blk : Nat) (rest : List Instr)
  (dest : Option Nat) (frs : List Frame) (id : Nat) (k : VK) (ln ty : Nat) (tys : List Nat)

theorem step_alloc (a : Bool) (e : VK) :
    step p ⟨hp, ⟨fi, f, regs, params, blk, ⟨id, k, ln, .alloc a e, ty, tys⟩ :: rest, dest⟩ :: frs⟩
      = stepAlloc p hp ⟨fi, f, regs, params, blk, rest, dest⟩ frs ⟨id, k, ln, .alloc a e, ty, tys⟩ := rfl

theorem step_binop (op : BinOp) (xk : VK) (x y : Opnd) :
    step p ⟨hp, ⟨fi, f, regs, params, blk, ⟨id, k, ln, .binop op xk x y, ty, tys⟩ :: rest, dest⟩ :: frs⟩
      = stepBinop p hp ⟨fi, f, regs, params, blk, rest, dest⟩ frs ⟨id, k, ln, .binop op xk x y, ty, tys⟩ op xk x y := rfl

theorem step_unop (op : UnOp) (x : Opnd) :
    step p ⟨hp, ⟨fi, f, regs, params, blk, ⟨id, k, ln, .unop op x, ty, tys⟩ :: rest, dest⟩ :: frs⟩
      = stepUnop p hp ⟨fi, f, regs, params, blk, rest, dest⟩ frs ⟨id, k, ln, .unop op x, ty, tys⟩ op x := rfl

theorem step_load (x : Opnd) :
    step p ⟨hp, ⟨fi, f, regs, params, blk, ⟨id, k, ln, .load x, ty, tys⟩ :: rest, dest⟩ :: frs⟩
      = stepLoad p hp ⟨fi, f, regs, params, blk, rest, dest⟩ frs ⟨id, k, ln, .load x, ty, tys⟩ x := rfl

theorem step_call (c : Callee) (args : List Opnd) :
    step p ⟨hp, ⟨fi, f, regs, params, blk, ⟨id, k, ln, .call c args, ty, tys⟩ :: rest, dest⟩ :: frs⟩
      = stepCall p hp ⟨fi, f, regs, params, blk, rest, dest⟩ frs ⟨id, k, ln, .call c args, ty, tys⟩ c args := rfl

theorem step_convert (fk : VK) (x : Opnd) :
    step p ⟨hp, ⟨fi, f, regs, params, blk, ⟨id, k, ln, .convert fk x, ty, tys⟩ :: rest, dest⟩ :: frs⟩
      = stepConvert p hp ⟨fi, f, regs, params, blk, rest, dest⟩ frs ⟨id, k, ln, .convert fk x, ty, tys⟩ fk x := rfl

theorem step_extract (x : Opnd) (idx : Nat) :
    step p ⟨hp, ⟨fi, f, regs, params, blk, ⟨id, k, ln, .extract x idx, ty, tys⟩ :: rest, dest⟩ :: frs⟩
      = stepField p hp ⟨fi, f, regs, params, blk, rest, dest⟩ frs ⟨id, k, ln, .extract x idx, ty, tys⟩ x idx := rfl

theorem step_fieldAddr (x : Opnd) (fld : Nat) (nm : Nm) :
    step p ⟨hp, ⟨fi, f, regs, params, blk, ⟨id, k, ln, .fieldAddr x fld nm, ty, tys⟩ :: rest, dest⟩ :: frs⟩
      = stepFieldAddr p hp ⟨fi, f, regs, params, blk, rest, dest⟩ frs ⟨id, k, ln, .fieldAddr x fld nm, ty, tys⟩ x fld := rfl

theorem step_field (x : Opnd) (fld : Nat) (nm : Nm) :
    step p ⟨hp, ⟨fi, f, regs, params, blk, ⟨id, k, ln, .field x fld nm, ty, tys⟩ :: rest, dest⟩ :: frs⟩
      = stepField p hp ⟨fi, f, regs, params, blk, rest, dest⟩ frs ⟨id, k, ln, .field x fld nm, ty, tys⟩ x fld := rfl

theorem step_store (vk : VK) (a v : Opnd) :
    step p ⟨hp, ⟨fi, f, regs, params, blk, ⟨id, k, ln, .store vk a v, ty, tys⟩ :: rest, dest⟩ :: frs⟩
      = stepStore p hp ⟨fi, f, regs, params, blk, rest, dest⟩ frs ⟨id, k, ln, .store vk a v, ty, tys⟩ a v := rfl

theorem step_ret (vals : List Opnd) :
    step p ⟨hp, ⟨fi, f, regs, params, blk, ⟨id, k, ln, .ret vals, ty, tys⟩ :: rest, dest⟩ :: frs⟩
      = stepRet p hp ⟨fi, f, regs, params, blk, rest, dest⟩ frs vals := rfl

end dispatch

/-! ## operands -/
section opnd
variable (p : Program) (fr : Frame) (ty : Nat)
theorem evalOpnd_reg (id : Nat) : evalOpnd p fr ty (.reg id) = fr.regs[id]? := rfl
theorem evalOpnd_param (i : Nat) : evalOpnd p fr ty (.param i) = fr.params[i]? := rfl
theorem evalOpnd_cint (k : VK) (v : Nat) : evalOpnd p fr ty (.cint k v) = some [.int v] := rfl
theorem evalOpnd_global (g : Nat) : evalOpnd p fr ty (.global g) = some [.ptr (g + 1) 0] := rfl
theorem evalOpnds_nil (tys : List Nat) : evalOpnds p fr [] tys = some [] := rfl
theorem evalOpnds_cons (o : Opnd) (os : List Opnd) (tys : List Nat) :
    evalOpnds p fr (o :: os) tys
      = (evalOpnd p fr (tys.headD 0) o).bind (fun v => (evalOpnds p fr os tys.tail).bind (fun vs => some (v :: vs))) := rfl
end opnd

/-! ## registers -/

/-- The register file of `n` registers whose contents, newest register first, are `r` (a register that `r` does not reach is
    empty).  The steppers keep a frame's registers in this form: a new register is a `cons` and a literal increment of `n`, a
    lookup walks back only as far as the defining instruction (SSA operands are mostly recent), and neither asks for the length of
    `r`.  On the `List.toArray` literal, oldest first, every step re-normalises an append and every lookup walks from the front:
    quadratic in the length of the body. -/
def regsN (n : Nat) (r : List RVal) : Array RVal := ((List.range n).map fun i => r.getD (n - 1 - i) []).toArray

theorem regsN_size (n : Nat) (r : List RVal) : (regsN n r).size = n := by simp [regsN]

theorem regsN_get' (n : Nat) (r : List RVal) (i : Nat) : (regsN n r)[i]? = if i < n then some (r.getD (n - 1 - i) []) else none := by
  by_cases h : i < n <;> simp [regsN, h]

theorem regsN_get (n : Nat) (r : List RVal) (i : Nat) (h : i < n) : (regsN n r)[i]? = some (r.getD (n - 1 - i) []) := by
  rw [regsN_get', if_pos h]

theorem getD_pad (m : Nat) (r : List RVal) (k : Nat) :
    (List.replicate m ([] : RVal) ++ r).getD k [] = if k < m then [] else r.getD (k - m) [] := by
  simp only [List.getD_eq_getElem?_getD, List.getElem?_append, List.length_replicate, List.getElem?_replicate]
  by_cases h : k < m <;> simp [h]

theorem regSet_regsN (n : Nat) (r : List RVal) (id : Nat) (v : RVal) (h : n ≤ id) :
    regSet (regsN n r) id v = regsN (id + 1) (v :: (List.replicate (id - n) [] ++ r)) := by
  have hn : ¬ id < n := by omega
  apply Array.ext_getElem?
  intro i
  rw [regsN_get']
  simp only [regSet, regsN_size, hn, if_false]
  rw [Array.getElem?_push]
  simp only [Array.size_append, regsN_size, Array.size_replicate]
  have e1 : n + (id - n) = id := by omega
  rw [e1]
  by_cases hi : i = id
  · subst hi; simp
  · simp only [hi, if_false]
    by_cases h1 : i < id
    · have h2 : i < id + 1 := by omega
      have h3 : id + 1 - 1 - i = (id - 1 - i) + 1 := by omega
      simp only [h2, if_true, h3, List.getD_cons_succ, getD_pad]
      by_cases hin : i < n
      · rw [Array.getElem?_append_left (by rw [regsN_size]; exact hin), regsN_get _ _ _ hin]
        have : ¬ id - 1 - i < id - n := by omega
        have e : id - 1 - i - (id - n) = n - 1 - i := by omega
        simp [this, e]
      · rw [Array.getElem?_append_right (by rw [regsN_size]; omega), regsN_size]
        have : id - 1 - i < id - n := by omega
        have h5 : i - n < id - n := by omega
        simp [this, h5]
    · have h2 : ¬ i < id + 1 := by omega
      rw [Array.getElem?_eq_none (by simp [regsN_size]; omega)]
      simp [h2]

theorem regSet_empty (id : Nat) (v : RVal) : regSet #[] id v = regsN (id + 1) (v :: List.replicate id []) := by
  have h0 : (#[] : Array RVal) = regsN 0 [] := by simp [regsN]
  rw [h0, regSet_regsN 0 [] id v (Nat.zero_le _)]
  simp

theorem regSet_regsN_lt (n : Nat) (r : List RVal) (id : Nat) (v : RVal) (h : id < n) (h2 : n - 1 - id < r.length) :
    regSet (regsN n r) id v = regsN n (r.set (n - 1 - id) v) := by
  apply Array.ext_getElem?
  intro i
  simp only [regSet, regsN_size, h, if_true, Array.getElem?_setIfInBounds, regsN_get']
  by_cases hi : i < n
  · simp only [hi, if_true, List.getD_eq_getElem?_getD, List.getElem?_set]
    by_cases e : id = i
    · subst e; simp [h2]
    · have : ¬ n - 1 - id = n - 1 - i := by omega
      simp [e, this]
  · have : ¬ id = i := by omega
    simp [hi, this]

/-! ## the type table of `prog` -/

theorem tyOf_3 : prog.tyOf 3 = .int 64 false := rfl
theorem tyOf_4 : prog.tyOf 4 = .struct [3, 3, 3, 3, 3] := rfl
theorem tyOf_10 : prog.tyOf 10 = .int 64 true := rfl
theorem tyOf_19 : prog.tyOf 19 = .ptr 4 := rfl
theorem tyOf_60 : prog.tyOf 60 = .ptr 3 := rfl
theorem tyOf_72 : prog.tyOf 72 = .int 32 false := rfl
theorem tyOf_73 : prog.tyOf 73 = .struct [3, 3] := rfl
theorem tyOf_84 : prog.tyOf 84 = .ptr 73 := rfl
theorem tyOf_50 : prog.tyOf 50 = .ptr 19 := rfl
theorem zeros_19 : prog.zeros 19 = some [.nil] := rfl
theorem cls_ptr (b o : Nat) : listEqClasses [.ptr b o] [.nil] = true := rfl
theorem zeros_3 : prog.zeros 3 = some [.int 0] := rfl
theorem zeros_4 : prog.zeros 4 = some [.int 0, .int 0, .int 0, .int 0, .int 0] := rfl
theorem zeros_73 : prog.zeros 73 = some [.int 0, .int 0] := rfl
theorem span2_0 : prog.fieldSpan [3, 3] 0 = some (0, 1) := rfl
theorem span2_1 : prog.fieldSpan [3, 3] 1 = some (1, 1) := rfl
theorem span5_0 : prog.fieldSpan [3, 3, 3, 3, 3] 0 = some (0, 1) := rfl
theorem span5_1 : prog.fieldSpan [3, 3, 3, 3, 3] 1 = some (1, 1) := rfl
theorem span5_2 : prog.fieldSpan [3, 3, 3, 3, 3] 2 = some (2, 1) := rfl
theorem span5_3 : prog.fieldSpan [3, 3, 3, 3, 3] 3 = some (3, 1) := rfl
theorem span5_4 : prog.fieldSpan [3, 3, 3, 3, 3] 4 = some (4, 1) := rfl
theorem intOfTy_3 : intOfTy prog 3 = some (64, false) := rfl
theorem intOfTy_10 : intOfTy prog 10 = some (64, true) := rfl

theorem stepAlloc_of {p : Program} {ty e : Nat} {zs : List Val} (h1 : p.tyOf ty = .ptr e) (h2 : p.zeros e = some zs)
    (h3 : ¬ zs.length > maxAlloc) (hp : Heap) (fr : Frame) (frs : List Frame) (id : Nat) (k : VK) (ln : Nat) (op : Op) (tys : List Nat) :
    stepAlloc p hp fr frs ⟨id, k, ln, op, ty, tys⟩ = contReg fr frs id [.ptr (hp.alloc zs).2 0] (hp.alloc zs).1 [] := by
  simp only [stepAlloc, h1, h2, h3, if_false]

/-- `new(uint128)` -/
theorem stepAlloc_84 (hp : Heap) (fr : Frame) (frs : List Frame) (id : Nat) (k : VK) (ln : Nat) (op : Op) (tys : List Nat) :
    stepAlloc prog hp fr frs ⟨id, k, ln, op, 84, tys⟩
      = contReg fr frs id [.ptr (hp.alloc [.int 0, .int 0]).2 0] (hp.alloc [.int 0, .int 0]).1 [] :=
  stepAlloc_of tyOf_84 zeros_73 (by decide) hp fr frs id k ln op tys

/-- `new(Element)` -/
theorem stepAlloc_19 (hp : Heap) (fr : Frame) (frs : List Frame) (id : Nat) (k : VK) (ln : Nat) (op : Op) (tys : List Nat) :
    stepAlloc prog hp fr frs ⟨id, k, ln, op, 19, tys⟩
      = contReg fr frs id [.ptr (hp.alloc [.int 0, .int 0, .int 0, .int 0, .int 0]).2 0] (hp.alloc [.int 0, .int 0, .int 0, .int 0, .int 0]).1 [] :=
  stepAlloc_of tyOf_19 zeros_4 (by decide) hp fr frs id k ln op tys

theorem cls1 (a : Nat) : listEqClasses [.int a] [.int 0] = true := rfl
theorem cls2 (a b : Nat) : listEqClasses [.int a, .int b] [.int 0, .int 0] = true := rfl
theorem cls5 (a b c d e : Nat) :
    listEqClasses [.int a, .int b, .int c, .int d, .int e] [.int 0, .int 0, .int 0, .int 0, .int 0] = true := rfl

theorem cls_int (a : Nat) : (Val.int a).cls = SC.data := rfl

/-! ## shifts by an unsigned count -/

theorem beq_shl_shl : (BinOp.shl == BinOp.shl) = true := rfl
theorem beq_shr_shl : (BinOp.shr == BinOp.shl) = false := rfl

theorem intShift_shl (w a cw c : Nat) (h : c < w) :
    intShift true w false a cw false c = .ok (.int (wrap w (a <<< c))) := by
  have : ¬ c ≥ w := by omega
  simp [intShift, this]

theorem intShift_shr (w a cw c : Nat) : intShift false w false a cw false c = .ok (.int (a >>> c)) := by
  simp [intShift]

theorem isConst_cint (k : VK) (v : Nat) : (Opnd.cint k v).isConst = true := rfl

/-! ## externals -/

theorem extern_mul64 (p : Program) (hp : Heap) (fr : Frame) (frs : List Frame) (i : Instr) (x y : Nat) :
    stepExtern p hp fr frs i N252 [[.int x], [.int y]]
      = contReg fr frs i.id [.int (x * y / 2 ^ 64), .int (x * y % 2 ^ 64)] hp [] := by
  have h1 : (N252 == Ext.mul64) = true := by decide
  simp only [stepExtern, h1, if_true]

theorem extern_add64 (p : Program) (hp : Heap) (fr : Frame) (frs : List Frame) (i : Instr) (x y c : Nat) :
    stepExtern p hp fr frs i N240 [[.int x], [.int y], [.int c]]
      = contReg fr frs i.id [.int ((x + y + c) % 2 ^ 64), .int ((x + y + c) / 2 ^ 64)] hp [] := by
  have h1 : (N240 == Ext.mul64) = false := by decide
  have h2 : (N240 == Ext.add64) = true := by decide
  simp only [stepExtern, h1, h2, if_true, Bool.false_eq_true, if_false]


/-! ## composition -/

theorem run_steps' {p : Program} {k : Nat} {s s' : State} (h : steps p k s = some s') (n : Nat) :
    run p (n + k) s = run p n s' := by
  rw [Nat.add_comm]; exact run_of_steps k n h

theorem steps_steps' {p : Program} {k : Nat} {s s' : State} (h : steps p k s = some s') (n : Nat) :
    steps p (n + k) s = steps p n s' := by
  rw [Nat.add_comm, steps_add, h]; rfl

theorem mkH_mkH (h0 : Heap) (ovr ext ext') : mkH (mkH h0 ovr ext) [] ext' = mkH h0 ovr (ext ++ ext') := by
  simp [mkH, base, Array.append_assoc]

/-! ## the entry block of a function, as a literal -/

open Lean Elab Term Meta in
/-- `body% f`: the instruction list of block 0 of the `Func` constant `f` (read off its definition) -/
elab "body% " c:ident : term => do
  let n ← realizeGlobalConstNoOverloadWithInfo c
  let some (.defnInfo d) := (← getEnv).find? n | throwError "not a definition"
  let args := d.value.getAppArgs
  let blocks := args[args.size - 1]!
  let some (_, b0, _) := blocks.app3? ``List.cons | throwError "no block"
  let bargs := b0.getAppArgs
  unless b0.isAppOf ``Block.mk do throwError "not a block literal"
  return bargs[0]!

open Lean Elab Command Meta in
/-- `derive_rules c r s`: from `c : ∀ xs, steps p k S = some S'` derive the rewrite rules
    `r : ∀ xs n, run p (n + k) S = run p n S'` and `s : ∀ xs n, steps p (n + k) S = steps p n S'`. -/
elab "derive_rules " c:ident r:ident s:ident : command => liftTermElabM do
  let cn ← realizeGlobalConstNoOverloadWithInfo c
  let info ← getConstInfo cn
  let mk (lem : Name) (nm : Name) : MetaM Unit := do
    let (ty, val) ← forallTelescope info.type fun xs _ => do
      let pf := mkAppN (mkConst cn (info.levelParams.map mkLevelParam)) xs
      withLocalDeclD `n (mkConst ``Nat) fun n => do
        let e ← mkAppM lem #[pf, n]
        let t ← inferType e
        let t ← instantiateMVars t
        return (← mkForallFVars (xs.push n) t, ← mkLambdaFVars (xs.push n) e)
    addDecl <| .thmDecl { name := nm, levelParams := info.levelParams, type := ty, value := val }
  let ns ← getCurrNamespace
  mk ``run_steps' (ns ++ r.getId)
  mk ``steps_steps' (ns ++ s.getId)

/-- a goal about a state splits into the heap and the top frame: `rfl` on the frame assigns an existentially quantified register
    file, the heap equation is closed separately -/
theorem state_eq {H H' : Heap} {fr fr' : Frame} {frs : List Frame} (hH : H = H') (hf : fr = fr') :
    (some ⟨H, fr :: frs⟩ : Option State) = some ⟨H', fr' :: frs⟩ := by subst hH hf; rfl

/-- a run from an arbitrary heap is stated on `H`, and stepped through on its canonical form -/
theorem steps_of_base {p : Program} {k : Nat} {H : Heap} {frs : List Frame} {R : Option State}
    (h : steps p k ⟨mkH H [] [], frs⟩ = R) : steps p k ⟨H, frs⟩ = R := by rwa [mkH_nil] at h

/-- call `name` with `args` on `h` and run for `fuel` steps -/
def runCall (p : Program) (fuel : Nat) (h : Heap) (name : Nm) (args : List RVal) : Option Outcome :=
  (p.funcIdx? name).bind fun fi => (callState p h fi args).map (run p fuel)

theorem runCall_eq {p : Program} {fuel : Nat} {h : Heap} {name : Nm} {args : List RVal} {fi : Nat} {f : Func} {fr : Frame}
    (hidx : p.funcIdx? name = some fi) (hf : p.funcs[fi]? = some f) (hmk : mkFrame fi f args none = some fr) :
    runCall p fuel h name args = some (run p fuel ⟨h, [fr]⟩) := by
  simp [runCall, callState, hidx, hf, hmk]

theorem run_of_base {p : Program} {k : Nat} {H : Heap} {frs : List Frame} {R : Outcome}
    (h : run p k ⟨mkH H [] [], frs⟩ = R) : run p k ⟨H, frs⟩ = R := by rwa [mkH_nil] at h

syntax "ssa_exec" "[" Lean.Parser.Tactic.simpLemma,* "]" : tactic
macro_rules
  | `(tactic| ssa_exec [$ls,*]) => `(tactic|
  simp only [run_succ, runK_cont, runK_done, steps_succ, stepsK_cont, steps_zero,
    step_alloc, step_binop, step_unop, step_load, step_call, step_convert, step_extract, step_fieldAddr, step_field,
    step_store, step_ret,
    stepStore, stepLoad, stepFieldAddr, stepField, stepBinop, stepUnop, stepConvert, stepRet, stepCall,
    evalOpnd_reg, evalOpnd_param, evalOpnd_cint, evalOpnds_nil, evalOpnds_cons,
    contReg, contNoReg, regSet_empty, regSet_regsN, regSet_regsN_lt, regsN_get, intBinop, beq_shl_shl, beq_shr_shl, intShift_shl, intShift_shr, isConst_cint,
    tyOf_3, tyOf_4, tyOf_10, tyOf_19, tyOf_50, zeros_19, cls_ptr, evalOpnd_global, tyOf_60, tyOf_72, tyOf_73, tyOf_84, zeros_3, zeros_4, zeros_73,
    span2_0, span2_1, span5_0, span5_1, span5_2, span5_3, span5_4, intOfTy_3, intOfTy_10,
    stepAlloc_84, stepAlloc_19, cls1, cls2, cls5, cls_int, extern_mul64, extern_add64,
    alloc_mkH, read_ext, write_ext, readCells, writeCells, mkH_mkH, retValue,
    List.headD, List.tail, List.getElem?_toArray, List.getElem?_cons_zero, List.getElem?_cons_succ, List.getD_cons_zero, List.getD_cons_succ, List.getD_nil,
    List.length_cons, List.length_nil, List.cons_append, List.nil_append, List.replicate, List.set_cons_zero, List.set_cons_succ,
    List.setIfInBounds_toArray, List.drop, List.take, List.flatten_cons, List.flatten_nil, List.append_nil,
    Option.bind_some, Option.map_some, Option.pure_def, Option.bind_eq_bind,
    if_true, if_false, ite_true, ite_false, Bool.false_eq_true, Nat.reduceAdd, Nat.reduceSub, Nat.reduceLT, Nat.reduceLeDiff, Nat.reduceGT,
    reduceIte, Nat.reduceMul, Nat.zero_le, Nat.le_refl, $ls,*])

end EdVerif.Ssa.Tie
