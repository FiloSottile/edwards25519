import EdVerif.Ssa.Tie.FiatSmall
/-!
# GENERATED by EdVerif/Ssa/Tie/gen_fiat_bytes.py — `fiatScalarFromBytes`, `fiatScalarToBytes`

A `[32]byte` is a block of 32 `uint8` cells; `x : Nat → Nat` gives the bytes `x 0 … x 31`.
-/
namespace EdVerif.Ssa.Tie
open EdVerif.Ssa EdVerif.Gen.Ssa EdVerif.Prims EdVerif.Gen.Fiat
set_option maxRecDepth 100000

/-- the 32 cells of a `[32]byte` block -/
def cells32 (x : Nat → Nat) : Array Val := #[.int (x 0), .int (x 1), .int (x 2), .int (x 3), .int (x 4), .int (x 5), .int (x 6), .int (x 7), .int (x 8), .int (x 9), .int (x 10), .int (x 11), .int (x 12), .int (x 13), .int (x 14), .int (x 15), .int (x 16), .int (x 17), .int (x 18), .int (x 19), .int (x 20), .int (x 21), .int (x 22), .int (x 23), .int (x 24), .int (x 25), .int (x 26), .int (x 27), .int (x 28), .int (x 29), .int (x 30), .int (x 31)]

/-- the same bytes as a T1 byte string -/
def bytes32 (x : Nat → Nat) : Bytes := #[x 0, x 1, x 2, x 3, x 4, x 5, x 6, x 7, x 8, x 9, x 10, x 11, x 12, x 13, x 14, x 15, x 16, x 17, x 18, x 19, x 20, x 21, x 22, x 23, x 24, x 25, x 26, x 27, x 28, x 29, x 30, x 31]

/-- a T1 byte string as heap cells -/
def bytesCells (b : Bytes) : Array Val := b.map Val.int

theorem bytesCells_bytes32 (x : Nat → Nat) : bytesCells (bytes32 x) = cells32 x := by
  simp only [bytesCells, bytes32, cells32, List.map_toArray, List.map_cons, List.map_nil]

theorem bytes32_get (x : Nat → Nat) : ∀ (i : Nat), i < 32 → (bytes32 x)[i]! = x i
  | 0, _ => rfl
  | 1, _ => rfl
  | 2, _ => rfl
  | 3, _ => rfl
  | 4, _ => rfl
  | 5, _ => rfl
  | 6, _ => rfl
  | 7, _ => rfl
  | 8, _ => rfl
  | 9, _ => rfl
  | 10, _ => rfl
  | 11, _ => rfl
  | 12, _ => rfl
  | 13, _ => rfl
  | 14, _ => rfl
  | 15, _ => rfl
  | 16, _ => rfl
  | 17, _ => rfl
  | 18, _ => rfl
  | 19, _ => rfl
  | 20, _ => rfl
  | 21, _ => rfl
  | 22, _ => rfl
  | 23, _ => rfl
  | 24, _ => rfl
  | 25, _ => rfl
  | 26, _ => rfl
  | 27, _ => rfl
  | 28, _ => rfl
  | 29, _ => rfl
  | 30, _ => rfl
  | 31, _ => rfl
  | n + 32, h => absurd h (by omega)

theorem cells32_ne_w4 (x : Nat → Nat) (v : W4) : cells32 x ≠ w4Cells v := by
  intro h
  have := congrArg Array.size h
  simp [cells32, w4Cells] at this

theorem trunc8_eq (a : Nat) : wrap 8 a = U.trunc 8 a := by rw [U.trunc, wrap]
theorem and8_eq (a b : Nat) : a &&& b = U.and 8 a b := by rw [U.and]

/-! ## `fiatScalarFromBytes` -/

def body97 : List Instr := body% f97
theorem funcs_97 : prog.funcs[97]? = some f97 := rfl
theorem mkFrame_97 (args : List RVal) (dest : Option Nat) :
    mkFrame 97 f97 args dest = some ⟨97, f97, #[], args.toArray, 0, body97, dest⟩ := rfl
theorem resultTys_97 : f97.resultTys = [] := rfl
theorem funcIdx_97 : prog.funcIdx? (nm! "fiatScalarFromBytes") = some 97 := by decide +kernel

/-- `fiatScalarFromBytes(&out, &x)` as the outermost call on a canonical heap (bytes below `2^64`: the conversion
    `uint64(byte)`, which T1 drops, is then the identity) -/
theorem core_fiatScalarFromBytes (h0 : Heap) (ovr ext) (bo bx : Nat) (o0 o1 o2 o3 : Nat) (x : Nat → Nat)
    (hx : ∀ i, i < 32 → x i < 2 ^ 64) (hbo : bo < h0.blocks.size) (hbx : bx < h0.blocks.size) (hox : bo ≠ bx) :
    run prog 161 ⟨mkH h0 ((bo, #[.int o0, .int o1, .int o2, .int o3]) :: (bx, cells32 x) :: ovr) ext,
        [⟨97, f97, #[], #[[.ptr bo 0], [.ptr bx 0]], 0, body97, none⟩]⟩
      = .done ⟨mkH h0 ((bo, w4Cells (fiatScalarFromBytes ⟨o0, o1, o2, o3⟩ (bytes32 x))) :: (bx, cells32 x) :: ovr) ext, []⟩ [] := by
  have hw : ∀ i, i < 32 → wrap 64 (x i) = x i := fun i hi => wrap64_of_lt _ (hx i hi)
  simp only [body97, cells32]
  fiat_exec [resultTys_97, hw 0 (by decide), hw 1 (by decide), hw 2 (by decide), hw 3 (by decide), hw 4 (by decide), hw 5 (by decide), hw 6 (by decide), hw 7 (by decide), hw 8 (by decide), hw 9 (by decide), hw 10 (by decide), hw 11 (by decide), hw 12 (by decide), hw 13 (by decide), hw 14 (by decide), hw 15 (by decide), hw 16 (by decide), hw 17 (by decide), hw 18 (by decide), hw 19 (by decide), hw 20 (by decide), hw 21 (by decide), hw 22 (by decide), hw 23 (by decide), hw 24 (by decide), hw 25 (by decide), hw 26 (by decide), hw 27 (by decide), hw 28 (by decide), hw 29 (by decide), hw 30 (by decide), hw 31 (by decide), shl_eq, add_eq,
    read_hit, read_miss, write_hit, hbo, hbx, hox, hox.symm, ne_eq, not_false_eq_true]
  simp only [w4Cells, fiatScalarFromBytes, bytes32_get, Nat.reduceLT]

/-- **tie**: `fiatScalarFromBytes(&out, &x)` on any heap in which block `bo` is a `[4]uint64` and block `bx` a `[32]byte`
    with bytes `x 0 … x 31`: afterwards `bo` holds the words of T1's value, nothing else changes. -/
theorem tie_fiatScalarFromBytes (h : Heap) (bo bx : Nat) (o : W4) (x : Nat → Nat) (hx : ∀ i, i < 32 → x i < 2 ^ 64)
    (ho : h.blocks[bo]? = some (w4Cells o)) (hbx : h.blocks[bx]? = some (cells32 x)) :
    ∃ h', runCall prog 161 h (nm! "fiatScalarFromBytes") [[.ptr bo 0], [.ptr bx 0]] = some (.done ⟨h', []⟩ [])
      ∧ Post1 h h' bo (w4Cells (fiatScalarFromBytes o (bytes32 x))) := by
  have hox : bo ≠ bx := ne_of_cells ho hbx (cells32_ne_w4 x o).symm
  obtain ⟨o0, o1, o2, o3⟩ := o
  have core := core_fiatScalarFromBytes h [] [] bo bx o0 o1 o2 o3 x hx (lt_of_get ho) (lt_of_get hbx) hox
  have hall : ∀ kv ∈ [(bx, cells32 x)], h.blocks[kv.1]? = some kv.2 := by simp [hbx]
  rw [show mkH h [(bo, #[.int o0, .int o1, .int o2, .int o3]), (bx, cells32 x)] [] = h from
      mkH_intro h _ (by simpa [w4Cells] using ⟨ho, hbx⟩)] at core
  refine ⟨_, ?_, post1_mkH _ [] (lt_of_get ho) hall⟩
  simp only [runCall, funcIdx_97, callState, funcs_97, mkFrame_97, Option.bind_some, Option.map_some, Option.pure_def,
    Option.bind_eq_bind]
  rw [core]

/-! ## `fiatScalarToBytes` -/

def body103 : List Instr := body% f103
theorem funcs_103 : prog.funcs[103]? = some f103 := rfl
theorem mkFrame_103 (args : List RVal) (dest : Option Nat) :
    mkFrame 103 f103 args dest = some ⟨103, f103, #[], args.toArray, 0, body103, dest⟩ := rfl
theorem resultTys_103 : f103.resultTys = [] := rfl
theorem funcIdx_103 : prog.funcIdx? (nm! "fiatScalarToBytes") = some 103 := by decide +kernel

/-- `fiatScalarToBytes(&out, &a)` as the outermost call on a canonical heap -/
theorem core_fiatScalarToBytes (h0 : Heap) (ovr ext) (bo ba : Nat) (x : Nat → Nat) (a0 a1 a2 a3 : Nat)
    (hbo : bo < h0.blocks.size) (hba : ba < h0.blocks.size) (hoa : bo ≠ ba) :
    run prog 161 ⟨mkH h0 ((bo, cells32 x) :: (ba, #[.int a0, .int a1, .int a2, .int a3]) :: ovr) ext,
        [⟨103, f103, #[], #[[.ptr bo 0], [.ptr ba 0]], 0, body103, none⟩]⟩
      = .done ⟨mkH h0 ((bo, bytesCells (fiatScalarToBytes (bytes32 x) ⟨a0, a1, a2, a3⟩)) :: (ba, #[.int a0, .int a1, .int a2, .int a3]) :: ovr) ext, []⟩ [] := by
  simp only [body103, cells32]
  fiat_exec [resultTys_103, trunc8_eq, and8_eq, shr_eq,
    read_hit, read_miss, write_hit, hbo, hba, hoa, hoa.symm, ne_eq, not_false_eq_true]
  simp only [bytesCells, bytes32, fiatScalarToBytes, Array.set!_eq_setIfInBounds, List.setIfInBounds_toArray, List.set_cons_succ,
    List.set_cons_zero, List.map_toArray, List.map_cons, List.map_nil]

/-- **tie**: `fiatScalarToBytes(&out, &a)`: afterwards the `[32]byte` block `bo` holds T1's byte string, nothing else changes. -/
theorem tie_fiatScalarToBytes (h : Heap) (bo ba : Nat) (x : Nat → Nat) (a : W4)
    (ho : h.blocks[bo]? = some (cells32 x)) (ha : h.blocks[ba]? = some (w4Cells a)) :
    ∃ h', runCall prog 161 h (nm! "fiatScalarToBytes") [[.ptr bo 0], [.ptr ba 0]] = some (.done ⟨h', []⟩ [])
      ∧ Post1 h h' bo (bytesCells (fiatScalarToBytes (bytes32 x) a)) := by
  have hoa : bo ≠ ba := ne_of_cells ho ha (cells32_ne_w4 x a)
  obtain ⟨a0, a1, a2, a3⟩ := a
  have core := core_fiatScalarToBytes h [] [] bo ba x a0 a1 a2 a3 (lt_of_get ho) (lt_of_get ha) hoa
  have hall : ∀ kv ∈ [(ba, w4Cells ⟨a0, a1, a2, a3⟩)], h.blocks[kv.1]? = some kv.2 := by simp [ha]
  rw [show mkH h [(bo, cells32 x), (ba, #[.int a0, .int a1, .int a2, .int a3])] [] = h from
      mkH_intro h _ (by simpa [w4Cells] using ⟨ho, ha⟩)] at core
  refine ⟨_, ?_, post1_mkH _ [] (lt_of_get ho) hall⟩
  simp only [runCall, funcIdx_103, callState, funcs_103, mkFrame_103, Option.bind_some, Option.map_some, Option.pure_def,
    Option.bind_eq_bind]
  rw [core]; rfl

end EdVerif.Ssa.Tie
