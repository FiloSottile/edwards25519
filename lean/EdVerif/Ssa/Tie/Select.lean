import EdVerif.Ssa.Tie.Slot
import EdVerif.Ssa.Tie.Arith
/-!
# `field.mask64Bits`, `(*field.Element).Select`, `(*field.Element).Swap`
-/
namespace EdVerif.Ssa.Tie
open EdVerif.Ssa EdVerif.Gen.Ssa EdVerif.Prims
set_option maxRecDepth 100000

/-! ## `field.mask64Bits` -/

def body114 : List Instr := body% f114
theorem funcs_114 : prog.funcs[114]? = some f114 := rfl
theorem mkFrame_114 (args : List RVal) (dest : Option Nat) :
    mkFrame 114 f114 args dest = some ⟨114, f114, #[], args.toArray, 0, body114, dest⟩ := rfl
theorem resultTys_114 : f114.resultTys = [3] := rfl
theorem funcIdx_114 : prog.funcIdx? (nm! "field.mask64Bits") = some 114 := by decide +kernel

theorem call_mask64Bits (hp : Heap) (c d : Nat) (hc : c < 2 ^ 64) (cfi : Nat) (cf : Func) (cregs cparams : Array RVal) (cblk : Nat)
    (crest : List Instr) (cdest : Option Nat) (frs : List Frame) :
    steps prog 4 ⟨hp, ⟨114, f114, #[], #[[.int c]], 0, body114, some d⟩ :: ⟨cfi, cf, cregs, cparams, cblk, crest, cdest⟩ :: frs⟩
      = some ⟨hp, ⟨cfi, cf, regSet cregs d [.int (EdVerif.Gen.Field.mask64Bits c)], cparams, cblk, crest, cdest⟩ :: frs⟩ := by
  simp only [body114]
  ssa_exec [resultTys_114]
  rw [ofInt_toInt64 c hc, not64 _ (wrap_lt _ _)]
  rfl

derive_rules call_mask64Bits run_mask64Bits steps_mask64Bits

/-- **tie**: `field.mask64Bits` (argument below `2^64`, i.e. any `int` in two's complement) -/
theorem tie_mask64Bits (h : Heap) (c : Nat) (hc : c < 2 ^ 64) :
    runCall prog 4 h (nm! "field.mask64Bits") [[.int c]] = some (.done ⟨h, []⟩ [[.int (EdVerif.Gen.Field.mask64Bits c)]]) := by
  simp only [runCall, funcIdx_114, callState, funcs_114, mkFrame_114, Option.bind_some, Option.map_some, Option.pure_def,
    Option.bind_eq_bind, body114]
  ssa_exec [resultTys_114]
  rw [ofInt_toInt64 c hc, not64 _ (wrap_lt _ _)]
  rfl

theorem mask_lt (c : Nat) : EdVerif.Gen.Field.mask64Bits c < 2 ^ 64 := by
  simp only [EdVerif.Gen.Field.mask64Bits, U.not]; omega

theorem not64_mask (c : Nat) : (2 ^ 64 - 1) ^^^ EdVerif.Gen.Field.mask64Bits c = U.not 64 (EdVerif.Gen.Field.mask64Bits c) :=
  not64 _ (mask_lt c)



/-! ## `(*field.Element).Select` -/

def body73 : List Instr := body% f73
theorem funcs_73 : prog.funcs[73]? = some f73 := rfl
theorem mkFrame_73 (args : List RVal) (dest : Option Nat) :
    mkFrame 73 f73 args dest = some ⟨73, f73, #[], args.toArray, 0, body73, dest⟩ := rfl
theorem resultTys_73 : f73.resultTys = [19] := rfl
theorem funcIdx_73 : prog.funcIdx? (nm! "(*field.Element).Select") = some 73 := by decide +kernel

/-- Every instruction of `(*field.Element).Select` but the final `Return`, whatever lies below its frame, on any heap: the operands are element slots
    `(block, offset)`, any of which may be the receiver's slot.  Limb `k` of `v` is stored after limb `k` of `a` and `b` has been loaded, so one run covers every aliasing; `cond` is any 64-bit value. -/
theorem preA_Select (H : Heap) (bv ov ba oa bb ob : Nat) (c : Nat) (hc : c < 2 ^ 64)
    (hkv : OkE H bv ov) (hka : OkE H ba oa) (hkb : OkE H bb ob) (hc_va : Compat bv ov ba oa) (hc_vb : Compat bv ov bb ob) (dest : Option Nat) (frs : List Frame) :
    ∃ regs, steps prog 55 ⟨H, ⟨73, f73, #[], #[[.ptr bv ov], [.ptr ba oa], [.ptr bb ob], [.int c]], 0, body73, dest⟩ :: frs⟩
      = some ⟨setE bv ov (EdVerif.Gen.Field.Select (getE H bv ov) (getE H ba oa) (getE H bb ob) c) H,
          ⟨73, f73, regs, #[[.ptr bv ov], [.ptr ba oa], [.ptr bb ob], [.int c]], 0, List.drop 51 body73, dest⟩ :: frs⟩ := by
  apply Exists.intro
  apply steps_of_baseE
  simp only [body73]
  ssa_execS [resultTys_73, funcs_114, mkFrame_114, ↓steps_mask64Bits, not64_mask, and_eq, or_eq, hc, hkv, hka, hkb, hc_va, hc_vb, hkv.1]
  refine state_eq ?_ rfl
  -- not `rfl`: unfolding `mask64Bits` under `&&&` by `whnf` does not terminate
  rw [← pushB_nil (setE _ _ _ _), ← mkE_setE]
  simp only [feL, EdVerif.Gen.Field.Select]

/-- `(*field.Element).Select` called from any frame on an arbitrary heap: the slots hold elements, the receiver's slot and an operand's are the same or disjoint -/
theorem callA_Select (H : Heap) (bv ov ba oa bb ob : Nat) (c : Nat) (hc : c < 2 ^ 64)
    (hkv : OkE H bv ov) (hka : OkE H ba oa) (hkb : OkE H bb ob) (hc_va : Compat bv ov ba oa) (hc_vb : Compat bv ov bb ob) (d : Nat) (cfi : Nat) (cf : Func) (cregs cparams : Array RVal) (cblk : Nat) (crest : List Instr) (cdest : Option Nat) (frs : List Frame) :
    steps prog 56 ⟨H, ⟨73, f73, #[], #[[.ptr bv ov], [.ptr ba oa], [.ptr bb ob], [.int c]], 0, body73, some d⟩ :: ⟨cfi, cf, cregs, cparams, cblk, crest, cdest⟩ :: frs⟩
      = some ⟨setE bv ov (EdVerif.Gen.Field.Select (getE H bv ov) (getE H ba oa) (getE H bb ob) c) H,
          ⟨cfi, cf, regSet cregs d [.ptr bv ov], cparams, cblk, crest, cdest⟩ :: frs⟩ := by
  obtain ⟨regs, hp⟩ := preA_Select H bv ov ba oa bb ob c hc hkv hka hkb hc_va hc_vb (some d) (⟨cfi, cf, cregs, cparams, cblk, crest, cdest⟩ :: frs)
  refine Eq.trans (steps_steps' hp 1) ?_
  simp only [body73, List.drop_succ_cons, List.drop_zero]
  ssa_execE [resultTys_73]

derive_rules callA_Select runA_Select stepsA_Select

/-- **tie** (any aliasing): `(*field.Element).Select` on an arbitrary heap in which the argument blocks hold the limbs of the arguments
    (the blocks may coincide, in which case the arguments do). -/
theorem tie_Select_any (h : Heap) (bv ba bb : Nat) (v a b : Fe) (c : Nat) (hc : c < 2 ^ 64)
    (hv : h.blocks[bv]? = some (feCells v)) (ha : h.blocks[ba]? = some (feCells a)) (hb : h.blocks[bb]? = some (feCells b)) :
    ∃ h', runCall prog 56 h (nm! "(*field.Element).Select") [[.ptr bv 0], [.ptr ba 0], [.ptr bb 0], [.int c]] = some (.done ⟨h', []⟩ [[.ptr bv 0]])
      ∧ Post1 h h' bv (feCells (EdVerif.Gen.Field.Select v a b c)) := by
  obtain ⟨regs, hp⟩ := preA_Select h bv 0 ba 0 bb 0 c hc (okE_of_feCells hv) (okE_of_feCells ha) (okE_of_feCells hb) (compat_zero bv ba) (compat_zero bv bb) none []
  rw [getE_of_feCells hv, getE_of_feCells ha, getE_of_feCells hb] at hp
  refine ⟨_, ?_, (pushB_nil _) ▸ post1_setE _ [] hv rfl⟩
  rw [runCall_eq funcIdx_73 funcs_73 (mkFrame_73 _ _), run_steps' hp 1]
  simp only [body73, List.drop_succ_cons, List.drop_zero]
  ssa_execE [resultTys_73]


/-! ## `(*field.Element).Swap` -/

def body80 : List Instr := body% f80
theorem funcs_80 : prog.funcs[80]? = some f80 := rfl
theorem mkFrame_80 (args : List RVal) (dest : Option Nat) :
    mkFrame 80 f80 args dest = some ⟨80, f80, #[], args.toArray, 0, body80, dest⟩ := rfl
theorem resultTys_80 : f80.resultTys = [] := rfl
theorem funcIdx_80 : prog.funcIdx? (nm! "(*field.Element).Swap") = some 80 := by decide +kernel

abbrev SwapT (v0 v1 v2 v3 v4 u0 u1 u2 u3 u4 c : Nat) : Fe × Fe :=
  EdVerif.Gen.Field.Swap ⟨v0, v1, v2, v3, v4⟩ ⟨u0, u1, u2, u3, u4⟩ c

/-- `v.Swap(u, cond)` as the outermost call on a canonical heap, `v`, `u` distinct blocks -/
theorem core_Swap (h0 : Heap) (ovr ext) (bv bu : Nat) (v0 v1 v2 v3 v4 u0 u1 u2 u3 u4 c : Nat) (hc : c < 2 ^ 64)
    (hbv : bv < h0.blocks.size) (hbu : bu < h0.blocks.size) (hvu : bv ≠ bu) :
    run prog 86 ⟨mkH h0 ((bv, #[.int v0, .int v1, .int v2, .int v3, .int v4]) :: (bu, #[.int u0, .int u1, .int u2, .int u3, .int u4]) :: ovr) ext,
        [⟨80, f80, #[], #[[.ptr bv 0], [.ptr bu 0], [.int c]], 0, body80, none⟩]⟩
      = .done ⟨mkH h0 ((bv, feCells (SwapT v0 v1 v2 v3 v4 u0 u1 u2 u3 u4 c).1) :: (bu, feCells (SwapT v0 v1 v2 v3 v4 u0 u1 u2 u3 u4 c).2) :: ovr) ext, []⟩ [] := by
  simp only [body80]
  ssa_exec [resultTys_80, funcs_114, mkFrame_114, ↓run_mask64Bits, and_eq, xor_eq, read_hit, read_miss, write_hit, write_hit1,
    hbv, hbu, hc, hvu, hvu.symm, ne_eq, not_false_eq_true]
  simp only [feCells, SwapT, EdVerif.Gen.Field.Swap]

/-- **tie**: `v.Swap(u, cond)` (two distinct blocks; `cond` any 64-bit value): afterwards the blocks hold the two components
    of T1's `Swap v u cond`; nothing else changes. -/
theorem tie_Swap (h : Heap) (bv bu : Nat) (v u : Fe) (c : Nat) (hc : c < 2 ^ 64)
    (hv : h.blocks[bv]? = some (feCells v)) (hu : h.blocks[bu]? = some (feCells u)) (hvu : bv ≠ bu) :
    ∃ h', runCall prog 86 h (nm! "(*field.Element).Swap") [[.ptr bv 0], [.ptr bu 0], [.int c]] = some (.done ⟨h', []⟩ [])
      ∧ Post2 h h' bv (feCells (EdVerif.Gen.Field.Swap v u c).1) bu (feCells (EdVerif.Gen.Field.Swap v u c).2) := by
  obtain ⟨v0, v1, v2, v3, v4⟩ := v
  obtain ⟨u0, u1, u2, u3, u4⟩ := u
  have core := core_Swap h [] [] bv bu v0 v1 v2 v3 v4 u0 u1 u2 u3 u4 c hc (lt_of_get hv) (lt_of_get hu) hvu
  rw [show mkH h [(bv, #[.int v0, .int v1, .int v2, .int v3, .int v4]), (bu, #[.int u0, .int u1, .int u2, .int u3, .int u4])] [] = h from
      mkH_intro h _ (by simpa [feCells] using ⟨hv, hu⟩)] at core
  refine ⟨_, ?_, post2_mkH (ovr := []) _ _ [] (lt_of_get hv) (lt_of_get hu) hvu (by simp)⟩
  simp only [runCall, funcIdx_80, callState, funcs_80, mkFrame_80, Option.bind_some, Option.map_some, Option.pure_def,
    Option.bind_eq_bind]
  rw [core]

end EdVerif.Ssa.Tie
