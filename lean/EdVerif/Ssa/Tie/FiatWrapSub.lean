import EdVerif.Ssa.Tie.FiatSub
/-!
# `(*Scalar).Subtract`
-/
namespace EdVerif.Ssa.Tie
open EdVerif.Ssa EdVerif.Gen.Ssa EdVerif.Prims EdVerif.Gen.Fiat
set_option maxRecDepth 100000

def body32 : List Instr := body% f32
theorem funcs_32 : prog.funcs[32]? = some f32 := rfl
theorem mkFrame_32 (args : List RVal) (dest : Option Nat) :
    mkFrame 32 f32 args dest = some ⟨32, f32, #[], args.toArray, 0, body32, dest⟩ := rfl
theorem resultTys_32 : f32.resultTys = [29] := rfl
theorem funcIdx_32 : prog.funcIdx? (nm! "(*Scalar).Subtract") = some 32 := by decide +kernel

/-- **tie** (any aliasing): `(*Scalar).Subtract` on an arbitrary heap in which the argument blocks hold the words of the arguments
    (the blocks may coincide, in which case the arguments do). -/
theorem tie_Scalar_Subtract (h : Heap) (bs bp bq : Nat) (s p q : W4) (hlt_q : q.lt64)
    (hs : h.blocks[bs]? = some (w4Cells s)) (hp : h.blocks[bp]? = some (w4Cells p)) (hq : h.blocks[bq]? = some (w4Cells q)) :
    ∃ h', runCall prog 83 h (nm! "(*Scalar).Subtract") [[.ptr bs 0], [.ptr bp 0], [.ptr bq 0]] = some (.done ⟨h', []⟩ [[.ptr bs 0]])
      ∧ Post1 h h' bs (w4Cells (EdVerif.Gen.Fiat.Subtract s p q)) := by
  obtain ⟨ext, hc⟩ := call_fiatScalarSub h bs bp bq s p q hlt_q hs hp hq 3 32 f32 (regsN 3 [[.ptr bq 0], [.ptr bp 0], [.ptr bs 0]]) #[[.ptr bs 0], [.ptr bp 0], [.ptr bq 0]] 0 (List.drop 4 body32) none []
  simp only [body32, List.drop_succ_cons, List.drop_zero] at hc
  refine ⟨_, ?_, post1_base _ ext (lt_of_get hs)⟩
  rw [runCall_eq funcIdx_32 funcs_32 (mkFrame_32 _ _)]
  simp only [body32]
  fiat_exec [resultTys_32, funcs_102, mkFrame_102, ↓run_steps' hc]
  rfl

end EdVerif.Ssa.Tie
