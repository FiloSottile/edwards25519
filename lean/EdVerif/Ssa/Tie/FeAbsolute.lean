import EdVerif.Ssa.Tie.PtOnCurve
/-!
# `(*field.Element).Absolute`: SSA execution = T5's `Formulas.field_Element_Absolute` (`Negate`, `IsNegative`, `Select` through their abstract call rules)
-/
namespace EdVerif.Ssa.Tie
open EdVerif.Ssa EdVerif.Gen.Ssa EdVerif.Prims EdVerif.Impl EdVerif.Gen
set_option maxRecDepth 100000
set_option linter.unusedVariables false

def body62 : List Instr := body% f62
theorem funcs_62 : prog.funcs[62]? = some f62 := rfl
theorem mkFrame_62 (args : List RVal) (dest : Option Nat) :
    mkFrame 62 f62 args dest = some ⟨62, f62, #[], args.toArray, 0, body62, dest⟩ := rfl
theorem resultTys_62 : f62.resultTys = [19] := rfl
theorem funcIdx_62 : prog.funcIdx? (nm! "(*field.Element).Absolute") = some 62 := by decide +kernel

theorem isNegative_lt (u : Fe) : (Fe.isNegative u < 2 ^ 64) = True := by
  apply eq_true
  unfold Fe.isNegative
  exact Nat.lt_of_le_of_lt Nat.and_le_right (by decide)

/-- the final heap when the receiver is one whole 5-cell block -/
theorem post1_mkE1 {h : Heap} {b : Nat} {V : Array Val} (x : Fe) (rest : List Ent) (E : List (Array Val))
    (hb : h.blocks[b]? = some V) (hs : V.size = 5) (hr : Restates h rest) :
    Post1 h (mkE h ((b, 0, feL x) :: rest) E) b (feCells x) := by
  rw [mkE_head_intro h b 0 (feL x) rest E hr]
  exact post1_setE x E hb hs

theorem coreE_Absolute (v u : Fe) : ∀ (H : Heap) (bv bu bg : Nat) (hfv : Fits H bv 0 5) (hfu : Fits H bu 0 5) (hne_vu : bv ≠ bu) (hne_u_g : bu ≠ bg) (hng_u : bu ≠ 13) (hg : H.read 13 0 1 = some [.ptr bg 0]) (hfg : Fits H bg 0 5) (hn : bg ≠ 13) (hne_v_g : bv ≠ bg) (hng_v : bv ≠ 13) (h16 : 16 < H.blocks.size), ∃ E : List (Array Val),
    run prog 1100 ⟨mkE H [(bv, 0, feL v), (bu, 0, feL u), (bg, 0, feL EdVerif.Gen.Field.feZero)] [],
        [⟨62, f62, #[], #[[.ptr bv 0], [.ptr bu 0]], 0, body62, none⟩]⟩
      = .done ⟨mkE H [(bv, 0, feL (Formulas.field_Element_Absolute v u)), (bu, 0, feL u), (bg, 0, feL EdVerif.Gen.Field.feZero)] E, []⟩ [[.ptr bv 0]] := by
  intro H bv bu bg hfv hfu hne_vu hne_u_g hng_u hg hfg hn hne_v_g hng_v h16
  apply Exists.intro
  have hlt := lt_of_read hg
  simp only [body62]
  ssa_execX [resultTys_62, ↓runA_Negate, ↓runA_IsNegative, ↓runA_Select, funcs_67, mkFrame_67, isNegative_lt u, hfv, hfv.1, hfu, hfu.1, hne_vu, hne_vu.symm, hne_u_g, hne_u_g.symm, hng_u, hng_u.symm, 
    read_mkE_base hg, gptr_mkE hg, isGlob_mkE hg, hfg, hfg.1, hn, hn.symm, hne_v_g, hne_v_g.symm, hng_v, hng_v.symm, hlt, h16,
    mkE_size, lt16_add, List.length_append, feAt0_lit, feAt0_feL, Negate_val, Multiply_rz, Square_rz, Add_rz, Subtract_rz, Select_rz, Set_rz]
  rfl

/-- **tie**: `v.Absolute(u)` (distinct blocks): the package variable `feZero` (global 12 = block 13) points to a block (distinct from the operands) holding
    T1's constant; the block of `binary.LittleEndian` exists.  Block `bv` then holds the limbs of T5's `Formulas.field_Element_Absolute v u`. -/
theorem tie_Absolute (h : Heap) (bv bu bg : Nat) (v u : Fe) (hv : h.blocks[bv]? = some (feCells v)) (hu : h.blocks[bu]? = some (feCells u)) (hne_vu : bv ≠ bu) (hne_u_g : bu ≠ bg) 
    (hgp : h.blocks[13]? = some #[.ptr bg 0]) (hgv : h.blocks[bg]? = some (feCells EdVerif.Gen.Field.feZero)) (hne_v_g : bv ≠ bg)
    (h16 : 16 < h.blocks.size) :
    ∃ h', runCall prog 1100 h (nm! "(*field.Element).Absolute") [[.ptr bv 0], [.ptr bu 0]] = some (.done ⟨h', []⟩ [[.ptr bv 0]])
      ∧ Post1 h h' bv (feCells (Formulas.field_Element_Absolute v u)) := by
  obtain ⟨E, core⟩ := coreE_Absolute v u h bv bu bg (fits_of_get hv 5 (Nat.le_refl _)) (fits_of_get hu 5 (Nat.le_refl _)) hne_vu hne_u_g (ne_of_size' hu hgp (n1 := 5) (n2 := 1) rfl rfl (by decide)) (read_of_get1 hgp) (fits_of_get hgv 5 (Nat.le_refl _))
    (ne_of_size' hgv hgp (n1 := 5) (n2 := 1) rfl rfl (by decide)) hne_v_g (ne_of_size' hv hgp (n1 := 5) (n2 := 1) rfl rfl (by decide)) h16
  rw [mkE_restates h _ (restates_feCells hv (restates_feCells hu (restates_feCells hgv (restates_nil h))))] at core
  refine ⟨_, ?_, post1_mkE1 _ _ E hv (feCells_size _) (restates_feCells hu (restates_feCells hgv (restates_nil h)))⟩
  simp only [runCall, funcIdx_62, callState, funcs_62, mkFrame_62, Option.bind_some, Option.map_some, Option.pure_def,
    Option.bind_eq_bind]
  rw [core]

theorem coreE_Absolute__al00 (v u : Fe) : ∀ (H : Heap) (bv bg : Nat) (hfv : Fits H bv 0 5) (hg : H.read 13 0 1 = some [.ptr bg 0]) (hfg : Fits H bg 0 5) (hn : bg ≠ 13) (hne_v_g : bv ≠ bg) (hng_v : bv ≠ 13) (h16 : 16 < H.blocks.size), ∃ E : List (Array Val),
    run prog 1100 ⟨mkE H [(bv, 0, feL v), (bg, 0, feL EdVerif.Gen.Field.feZero)] [],
        [⟨62, f62, #[], #[[.ptr bv 0], [.ptr bv 0]], 0, body62, none⟩]⟩
      = .done ⟨mkE H [(bv, 0, feL (Formulas.field_Element_Absolute__al00 v u)), (bg, 0, feL EdVerif.Gen.Field.feZero)] E, []⟩ [[.ptr bv 0]] := by
  intro H bv bg hfv hg hfg hn hne_v_g hng_v h16
  apply Exists.intro
  have hlt := lt_of_read hg
  simp only [body62]
  ssa_execX [resultTys_62, ↓runA_Negate, ↓runA_IsNegative, ↓runA_Select, funcs_67, mkFrame_67, isNegative_lt v, hfv, hfv.1, 
    read_mkE_base hg, gptr_mkE hg, isGlob_mkE hg, hfg, hfg.1, hn, hn.symm, hne_v_g, hne_v_g.symm, hng_v, hng_v.symm, hlt, h16,
    mkE_size, lt16_add, List.length_append, feAt0_lit, feAt0_feL, Negate_val, Multiply_rz, Square_rz, Add_rz, Subtract_rz, Select_rz, Set_rz]
  rfl

/-- **tie**: `v.Absolute(u)` with `u` = `v` (same block): the package variable `feZero` (global 12 = block 13) points to a block (distinct from the operands) holding
    T1's constant; the block of `binary.LittleEndian` exists.  Block `bv` then holds the limbs of T5's `Formulas.field_Element_Absolute__al00 v u`. -/
theorem tie_Absolute__al00 (h : Heap) (bv bg : Nat) (v u : Fe) (hv : h.blocks[bv]? = some (feCells v)) 
    (hgp : h.blocks[13]? = some #[.ptr bg 0]) (hgv : h.blocks[bg]? = some (feCells EdVerif.Gen.Field.feZero)) (hne_v_g : bv ≠ bg)
    (h16 : 16 < h.blocks.size) :
    ∃ h', runCall prog 1100 h (nm! "(*field.Element).Absolute") [[.ptr bv 0], [.ptr bv 0]] = some (.done ⟨h', []⟩ [[.ptr bv 0]])
      ∧ Post1 h h' bv (feCells (Formulas.field_Element_Absolute__al00 v u)) := by
  obtain ⟨E, core⟩ := coreE_Absolute__al00 v u h bv bg (fits_of_get hv 5 (Nat.le_refl _)) (read_of_get1 hgp) (fits_of_get hgv 5 (Nat.le_refl _))
    (ne_of_size' hgv hgp (n1 := 5) (n2 := 1) rfl rfl (by decide)) hne_v_g (ne_of_size' hv hgp (n1 := 5) (n2 := 1) rfl rfl (by decide)) h16
  rw [mkE_restates h _ (restates_feCells hv (restates_feCells hgv (restates_nil h)))] at core
  refine ⟨_, ?_, post1_mkE1 _ _ E hv (feCells_size _) (restates_feCells hgv (restates_nil h))⟩
  simp only [runCall, funcIdx_62, callState, funcs_62, mkFrame_62, Option.bind_some, Option.map_some, Option.pure_def,
    Option.bind_eq_bind]
  rw [core]

end EdVerif.Ssa.Tie
