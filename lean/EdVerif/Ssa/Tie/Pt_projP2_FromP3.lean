import EdVerif.Ssa.Tie.PtGlob
import EdVerif.Ssa.Tie.KernESwap
import EdVerif.Gen.Formulas
/-!
# GENERATED by gen_pt.py — `(*projP2).FromP3`: SSA execution = T5's `Formulas.projP2_FromP3`
-/
namespace EdVerif.Ssa.Tie
open EdVerif.Ssa EdVerif.Gen.Ssa EdVerif.Prims EdVerif.Impl EdVerif.Gen
set_option maxRecDepth 100000
set_option linter.unusedVariables false

def body60 : List Instr := body% f60
theorem funcs_60 : prog.funcs[60]? = some f60 := rfl
theorem mkFrame_60 (args : List RVal) (dest : Option Nat) :
    mkFrame 60 f60 args dest = some ⟨60, f60, #[], args.toArray, 0, body60, dest⟩ := rfl
theorem resultTys_60 : f60.resultTys = [26] := rfl
theorem funcIdx_60 : prog.funcIdx? (nm! "(*projP2).FromP3") = some 60 := by decide +kernel

/-- every instruction of `(*projP2).FromP3` but the final `Return`, whatever lies below its frame, on the canonical heap of its parameters;
    the blocks allocated (locals and temporaries of the callees) depend on the values only -/
theorem preE_projP2_FromP3 (v : P2) (p : P3)  : ∃ E : List (Array Val), ∀ (H : Heap) (bv bp : Nat) (hfv : Fits H bv 0 15) (hfp : Fits H bp 0 20) (hne_vp : bv ≠ bp)  (dest : Option Nat) (frs : List Frame), ∃ regs,
    steps prog 18 ⟨mkE H (entsP2 bv v ++ entsP3 bp p) [],
        ⟨60, f60, #[], #[[.ptr bv 0], [.ptr bp 0]], 0, body60, dest⟩ :: frs⟩
      = some ⟨mkE H (entsP2 bv (Formulas.projP2_FromP3 v p) ++ entsP3 bp p) E,
          ⟨60, f60, regs, #[[.ptr bv 0], [.ptr bp 0]], 0, [⟨9, .none, 207, .ret [(.param 0)], 0, [26]⟩], dest⟩ :: frs⟩ := by
  apply Exists.intro
  intro H bv bp hfv hfp hne_vp  dest frs
  apply Exists.intro
  have hbv := hfv.1
  have hfv0 := fits_sub 0 hfv (by decide)
  have hfv1 := fits_sub 5 hfv (by decide)
  have hfv2 := fits_sub 10 hfv (by decide)
  have hbp := hfp.1
  have hfp0 := fits_sub 0 hfp (by decide)
  have hfp1 := fits_sub 5 hfp (by decide)
  have hfp2 := fits_sub 10 hfp (by decide)
  have hfp3 := fits_sub 15 hfp (by decide)
  simp only [body60]
  ssa_execP [resultTys_60, ↓stepsA_Set, hbv, hfv0, hfv1, hfv2, hbp, hfp0, hfp1, hfp2, hfp3, hne_vp, hne_vp.symm, Multiply_rz, Square_rz, Add_rz, Subtract_rz, Select_rz, Set_rz]
  rfl

/-- the blocks `(*projP2).FromP3` allocates -/
noncomputable def ext_projP2_FromP3 (v : P2) (p : P3) : List (Array Val) :=
  open Classical in if h : True then Classical.choose (preE_projP2_FromP3 v p  ) else []

/-- `(*projP2).FromP3` called from any frame on an arbitrary heap in which the parameters are structures of elements in distinct blocks -/
theorem callA_projP2_FromP3 (H : Heap) (bv bp : Nat)  (hkv : Ok3 H bv) (hkp : Ok4 H bp) (hne_vp : bv ≠ bp)  (d : Nat) (cfi : Nat) (cf : Func) (cregs cparams : Array RVal) (cblk : Nat) (crest : List Instr) (cdest : Option Nat) (frs : List Frame) :
    steps prog 19 ⟨H, ⟨60, f60, #[], #[[.ptr bv 0], [.ptr bp 0]], 0, body60, some d⟩ :: ⟨cfi, cf, cregs, cparams, cblk, crest, cdest⟩ :: frs⟩
      = some ⟨pushB (set3 bv (Formulas.projP2_FromP3 (getP2 H bv) (getP3 H bp)).X (Formulas.projP2_FromP3 (getP2 H bv) (getP3 H bp)).Y (Formulas.projP2_FromP3 (getP2 H bv) (getP3 H bp)).Z H) (ext_projP2_FromP3 (getP2 H bv) (getP3 H bp) ),
          ⟨cfi, cf, regSet cregs d [.ptr bv 0], cparams, cblk, crest, cdest⟩ :: frs⟩ := by
  have hsc : True := trivial
  obtain ⟨regs, hp⟩ := Classical.choose_spec (preE_projP2_FromP3 (getP2 H bv) (getP3 H bp)  ) H bv bp  (fits_ok3 hkv) (fits_ok4 hkp) hne_vp  (some d) (⟨cfi, cf, cregs, cparams, cblk, crest, cdest⟩ :: frs)
  rw [show mkE H (entsP2 bv (getP2 H bv) ++ entsP3 bp (getP3 H bp)) [] = H from mkE_restates H _ (restatesO3 hkv (restatesO4 hkp (restates_nil H)))] at hp
  rw [ext_projP2_FromP3, dif_pos hsc]
  refine (steps_steps' hp 1).trans ?_
  ssa_execP [resultTys_60]
  refine congrArg (fun hp => some (⟨hp, _⟩ : State)) ?_
  exact mkE_head3 H bv _ _ _ _ _ (restatesO4 hkp (restates_nil H))

derive_rules callA_projP2_FromP3 runA_projP2_FromP3 stepsA_projP2_FromP3

/-- **tie**: `(*projP2).FromP3` on any heap in which the (pairwise distinct) parameter blocks hold the cells of the model values: the run
    terminates and returns the receiver; the receiver's block then holds the cells of T5's `Formulas.projP2_FromP3`; every other block of the
    heap is unchanged (the heap grows by the locals of the run). -/
theorem tie_projP2_FromP3 (h : Heap) (bv bp : Nat) (v : P2) (p : P3)  (hcv : h.blocks[bv]? = some (cellsP2 v)) (hcp : h.blocks[bp]? = some (cellsP3 p)) (hne_vp : bv ≠ bp)  :
    ∃ h', runCall prog 19 h (nm! "(*projP2).FromP3") [[.ptr bv 0], [.ptr bp 0]] = some (.done ⟨h', []⟩ [[.ptr bv 0]])
      ∧ Post1 h h' bv (cellsP2 (Formulas.projP2_FromP3 v p)) := by
  obtain ⟨E, pre⟩ := preE_projP2_FromP3 v p  
  obtain ⟨regs, hp⟩ := pre h bv bp (fits_of_get hcv 15 (Nat.le_refl _)) (fits_of_get hcp 20 (Nat.le_refl _)) hne_vp  none []
  rw [show mkE h (entsP2 bv v ++ entsP3 bp p) [] = h from mkE_restates h _ (restates3 hcv (restates4 hcp (restates_nil h)))] at hp
  refine ⟨_, ?_, post1_mkE3 _ _ _ _ E hcv (cells3_size _ _ _) (restates4 hcp (restates_nil h))⟩
  simp only [runCall, funcIdx_60, callState, funcs_60, mkFrame_60, Option.bind_some, Option.map_some, Option.pure_def,
    Option.bind_eq_bind]
  rw [run_steps' hp 1]
  ssa_execP [resultTys_60]

end EdVerif.Ssa.Tie
