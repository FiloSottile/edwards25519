import EdVerif.Ssa.Tie.FeAbsolute
/-!
# `(*field.Element).Invert`: SSA execution = T5's `Formulas.field_Element_Invert` (the 255-step addition chain: 254 `Square`, 11 `Multiply`,
seven counted loops): definitions, `jumpTo` lemmas, the stepper `ssa_execI` and the loops (`loop66_*`); the run itself is in `FeInvertA.lean`, the theorems in `FeInvertB.lean`
-/
namespace EdVerif.Ssa.Tie
open EdVerif.Ssa EdVerif.Gen.Ssa EdVerif.Prims EdVerif.Impl EdVerif.Gen
set_option maxRecDepth 100000

theorem run_chain {p : Program} {a b : Nat} {s : State} {r : Outcome} (h : ∃ s1, steps p a s = some s1 ∧ run p b s1 = r) :
    run p (b + a) s = r := by
  obtain ⟨s1, h1, h2⟩ := h
  rw [run_steps' h1 b]; exact h2

/-- `n` trips round a loop, each taking `k` steps from `S i` to `S (i + 1)` -/
theorem steps_iter {p : Program} {k : Nat} (S : Nat → State) :
    ∀ n, (∀ i, i < n → steps p k (S i) = some (S (i + 1))) → steps p (n * k) (S 0) = some (S n)
  | 0, _ => by rw [Nat.zero_mul]; rfl
  | n + 1, h => by
    rw [Nat.succ_mul]
    exact steps_trans (steps_iter S n fun i hi => h i (Nat.lt_succ_of_lt hi)) (h n (Nat.lt_succ_self n))

/-- `x` squared `n` times -/
def sqN : Nat → Fe → Fe
  | 0, x => x
  | n + 1, x => Fe.square (sqN n x)

/-- the blocks `E`, then those appended by `t.Square(t)` executed `n` times from `t = x` -/
noncomputable def sqExt (E : List (Array Val)) : Nat → Fe → List (Array Val)
  | 0, _ => E
  | n + 1, x => sqExt E n x ++ xE_feSquareGeneric (sqN n x)

def body66 : List Instr := body% f66
theorem funcs_66 : prog.funcs[66]? = some f66 := rfl
theorem mkFrame_66 (args : List RVal) (dest : Option Nat) :
    mkFrame 66 f66 args dest = some ⟨66, f66, #[], args.toArray, 0, body66, dest⟩ := rfl
theorem resultTys_66 : f66.resultTys = [19] := rfl
theorem funcIdx_66 : prog.funcIdx? (nm! "(*field.Element).Invert") = some 66 := by decide +kernel

def blk66_3 : List Instr := List.tail (block% f66 3)
def blk66_1 : List Instr := block% f66 1
def blk66_2 : List Instr := block% f66 2
def blk66_6 : List Instr := List.tail (block% f66 6)
def blk66_4 : List Instr := block% f66 4
def blk66_5 : List Instr := block% f66 5
def blk66_9 : List Instr := List.tail (block% f66 9)
def blk66_7 : List Instr := block% f66 7
def blk66_8 : List Instr := block% f66 8
def blk66_12 : List Instr := List.tail (block% f66 12)
def blk66_10 : List Instr := block% f66 10
def blk66_11 : List Instr := block% f66 11
def blk66_15 : List Instr := List.tail (block% f66 15)
def blk66_13 : List Instr := block% f66 13
def blk66_14 : List Instr := block% f66 14
def blk66_18 : List Instr := List.tail (block% f66 18)
def blk66_16 : List Instr := block% f66 16
def blk66_17 : List Instr := block% f66 17
def blk66_21 : List Instr := List.tail (block% f66 21)
def blk66_19 : List Instr := block% f66 19
def blk66_20 : List Instr := block% f66 20

section jumps
variable (regs params : Array RVal) (rest : List Instr) (dest : Option Nat)
theorem jumpTo_66_0_3 : jumpTo prog ⟨66, f66, regs, params, 0, rest, dest⟩ 3
      = some ⟨66, f66, regSet regs 24 [.int 0], params, 3, blk66_3, dest⟩ := rfl
theorem jumpTo_66_1_3 : jumpTo prog ⟨66, f66, regs, params, 1, rest, dest⟩ 3
      = (regs[19]?).bind (fun v => some ⟨66, f66, regSet regs 24 v, params, 3, blk66_3, dest⟩) :=
  phi_bind1 (fun r => ⟨66, f66, r, params, 3, blk66_3, dest⟩) regs 24 regs[19]?
theorem jumpTo_66_3_1 : jumpTo prog ⟨66, f66, regs, params, 3, rest, dest⟩ 1
      = some ⟨66, f66, regs, params, 1, blk66_1, dest⟩ := rfl
theorem jumpTo_66_3_2 : jumpTo prog ⟨66, f66, regs, params, 3, rest, dest⟩ 2
      = some ⟨66, f66, regs, params, 2, blk66_2, dest⟩ := rfl
theorem jumpTo_66_2_6 : jumpTo prog ⟨66, f66, regs, params, 2, rest, dest⟩ 6
      = some ⟨66, f66, regSet regs 33 [.int 0], params, 6, blk66_6, dest⟩ := rfl
theorem jumpTo_66_4_6 : jumpTo prog ⟨66, f66, regs, params, 4, rest, dest⟩ 6
      = (regs[28]?).bind (fun v => some ⟨66, f66, regSet regs 33 v, params, 6, blk66_6, dest⟩) :=
  phi_bind1 (fun r => ⟨66, f66, r, params, 6, blk66_6, dest⟩) regs 33 regs[28]?
theorem jumpTo_66_6_4 : jumpTo prog ⟨66, f66, regs, params, 6, rest, dest⟩ 4
      = some ⟨66, f66, regs, params, 4, blk66_4, dest⟩ := rfl
theorem jumpTo_66_6_5 : jumpTo prog ⟨66, f66, regs, params, 6, rest, dest⟩ 5
      = some ⟨66, f66, regs, params, 5, blk66_5, dest⟩ := rfl
theorem jumpTo_66_5_9 : jumpTo prog ⟨66, f66, regs, params, 5, rest, dest⟩ 9
      = some ⟨66, f66, regSet regs 42 [.int 0], params, 9, blk66_9, dest⟩ := rfl
theorem jumpTo_66_7_9 : jumpTo prog ⟨66, f66, regs, params, 7, rest, dest⟩ 9
      = (regs[37]?).bind (fun v => some ⟨66, f66, regSet regs 42 v, params, 9, blk66_9, dest⟩) :=
  phi_bind1 (fun r => ⟨66, f66, r, params, 9, blk66_9, dest⟩) regs 42 regs[37]?
theorem jumpTo_66_9_7 : jumpTo prog ⟨66, f66, regs, params, 9, rest, dest⟩ 7
      = some ⟨66, f66, regs, params, 7, blk66_7, dest⟩ := rfl
theorem jumpTo_66_9_8 : jumpTo prog ⟨66, f66, regs, params, 9, rest, dest⟩ 8
      = some ⟨66, f66, regs, params, 8, blk66_8, dest⟩ := rfl
theorem jumpTo_66_8_12 : jumpTo prog ⟨66, f66, regs, params, 8, rest, dest⟩ 12
      = some ⟨66, f66, regSet regs 51 [.int 0], params, 12, blk66_12, dest⟩ := rfl
theorem jumpTo_66_10_12 : jumpTo prog ⟨66, f66, regs, params, 10, rest, dest⟩ 12
      = (regs[46]?).bind (fun v => some ⟨66, f66, regSet regs 51 v, params, 12, blk66_12, dest⟩) :=
  phi_bind1 (fun r => ⟨66, f66, r, params, 12, blk66_12, dest⟩) regs 51 regs[46]?
theorem jumpTo_66_12_10 : jumpTo prog ⟨66, f66, regs, params, 12, rest, dest⟩ 10
      = some ⟨66, f66, regs, params, 10, blk66_10, dest⟩ := rfl
theorem jumpTo_66_12_11 : jumpTo prog ⟨66, f66, regs, params, 12, rest, dest⟩ 11
      = some ⟨66, f66, regs, params, 11, blk66_11, dest⟩ := rfl
theorem jumpTo_66_11_15 : jumpTo prog ⟨66, f66, regs, params, 11, rest, dest⟩ 15
      = some ⟨66, f66, regSet regs 60 [.int 0], params, 15, blk66_15, dest⟩ := rfl
theorem jumpTo_66_13_15 : jumpTo prog ⟨66, f66, regs, params, 13, rest, dest⟩ 15
      = (regs[55]?).bind (fun v => some ⟨66, f66, regSet regs 60 v, params, 15, blk66_15, dest⟩) :=
  phi_bind1 (fun r => ⟨66, f66, r, params, 15, blk66_15, dest⟩) regs 60 regs[55]?
theorem jumpTo_66_15_13 : jumpTo prog ⟨66, f66, regs, params, 15, rest, dest⟩ 13
      = some ⟨66, f66, regs, params, 13, blk66_13, dest⟩ := rfl
theorem jumpTo_66_15_14 : jumpTo prog ⟨66, f66, regs, params, 15, rest, dest⟩ 14
      = some ⟨66, f66, regs, params, 14, blk66_14, dest⟩ := rfl
theorem jumpTo_66_14_18 : jumpTo prog ⟨66, f66, regs, params, 14, rest, dest⟩ 18
      = some ⟨66, f66, regSet regs 69 [.int 0], params, 18, blk66_18, dest⟩ := rfl
theorem jumpTo_66_16_18 : jumpTo prog ⟨66, f66, regs, params, 16, rest, dest⟩ 18
      = (regs[64]?).bind (fun v => some ⟨66, f66, regSet regs 69 v, params, 18, blk66_18, dest⟩) :=
  phi_bind1 (fun r => ⟨66, f66, r, params, 18, blk66_18, dest⟩) regs 69 regs[64]?
theorem jumpTo_66_18_16 : jumpTo prog ⟨66, f66, regs, params, 18, rest, dest⟩ 16
      = some ⟨66, f66, regs, params, 16, blk66_16, dest⟩ := rfl
theorem jumpTo_66_18_17 : jumpTo prog ⟨66, f66, regs, params, 18, rest, dest⟩ 17
      = some ⟨66, f66, regs, params, 17, blk66_17, dest⟩ := rfl
theorem jumpTo_66_17_21 : jumpTo prog ⟨66, f66, regs, params, 17, rest, dest⟩ 21
      = some ⟨66, f66, regSet regs 83 [.int 0], params, 21, blk66_21, dest⟩ := rfl
theorem jumpTo_66_19_21 : jumpTo prog ⟨66, f66, regs, params, 19, rest, dest⟩ 21
      = (regs[73]?).bind (fun v => some ⟨66, f66, regSet regs 83 v, params, 21, blk66_21, dest⟩) :=
  phi_bind1 (fun r => ⟨66, f66, r, params, 21, blk66_21, dest⟩) regs 83 regs[73]?
theorem jumpTo_66_21_19 : jumpTo prog ⟨66, f66, regs, params, 21, rest, dest⟩ 19
      = some ⟨66, f66, regs, params, 19, blk66_19, dest⟩ := rfl
theorem jumpTo_66_21_20 : jumpTo prog ⟨66, f66, regs, params, 21, rest, dest⟩ 20
      = some ⟨66, f66, regs, params, 20, blk66_20, dest⟩ := rfl
end jumps

syntax "ssa_execI" "[" Lean.Parser.Tactic.simpLemma,* "]" : tactic
macro_rules
  | `(tactic| ssa_execI [$ls,*]) => `(tactic|
  ssa_execX [resultTys_66, blk66_3, blk66_1, blk66_2, blk66_6, blk66_4, blk66_5, blk66_9, blk66_7, blk66_8, blk66_12, blk66_10, blk66_11, blk66_15, blk66_13, blk66_14, blk66_18, blk66_16, blk66_17, blk66_21, blk66_19, blk66_20, jumpTo_66_0_3, jumpTo_66_1_3, jumpTo_66_3_1, jumpTo_66_3_2, jumpTo_66_2_6, jumpTo_66_4_6, jumpTo_66_6_4, jumpTo_66_6_5, jumpTo_66_5_9, jumpTo_66_7_9, jumpTo_66_9_7, jumpTo_66_9_8, jumpTo_66_8_12, jumpTo_66_10_12, jumpTo_66_12_10, jumpTo_66_12_11, jumpTo_66_11_15, jumpTo_66_13_15, jumpTo_66_15_13, jumpTo_66_15_14, jumpTo_66_14_18, jumpTo_66_16_18, jumpTo_66_18_16, jumpTo_66_18_17, jumpTo_66_17_21, jumpTo_66_19_21, jumpTo_66_21_19, jumpTo_66_21_20,
    wrap64_lit, mkE_size, List.length_append, feAt0_lit, feAt0_feL, Multiply_rz, Square_rz, Add_rz, Subtract_rz, Select_rz, Set_rz, $ls,*])

/-! ## the seven loops `for i := 0; i < N; i++ { t.Square(&t) }`

`t` is the ninth local (`H.blocks.size + 8`).  The first trip round a loop is executed with the straight-line code before it (it creates
the registers of the loop); from then on a trip maps `sqLoopSt … j` to `sqLoopSt … (j + 1)` (one stepper run with `j` symbolic), and
`steps_iter` gives the remaining `N - 1` trips: the unrolled run would execute 254 `Square` calls, this one executes 41. -/

/-- the state at the header of a loop (φ assigned) after `j` further trips: `t = sqN j x`, the callees' blocks appended to `E` -/
noncomputable def sqLoopSt (H : Heap) (ovr : List Ent) (b0 b1 b2 b3 b4 b5 b6 b7 : Array Val) (x : Fe) (E : List (Array Val)) (nreg : Nat) (regs : Nat → List RVal)
    (params : Array RVal) (blk : Nat) (rest : List Instr) (dest : Option Nat) (tail : List Frame) (j : Nat) : State :=
  ⟨mkE H ovr (b0 :: b1 :: b2 :: b3 :: b4 :: b5 :: b6 :: b7 :: (feL (sqN j x)).toArray :: sqExt E j x),
    ⟨66, f66, regsN nreg (regs j), params, blk, rest, dest⟩ :: tail⟩

section loops
variable {H : Heap} {ovr : List Ent} {b0 b1 b2 b3 b4 b5 b6 b7 : Array Val} {x : Fe} {E : List (Array Val)} {rs : List RVal}
  {p0 p1 p2 p3 p4 p5 p6 p7 p8 : RVal} {params : Array RVal} {dest : Option Nat} {tail : List Frame}

theorem loop66_1 (hl : rs.length = 18) (h8 : rs.getD 9 [] = [.ptr (H.blocks.size + 8) 0]) (n : Nat) (hn : n < 4) :
    steps prog (n * 483) (sqLoopSt H ovr b0 b1 b2 b3 b4 b5 b6 b7 x E 26
        (fun j => [.bool true] :: [.int (j + 1)] :: p0 :: p1 :: p2 :: p3 :: [.int (j + 1)] :: [.ptr (H.blocks.size + 8) 0] :: rs)
        params 3 blk66_3 dest tail 0)
      = some (sqLoopSt H ovr b0 b1 b2 b3 b4 b5 b6 b7 x E 26
        (fun j => [.bool true] :: [.int (j + 1)] :: p0 :: p1 :: p2 :: p3 :: [.int (j + 1)] :: [.ptr (H.blocks.size + 8) 0] :: rs)
        params 3 blk66_3 dest tail n) :=
  steps_iter _ n fun j hj => by
    have hlt : (j + 1 < 4) = True := eq_true (by omega)
    have hw : wrap 64 (j + 1 + 1) = j + 1 + 1 := wrap64_of_lt _ (by omega)
    have h63 : j + 1 < 9223372036854775808 := by omega
    simp only [sqLoopSt]
    ssa_execI [↓stepsA_Square, hl, h8, hlt, hw, h63, sqN, sqExt]

theorem loop66_2 (hl : rs.length = 27) (h8 : rs.getD 18 [] = [.ptr (H.blocks.size + 8) 0]) (n : Nat) (hn : n < 9) :
    steps prog (n * 483) (sqLoopSt H ovr b0 b1 b2 b3 b4 b5 b6 b7 x E 35
        (fun j => [.bool true] :: [.int (j + 1)] :: p0 :: p1 :: p2 :: p3 :: [.int (j + 1)] :: [.ptr (H.blocks.size + 8) 0] :: rs)
        params 6 blk66_6 dest tail 0)
      = some (sqLoopSt H ovr b0 b1 b2 b3 b4 b5 b6 b7 x E 35
        (fun j => [.bool true] :: [.int (j + 1)] :: p0 :: p1 :: p2 :: p3 :: [.int (j + 1)] :: [.ptr (H.blocks.size + 8) 0] :: rs)
        params 6 blk66_6 dest tail n) :=
  steps_iter _ n fun j hj => by
    have hlt : (j + 1 < 9) = True := eq_true (by omega)
    have hw : wrap 64 (j + 1 + 1) = j + 1 + 1 := wrap64_of_lt _ (by omega)
    have h63 : j + 1 < 9223372036854775808 := by omega
    simp only [sqLoopSt]
    ssa_execI [↓stepsA_Square, hl, h8, hlt, hw, h63, sqN, sqExt]

theorem loop66_3 (hl : rs.length = 36) (h8 : rs.getD 27 [] = [.ptr (H.blocks.size + 8) 0]) (n : Nat) (hn : n < 19) :
    steps prog (n * 483) (sqLoopSt H ovr b0 b1 b2 b3 b4 b5 b6 b7 x E 44
        (fun j => [.bool true] :: [.int (j + 1)] :: p0 :: p1 :: p2 :: p3 :: [.int (j + 1)] :: [.ptr (H.blocks.size + 8) 0] :: rs)
        params 9 blk66_9 dest tail 0)
      = some (sqLoopSt H ovr b0 b1 b2 b3 b4 b5 b6 b7 x E 44
        (fun j => [.bool true] :: [.int (j + 1)] :: p0 :: p1 :: p2 :: p3 :: [.int (j + 1)] :: [.ptr (H.blocks.size + 8) 0] :: rs)
        params 9 blk66_9 dest tail n) :=
  steps_iter _ n fun j hj => by
    have hlt : (j + 1 < 19) = True := eq_true (by omega)
    have hw : wrap 64 (j + 1 + 1) = j + 1 + 1 := wrap64_of_lt _ (by omega)
    have h63 : j + 1 < 9223372036854775808 := by omega
    simp only [sqLoopSt]
    ssa_execI [↓stepsA_Square, hl, h8, hlt, hw, h63, sqN, sqExt]

theorem loop66_4 (hl : rs.length = 45) (h8 : rs.getD 36 [] = [.ptr (H.blocks.size + 8) 0]) (n : Nat) (hn : n < 9) :
    steps prog (n * 483) (sqLoopSt H ovr b0 b1 b2 b3 b4 b5 b6 b7 x E 53
        (fun j => [.bool true] :: [.int (j + 1)] :: p0 :: p1 :: p2 :: p3 :: [.int (j + 1)] :: [.ptr (H.blocks.size + 8) 0] :: rs)
        params 12 blk66_12 dest tail 0)
      = some (sqLoopSt H ovr b0 b1 b2 b3 b4 b5 b6 b7 x E 53
        (fun j => [.bool true] :: [.int (j + 1)] :: p0 :: p1 :: p2 :: p3 :: [.int (j + 1)] :: [.ptr (H.blocks.size + 8) 0] :: rs)
        params 12 blk66_12 dest tail n) :=
  steps_iter _ n fun j hj => by
    have hlt : (j + 1 < 9) = True := eq_true (by omega)
    have hw : wrap 64 (j + 1 + 1) = j + 1 + 1 := wrap64_of_lt _ (by omega)
    have h63 : j + 1 < 9223372036854775808 := by omega
    simp only [sqLoopSt]
    ssa_execI [↓stepsA_Square, hl, h8, hlt, hw, h63, sqN, sqExt]

theorem loop66_5 (hl : rs.length = 54) (h8 : rs.getD 45 [] = [.ptr (H.blocks.size + 8) 0]) (n : Nat) (hn : n < 49) :
    steps prog (n * 483) (sqLoopSt H ovr b0 b1 b2 b3 b4 b5 b6 b7 x E 62
        (fun j => [.bool true] :: [.int (j + 1)] :: p0 :: p1 :: p2 :: p3 :: [.int (j + 1)] :: [.ptr (H.blocks.size + 8) 0] :: rs)
        params 15 blk66_15 dest tail 0)
      = some (sqLoopSt H ovr b0 b1 b2 b3 b4 b5 b6 b7 x E 62
        (fun j => [.bool true] :: [.int (j + 1)] :: p0 :: p1 :: p2 :: p3 :: [.int (j + 1)] :: [.ptr (H.blocks.size + 8) 0] :: rs)
        params 15 blk66_15 dest tail n) :=
  steps_iter _ n fun j hj => by
    have hlt : (j + 1 < 49) = True := eq_true (by omega)
    have hw : wrap 64 (j + 1 + 1) = j + 1 + 1 := wrap64_of_lt _ (by omega)
    have h63 : j + 1 < 9223372036854775808 := by omega
    simp only [sqLoopSt]
    ssa_execI [↓stepsA_Square, hl, h8, hlt, hw, h63, sqN, sqExt]

theorem loop66_6 (hl : rs.length = 63) (h8 : rs.getD 54 [] = [.ptr (H.blocks.size + 8) 0]) (n : Nat) (hn : n < 99) :
    steps prog (n * 483) (sqLoopSt H ovr b0 b1 b2 b3 b4 b5 b6 b7 x E 71
        (fun j => [.bool true] :: [.int (j + 1)] :: p0 :: p1 :: p2 :: p3 :: [.int (j + 1)] :: [.ptr (H.blocks.size + 8) 0] :: rs)
        params 18 blk66_18 dest tail 0)
      = some (sqLoopSt H ovr b0 b1 b2 b3 b4 b5 b6 b7 x E 71
        (fun j => [.bool true] :: [.int (j + 1)] :: p0 :: p1 :: p2 :: p3 :: [.int (j + 1)] :: [.ptr (H.blocks.size + 8) 0] :: rs)
        params 18 blk66_18 dest tail n) :=
  steps_iter _ n fun j hj => by
    have hlt : (j + 1 < 99) = True := eq_true (by omega)
    have hw : wrap 64 (j + 1 + 1) = j + 1 + 1 := wrap64_of_lt _ (by omega)
    have h63 : j + 1 < 9223372036854775808 := by omega
    simp only [sqLoopSt]
    ssa_execI [↓stepsA_Square, hl, h8, hlt, hw, h63, sqN, sqExt]

theorem loop66_7 (hl : rs.length = 72) (h8 : rs.getD 63 [] = [.ptr (H.blocks.size + 8) 0]) (n : Nat) (hn : n < 49) :
    steps prog (n * 483) (sqLoopSt H ovr b0 b1 b2 b3 b4 b5 b6 b7 x E 85
        (fun j => [.bool true] :: [.int (j + 1)] :: p0 :: p1 :: p2 :: p3 :: p4 :: p5 :: p6 :: p7 :: p8 :: [.int (j + 1)] :: [.ptr (H.blocks.size + 8) 0] :: rs)
        params 21 blk66_21 dest tail 0)
      = some (sqLoopSt H ovr b0 b1 b2 b3 b4 b5 b6 b7 x E 85
        (fun j => [.bool true] :: [.int (j + 1)] :: p0 :: p1 :: p2 :: p3 :: p4 :: p5 :: p6 :: p7 :: p8 :: [.int (j + 1)] :: [.ptr (H.blocks.size + 8) 0] :: rs)
        params 21 blk66_21 dest tail n) :=
  steps_iter _ n fun j hj => by
    have hlt : (j + 1 < 49) = True := eq_true (by omega)
    have hw : wrap 64 (j + 1 + 1) = j + 1 + 1 := wrap64_of_lt _ (by omega)
    have h63 : j + 1 < 9223372036854775808 := by omega
    simp only [sqLoopSt]
    ssa_execI [↓stepsA_Square, hl, h8, hlt, hw, h63, sqN, sqExt]

end loops

end EdVerif.Ssa.Tie
