import EdVerif.Ssa.Tie.Slot
/-!
# `field.feMulGeneric`, `field.feMul`, `(*field.Element).Multiply`
-/
namespace EdVerif.Ssa.Tie
open EdVerif.Ssa EdVerif.Gen.Ssa EdVerif.Prims
set_option maxRecDepth 100000

def body110 : List Instr := body% f110
theorem funcs_110 : prog.funcs[110]? = some f110 := rfl
theorem mkFrame_110 (args : List RVal) (dest : Option Nat) :
    mkFrame 110 f110 args dest = some ⟨110, f110, #[], args.toArray, 0, body110, dest⟩ := rfl
theorem resultTys_110 : f110.resultTys = [] := rfl
theorem funcIdx_110 : prog.funcIdx? (nm! "field.feMulGeneric") = some 110 := by decide +kernel

/-- Every instruction of `feMulGeneric` but the final `Return`, whatever lies below its frame, on any heap, the operands in element slots.
    All limbs of the operands are loaded before the first store to `v`, so nothing is asked about which slots coincide.  The blocks
    the run allocates (temporaries of the callees) depend on the operand values only. -/
theorem preA_feMulGeneric (a b : Fe) : ∃ E : List (Array Val), ∀ (H : Heap) (bv ov ba oa bb ob : Nat)
    (hkv : OkE H bv ov) (hka : OkE H ba oa) (hkb : OkE H bb ob) (ea : getE H ba oa = a) (eb : getE H bb ob = b) (dest : Option Nat) (frs : List Frame),
    ∃ regs, steps prog 730 ⟨H, ⟨110, f110, #[], #[[.ptr bv ov], [.ptr ba oa], [.ptr bb ob]], 0, body110, dest⟩ :: frs⟩
      = some ⟨pushB (setE bv ov (EdVerif.Gen.Field.feMulGeneric (getE H bv ov) a b) H) E,
          ⟨110, f110, regs, #[[.ptr bv ov], [.ptr ba oa], [.ptr bb ob]], 0, List.drop 141 body110, dest⟩ :: frs⟩ := by
  apply Exists.intro
  intro H bv ov ba oa bb ob hkv hka hkb ea eb dest frs
  apply Exists.intro
  apply steps_of_baseE
  simp only [body110]
  ssa_execS [resultTys_110, funcs_83, mkFrame_83, funcs_116, mkFrame_116, funcs_108, mkFrame_108, funcs_117, mkFrame_117,
    ↓stepsE_carryPropagate, ↓steps_mul64, ↓steps_addMul64, ↓steps_shiftRightBy51, U128_eta, hkv, hka, hkb, ea, eb, hkv.1]
  refine state_eq (mkE_setE H bv ov _ _) ?_
  rfl

/-- the blocks `feMulGeneric` allocates -/
noncomputable def xE_feMulGeneric (a b : Fe) : List (Array Val) := Classical.choose (preA_feMulGeneric a b)

/-- `feMulGeneric` called from any frame on an arbitrary heap -/
theorem callA_feMulGeneric (H : Heap) (bv ov ba oa bb ob : Nat)
    (hkv : OkE H bv ov) (hka : OkE H ba oa) (hkb : OkE H bb ob) (d : Nat) (cfi : Nat) (cf : Func) (cregs cparams : Array RVal) (cblk : Nat) (crest : List Instr) (cdest : Option Nat) (frs : List Frame) :
    steps prog 731 ⟨H, ⟨110, f110, #[], #[[.ptr bv ov], [.ptr ba oa], [.ptr bb ob]], 0, body110, some d⟩ :: ⟨cfi, cf, cregs, cparams, cblk, crest, cdest⟩ :: frs⟩
      = some ⟨pushB (setE bv ov (EdVerif.Gen.Field.feMulGeneric (getE H bv ov) (getE H ba oa) (getE H bb ob)) H) (xE_feMulGeneric (getE H ba oa) (getE H bb ob)),
          ⟨cfi, cf, regSet cregs d [], cparams, cblk, crest, cdest⟩ :: frs⟩ := by
  obtain ⟨regs, hp⟩ := Classical.choose_spec (preA_feMulGeneric (getE H ba oa) (getE H bb ob)) H bv ov ba oa bb ob hkv hka hkb rfl rfl (some d) (⟨cfi, cf, cregs, cparams, cblk, crest, cdest⟩ :: frs)
  rw [← xE_feMulGeneric] at hp
  refine Eq.trans (steps_steps' hp 1) ?_
  simp only [body110, List.drop_succ_cons, List.drop_zero]
  ssa_execE [resultTys_110]

derive_rules callA_feMulGeneric runA_feMulGeneric stepsA_feMulGeneric

/-- **tie** (any aliasing): `field.feMulGeneric` on an arbitrary heap in which the argument blocks hold the limbs of the arguments
    (the blocks may coincide, in which case the arguments do). -/
theorem tie_feMulGeneric_any (h : Heap) (bv ba bb : Nat) (v a b : Fe) 
    (hv : h.blocks[bv]? = some (feCells v)) (ha : h.blocks[ba]? = some (feCells a)) (hb : h.blocks[bb]? = some (feCells b)) :
    ∃ h', runCall prog 731 h (nm! "field.feMulGeneric") [[.ptr bv 0], [.ptr ba 0], [.ptr bb 0]] = some (.done ⟨h', []⟩ [])
      ∧ Post1 h h' bv (feCells (EdVerif.Gen.Field.feMulGeneric v a b)) := by
  obtain ⟨regs, hp⟩ := Classical.choose_spec (preA_feMulGeneric a b) h bv 0 ba 0 bb 0 (okE_of_feCells hv) (okE_of_feCells ha) (okE_of_feCells hb) (getE_of_feCells ha) (getE_of_feCells hb) none []
  rw [getE_of_feCells hv, ← xE_feMulGeneric] at hp
  refine ⟨_, ?_, post1_setE _ (xE_feMulGeneric a b) hv rfl⟩
  rw [runCall_eq funcIdx_110 funcs_110 (mkFrame_110 _ _), run_steps' hp 1]
  simp only [body110, List.drop_succ_cons, List.drop_zero]
  ssa_execE [resultTys_110]

/-! ## `field.feMul` -/

def body109 : List Instr := body% f109
theorem funcs_109 : prog.funcs[109]? = some f109 := rfl
theorem mkFrame_109 (args : List RVal) (dest : Option Nat) :
    mkFrame 109 f109 args dest = some ⟨109, f109, #[], args.toArray, 0, body109, dest⟩ := rfl
theorem resultTys_109 : f109.resultTys = [] := rfl
theorem funcIdx_109 : prog.funcIdx? (nm! "field.feMul") = some 109 := by decide +kernel

/-- `field.feMul` called from any frame on an arbitrary heap (through the call rule of `feMulGeneric`) -/
theorem callA_feMul (H : Heap) (bv ov ba oa bb ob : Nat)
    (hkv : OkE H bv ov) (hka : OkE H ba oa) (hkb : OkE H bb ob) (d : Nat) (cfi : Nat) (cf : Func) (cregs cparams : Array RVal) (cblk : Nat) (crest : List Instr) (cdest : Option Nat) (frs : List Frame) :
    steps prog 733 ⟨H, ⟨109, f109, #[], #[[.ptr bv ov], [.ptr ba oa], [.ptr bb ob]], 0, body109, some d⟩ :: ⟨cfi, cf, cregs, cparams, cblk, crest, cdest⟩ :: frs⟩
      = some ⟨pushB (setE bv ov (EdVerif.Gen.Field.feMul (getE H bv ov) (getE H ba oa) (getE H bb ob)) H) (xE_feMulGeneric (getE H ba oa) (getE H bb ob)),
          ⟨cfi, cf, regSet cregs d [], cparams, cblk, crest, cdest⟩ :: frs⟩ := by
  simp only [body109]
  ssa_execE [resultTys_109, funcs_110, mkFrame_110, ↓stepsA_feMulGeneric, hkv, hka, hkb]
  rfl

derive_rules callA_feMul runA_feMul stepsA_feMul

/-- **tie** (any aliasing): `field.feMul` on an arbitrary heap in which the argument blocks hold the limbs of the arguments
    (the blocks may coincide, in which case the arguments do). -/
theorem tie_feMul_any (h : Heap) (bv ba bb : Nat) (v a b : Fe) 
    (hv : h.blocks[bv]? = some (feCells v)) (ha : h.blocks[ba]? = some (feCells a)) (hb : h.blocks[bb]? = some (feCells b)) :
    ∃ h', runCall prog 733 h (nm! "field.feMul") [[.ptr bv 0], [.ptr ba 0], [.ptr bb 0]] = some (.done ⟨h', []⟩ [])
      ∧ Post1 h h' bv (feCells (EdVerif.Gen.Field.feMul v a b)) := by
  have hkv := okE_of_feCells hv
  have hka := okE_of_feCells ha
  have hkb := okE_of_feCells hb
  refine ⟨pushB (setE bv 0 (EdVerif.Gen.Field.feMul v a b) h) (xE_feMulGeneric a b), ?_, post1_setE _ _ hv rfl⟩
  rw [runCall_eq funcIdx_109 funcs_109 (mkFrame_109 _ _)]
  simp only [body109]
  ssa_execE [resultTys_109, funcs_110, mkFrame_110, ↓runA_feMulGeneric, hkv, hka, hkb, getE_of_feCells hv, getE_of_feCells ha, getE_of_feCells hb]
  rfl

/-! ## `(*field.Element).Multiply` -/

def body69 : List Instr := body% f69
theorem funcs_69 : prog.funcs[69]? = some f69 := rfl
theorem mkFrame_69 (args : List RVal) (dest : Option Nat) :
    mkFrame 69 f69 args dest = some ⟨69, f69, #[], args.toArray, 0, body69, dest⟩ := rfl
theorem resultTys_69 : f69.resultTys = [19] := rfl
theorem funcIdx_69 : prog.funcIdx? (nm! "(*field.Element).Multiply") = some 69 := by decide +kernel

/-- `(*field.Element).Multiply` called from any frame on an arbitrary heap (through the call rule of `feMul`) -/
theorem callA_Multiply (H : Heap) (bv ov ba oa bb ob : Nat)
    (hkv : OkE H bv ov) (hka : OkE H ba oa) (hkb : OkE H bb ob) (d : Nat) (cfi : Nat) (cf : Func) (cregs cparams : Array RVal) (cblk : Nat) (crest : List Instr) (cdest : Option Nat) (frs : List Frame) :
    steps prog 735 ⟨H, ⟨69, f69, #[], #[[.ptr bv ov], [.ptr ba oa], [.ptr bb ob]], 0, body69, some d⟩ :: ⟨cfi, cf, cregs, cparams, cblk, crest, cdest⟩ :: frs⟩
      = some ⟨pushB (setE bv ov (EdVerif.Gen.Field.Multiply (getE H bv ov) (getE H ba oa) (getE H bb ob)) H) (xE_feMulGeneric (getE H ba oa) (getE H bb ob)),
          ⟨cfi, cf, regSet cregs d [.ptr bv ov], cparams, cblk, crest, cdest⟩ :: frs⟩ := by
  simp only [body69]
  ssa_execE [resultTys_69, funcs_109, mkFrame_109, ↓stepsA_feMul, hkv, hka, hkb]
  rfl

derive_rules callA_Multiply runA_Multiply stepsA_Multiply

/-- **tie** (any aliasing): `(*field.Element).Multiply` on an arbitrary heap in which the argument blocks hold the limbs of the arguments
    (the blocks may coincide, in which case the arguments do). -/
theorem tie_Multiply_any (h : Heap) (bv ba bb : Nat) (v a b : Fe) 
    (hv : h.blocks[bv]? = some (feCells v)) (ha : h.blocks[ba]? = some (feCells a)) (hb : h.blocks[bb]? = some (feCells b)) :
    ∃ h', runCall prog 735 h (nm! "(*field.Element).Multiply") [[.ptr bv 0], [.ptr ba 0], [.ptr bb 0]] = some (.done ⟨h', []⟩ [[.ptr bv 0]])
      ∧ Post1 h h' bv (feCells (EdVerif.Gen.Field.Multiply v a b)) := by
  have hkv := okE_of_feCells hv
  have hka := okE_of_feCells ha
  have hkb := okE_of_feCells hb
  refine ⟨pushB (setE bv 0 (EdVerif.Gen.Field.Multiply v a b) h) (xE_feMulGeneric a b), ?_, post1_setE _ _ hv rfl⟩
  rw [runCall_eq funcIdx_69 funcs_69 (mkFrame_69 _ _)]
  simp only [body69]
  ssa_execE [resultTys_69, funcs_109, mkFrame_109, ↓runA_feMul, hkv, hka, hkb, getE_of_feCells hv, getE_of_feCells ha, getE_of_feCells hb]
  rfl

end EdVerif.Ssa.Tie
