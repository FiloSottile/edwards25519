import EdVerif.Ssa.Tie.PtGlob
import EdVerif.Ssa.Tie.KernESwap
import EdVerif.Gen.Formulas
/-!
# GENERATED by gen_pt.py — `(*projCached).FromP3`: SSA execution = T5's `Formulas.projCached_FromP3`
-/
namespace EdVerif.Ssa.Tie
open EdVerif.Ssa EdVerif.Gen.Ssa EdVerif.Prims EdVerif.Impl EdVerif.Gen
set_option maxRecDepth 100000
set_option linter.unusedVariables false

def body49 : List Instr := body% f49
theorem funcs_49 : prog.funcs[49]? = some f49 := rfl
theorem mkFrame_49 (args : List RVal) (dest : Option Nat) :
    mkFrame 49 f49 args dest = some ⟨49, f49, #[], args.toArray, 0, body49, dest⟩ := rfl
theorem resultTys_49 : f49.resultTys = [14] := rfl
theorem funcIdx_49 : prog.funcIdx? (nm! "(*projCached).FromP3") = some 49 := by decide +kernel

/-- every instruction of `(*projCached).FromP3` but the final `Return`, whatever lies below its frame, on the canonical heap of its parameters;
    the blocks allocated (locals and temporaries of the callees) depend on the values only -/
theorem preE_projCached_FromP3 (v : Cached) (p : P3)  : ∃ E : List (Array Val), ∀ (H : Heap) (bv bp bg_d2 : Nat) (hfv : Fits H bv 0 20) (hfp : Fits H bp 0 20) (hne_vp : bv ≠ bp) (hg_d2 : H.read 4 0 1 = some [.ptr bg_d2 0]) (hfg_d2 : Fits H bg_d2 0 5) (hn_d2 : bg_d2 ≠ 4) (hne_v_d2 : bv ≠ bg_d2) (hng_v_d2 : bv ≠ 4) (hne_p_d2 : bp ≠ bg_d2) (hng_p_d2 : bp ≠ 4) (dest : Option Nat) (frs : List Frame), ∃ regs,
    steps prog 928 ⟨mkE H (entsC bv v ++ entsP3 bp p ++ [(bg_d2, 0, feL Point.d2)]) [],
        ⟨49, f49, #[], #[[.ptr bv 0], [.ptr bp 0]], 0, body49, dest⟩ :: frs⟩
      = some ⟨mkE H (entsC bv (Formulas.projCached_FromP3 v p) ++ entsP3 bp p ++ [(bg_d2, 0, feL Point.d2)]) E,
          ⟨49, f49, regs, #[[.ptr bv 0], [.ptr bp 0]], 0, [⟨15, .none, 239, .ret [(.param 0)], 0, [14]⟩], dest⟩ :: frs⟩ := by
  apply Exists.intro
  intro H bv bp bg_d2 hfv hfp hne_vp hg_d2 hfg_d2 hn_d2 hne_v_d2 hng_v_d2 hne_p_d2 hng_p_d2 dest frs
  apply Exists.intro
  have hbv := hfv.1
  have hfv0 := fits_sub 0 hfv (by decide)
  have hfv1 := fits_sub 5 hfv (by decide)
  have hfv2 := fits_sub 10 hfv (by decide)
  have hfv3 := fits_sub 15 hfv (by decide)
  have hbp := hfp.1
  have hfp0 := fits_sub 0 hfp (by decide)
  have hfp1 := fits_sub 5 hfp (by decide)
  have hfp2 := fits_sub 10 hfp (by decide)
  have hfp3 := fits_sub 15 hfp (by decide)
  simp only [body49]
  ssa_execP [resultTys_49, ↓stepsA_Add, ↓stepsA_Subtract, ↓stepsA_Set, ↓stepsA_Multiply, hbv, hfv0, hfv1, hfv2, hfv3, hbp, hfp0, hfp1, hfp2, hfp3, hne_vp, hne_vp.symm, read_mkE_base hg_d2, gptr_mkE hg_d2, isGlob_mkE hg_d2, hfg_d2, hfg_d2.1, hn_d2, hn_d2.symm, hne_v_d2, hne_v_d2.symm, hng_v_d2, hng_v_d2.symm, hne_p_d2, hne_p_d2.symm, hng_p_d2, hng_p_d2.symm, NoBlk_cons, NoBlk_nil, Negate_val, Multiply_rz, Square_rz, Add_rz, Subtract_rz, Select_rz, Set_rz]
  rfl

/-- the blocks `(*projCached).FromP3` allocates -/
noncomputable def ext_projCached_FromP3 (v : Cached) (p : P3) : List (Array Val) :=
  open Classical in if h : True then Classical.choose (preE_projCached_FromP3 v p  ) else []

/-- `(*projCached).FromP3` called from any frame on an arbitrary heap in which the parameters are structures of elements in distinct blocks -/
theorem callA_projCached_FromP3 (H : Heap) (bv bp : Nat)  (hkv : Ok4 H bv) (hkp : Ok4 H bp) (hne_vp : bv ≠ bp) (hg_d2 : IsGlob H 4) (hkg_d2 : OkE H (gptr H 4) 0) (hvg_d2 : getE H (gptr H 4) 0 = Point.d2) (hn_d2 : gptr H 4 ≠ 4) (hne_v_d2 : bv ≠ gptr H 4) (hng_v_d2 : bv ≠ 4) (hne_p_d2 : bp ≠ gptr H 4) (hng_p_d2 : bp ≠ 4) (d : Nat) (cfi : Nat) (cf : Func) (cregs cparams : Array RVal) (cblk : Nat) (crest : List Instr) (cdest : Option Nat) (frs : List Frame) :
    steps prog 929 ⟨H, ⟨49, f49, #[], #[[.ptr bv 0], [.ptr bp 0]], 0, body49, some d⟩ :: ⟨cfi, cf, cregs, cparams, cblk, crest, cdest⟩ :: frs⟩
      = some ⟨pushB (set4 bv (Formulas.projCached_FromP3 (getC H bv) (getP3 H bp)).YplusX (Formulas.projCached_FromP3 (getC H bv) (getP3 H bp)).YminusX (Formulas.projCached_FromP3 (getC H bv) (getP3 H bp)).Z (Formulas.projCached_FromP3 (getC H bv) (getP3 H bp)).T2d H) (ext_projCached_FromP3 (getC H bv) (getP3 H bp) ),
          ⟨cfi, cf, regSet cregs d [.ptr bv 0], cparams, cblk, crest, cdest⟩ :: frs⟩ := by
  have hsc : True := trivial
  obtain ⟨regs, hp⟩ := Classical.choose_spec (preE_projCached_FromP3 (getC H bv) (getP3 H bp)  ) H bv bp (gptr H 4) (fits_ok4 hkv) (fits_ok4 hkp) hne_vp hg_d2 hkg_d2.1 hn_d2 hne_v_d2 hng_v_d2 hne_p_d2 hng_p_d2 (some d) (⟨cfi, cf, cregs, cparams, cblk, crest, cdest⟩ :: frs)
  rw [show mkE H (entsC bv (getC H bv) ++ entsP3 bp (getP3 H bp) ++ [(gptr H 4, 0, feL Point.d2)]) [] = H from mkE_restates H _ (restatesO4 hkv (restatesO4 hkp (restates_cons_val hkg_d2 hvg_d2 (restates_nil H))))] at hp
  rw [ext_projCached_FromP3, dif_pos hsc]
  refine (steps_steps' hp 1).trans ?_
  ssa_execP [resultTys_49]
  refine congrArg (fun hp => some (⟨hp, _⟩ : State)) ?_
  exact mkE_head4 H bv _ _ _ _ _ _ (restatesO4 hkp (restates_cons_val hkg_d2 hvg_d2 (restates_nil H)))

derive_rules callA_projCached_FromP3 runA_projCached_FromP3 stepsA_projCached_FromP3

/-- **tie**: `(*projCached).FromP3` on any heap in which the (pairwise distinct) parameter blocks hold the cells of the model values and the package variables point to T5's constants: the run
    terminates and returns the receiver; the receiver's block then holds the cells of T5's `Formulas.projCached_FromP3`; every other block of the
    heap is unchanged (the heap grows by the locals of the run). -/
theorem tie_projCached_FromP3 (h : Heap) (bv bp bg_d2 : Nat) (v : Cached) (p : P3)  (hcv : h.blocks[bv]? = some (cellsC v)) (hcp : h.blocks[bp]? = some (cellsP3 p)) (hne_vp : bv ≠ bp) (hgp_d2 : h.blocks[4]? = some #[.ptr bg_d2 0]) (hgv_d2 : h.blocks[bg_d2]? = some (feCells Point.d2)) :
    ∃ h', runCall prog 929 h (nm! "(*projCached).FromP3") [[.ptr bv 0], [.ptr bp 0]] = some (.done ⟨h', []⟩ [[.ptr bv 0]])
      ∧ Post1 h h' bv (cellsC (Formulas.projCached_FromP3 v p)) := by
  obtain ⟨E, pre⟩ := preE_projCached_FromP3 v p  
  obtain ⟨regs, hp⟩ := pre h bv bp bg_d2 (fits_of_get hcv 20 (Nat.le_refl _)) (fits_of_get hcp 20 (Nat.le_refl _)) hne_vp (read_of_get1 hgp_d2) (fits_of_get hgv_d2 5 (Nat.le_refl _)) (ne_of_size' hgv_d2 hgp_d2 (n1 := 5) (n2 := 1) rfl rfl (by decide)) (ne_of_size' hcv hgv_d2 (n1 := 20) (n2 := 5) rfl rfl (by decide)) (ne_of_size' hcv hgp_d2 (n1 := 20) (n2 := 1) rfl rfl (by decide)) (ne_of_size' hcp hgv_d2 (n1 := 20) (n2 := 5) rfl rfl (by decide)) (ne_of_size' hcp hgp_d2 (n1 := 20) (n2 := 1) rfl rfl (by decide)) none []
  rw [show mkE h (entsC bv v ++ entsP3 bp p ++ [(bg_d2, 0, feL Point.d2)]) [] = h from mkE_restates h _ (restates4 hcv (restates4 hcp (restates_feCells hgv_d2 (restates_nil h))))] at hp
  refine ⟨_, ?_, post1_mkE4 _ _ _ _ _ E hcv (cells4_size _ _ _ _) (restates4 hcp (restates_feCells hgv_d2 (restates_nil h)))⟩
  simp only [runCall, funcIdx_49, callState, funcs_49, mkFrame_49, Option.bind_some, Option.map_some, Option.pure_def,
    Option.bind_eq_bind]
  rw [run_steps' hp 1]
  ssa_execP [resultTys_49]

end EdVerif.Ssa.Tie
