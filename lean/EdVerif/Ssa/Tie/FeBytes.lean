import EdVerif.Ssa.Tie.FeBytesModel
/-!
# `(*field.Element).Bytes` (with `bytes` inline) as a callee: 801 steps, executed in six chunks
-/
namespace EdVerif.Ssa.Tie
open EdVerif.Ssa EdVerif.Gen.Ssa EdVerif.Prims EdVerif.Impl
set_option maxRecDepth 100000

theorem steps_chain {p : Program} {a b : Nat} {s s2 : State} (h : ∃ s1, steps p a s = some s1 ∧ steps p b s1 = some s2) :
    steps p (a + b) s = some s2 := by
  obtain ⟨s1, h1, h2⟩ := h
  exact steps_trans h1 h2

set_option maxHeartbeats 400000 in
/-- the first 800 steps of `v.Bytes()` (everything but its final `Return`), whatever lies below its frame -/
theorem preE_Bytes (v0 v1 v2 v3 v4 : Nat) (H : Heap) (bv ov : Nat) (hfv : Fits H bv ov 5) (h16 : 16 < H.blocks.size)
    (dest : Option Nat) (tail : List Frame) :
    steps prog 800 ⟨mkE H [(bv, ov, [.int v0, .int v1, .int v2, .int v3, .int v4])] [],
        ⟨64, f64, #[], #[[.ptr bv ov]], 0, body64, dest⟩ :: tail⟩
      = some ⟨mkE H [(bv, ov, [.int v0, .int v1, .int v2, .int v3, .int v4])] (extBytes (EdVerif.Gen.Field.reduce ⟨v0, v1, v2, v3, v4⟩)),
          ⟨64, f64, regsN 2 [[.slice (H.blocks.size + 0) 0 32 32], [.ptr (H.blocks.size + 0) 0]], #[[.ptr bv ov]], 0,
            [⟨2, .none, 228, .ret [(.reg 1)], 0, [16]⟩], dest⟩ :: tail⟩ := by
  have hbv := hfv.1
  show steps prog (150 + (130 + (130 + (130 + (130 + 130))))) _ = _
  refine steps_chain ⟨_, by (simp only [body64]; ssa_execB [hfv, hbv, h16, funcs_85, mkFrame_85, ↓stepsA_reduce]; rfl), ?_⟩
  refine steps_chain ⟨_, by (ssa_execB [hfv, hbv, h16]; rfl), ?_⟩
  refine steps_chain ⟨_, by (ssa_execB [hfv, hbv, h16]; rfl), ?_⟩
  refine steps_chain ⟨_, by (ssa_execB [hfv, hbv, h16]; rfl), ?_⟩
  refine steps_chain ⟨_, by (ssa_execB [hfv, hbv, h16]; rfl), ?_⟩
  ssa_execB [hfv, hbv, h16, extBytes_eq, bytesV, bytesL, bufV, List.map_cons, List.map_nil]

/-- `v.Bytes()` called from any frame, on the canonical heap of its operand (an element slot); needs the block of the package variable
    `binary.LittleEndian` (global 15 = block 16, a zero-size struct) -/
theorem callE_Bytes (v0 v1 v2 v3 v4 : Nat) (H : Heap) (bv ov : Nat) (hfv : Fits H bv ov 5) (h16 : 16 < H.blocks.size)
    (d : Nat) (cfi : Nat) (cf : Func) (cregs cparams : Array RVal) (cblk : Nat) (crest : List Instr) (cdest : Option Nat) (frs : List Frame) :
    steps prog 801 ⟨mkE H [(bv, ov, [.int v0, .int v1, .int v2, .int v3, .int v4])] [],
        ⟨64, f64, #[], #[[.ptr bv ov]], 0, body64, some d⟩ :: ⟨cfi, cf, cregs, cparams, cblk, crest, cdest⟩ :: frs⟩
      = some ⟨mkE H [(bv, ov, [.int v0, .int v1, .int v2, .int v3, .int v4])] (extBytes (EdVerif.Gen.Field.reduce ⟨v0, v1, v2, v3, v4⟩)),
          ⟨cfi, cf, regSet cregs d [.slice (H.blocks.size + 0) 0 32 32], cparams, cblk, crest, cdest⟩ :: frs⟩ := by
  refine steps_trans (a := 800) (b := 1) (preE_Bytes v0 v1 v2 v3 v4 H bv ov hfv h16 _ _) ?_
  ssa_execB [hfv]

/-- `v.Bytes()` as the outermost call -/
theorem coreE_Bytes (v0 v1 v2 v3 v4 : Nat) (H : Heap) (bv ov : Nat) (hfv : Fits H bv ov 5) (h16 : 16 < H.blocks.size) :
    run prog 801 ⟨mkE H [(bv, ov, [.int v0, .int v1, .int v2, .int v3, .int v4])] [],
        [⟨64, f64, #[], #[[.ptr bv ov]], 0, body64, none⟩]⟩
      = .done ⟨mkE H [(bv, ov, [.int v0, .int v1, .int v2, .int v3, .int v4])] (extBytes (EdVerif.Gen.Field.reduce ⟨v0, v1, v2, v3, v4⟩)), []⟩
          [[.slice (H.blocks.size + 0) 0 32 32]] := by
  rw [run_steps' (preE_Bytes v0 v1 v2 v3 v4 H bv ov hfv h16 none []) 1]
  ssa_execB [hfv]

theorem mkE_restates_ext (H : Heap) (ovr : List Ent) (E : List (Array Val)) (h : Restates H ovr) : mkE H ovr E = pushB H E := by
  rw [mkE_eq, baseE_restates H ovr h]

/-- `v.Bytes()` called from any frame on an arbitrary heap in which `(bv, ov)` is an element slot: the heap grows by the four blocks
    `extBytes (reduce v)` (the first one is the result array, holding the model's `Fe.bytes v`), nothing else changes, and the
    caller receives the slice of the whole result array -/
theorem callA_Bytes (H : Heap) (bv ov : Nat) (hkv : OkE H bv ov) (h16 : 16 < H.blocks.size)
    (d : Nat) (cfi : Nat) (cf : Func) (cregs cparams : Array RVal) (cblk : Nat) (crest : List Instr) (cdest : Option Nat) (frs : List Frame) :
    steps prog 801 ⟨H, ⟨64, f64, #[], #[[.ptr bv ov]], 0, body64, some d⟩ :: ⟨cfi, cf, cregs, cparams, cblk, crest, cdest⟩ :: frs⟩
      = some ⟨pushB H (extBytes (EdVerif.Gen.Field.reduce (getE H bv ov))),
          ⟨cfi, cf, regSet cregs d [.slice (H.blocks.size + 0) 0 32 32], cparams, cblk, crest, cdest⟩ :: frs⟩ := by
  have key := callE_Bytes (getE H bv ov).l0 (getE H bv ov).l1 (getE H bv ov).l2 (getE H bv ov).l3 (getE H bv ov).l4
    H bv ov hkv.1 h16 d cfi cf cregs cparams cblk crest cdest frs
  have hr : Restates H [(bv, ov, [.int (getE H bv ov).l0, .int (getE H bv ov).l1, .int (getE H bv ov).l2, .int (getE H bv ov).l3,
      .int (getE H bv ov).l4])] := restates_cons hkv (restates_nil H)
  rw [mkE_restates H _ hr, mkE_restates_ext H _ _ hr] at key
  exact key

derive_rules callA_Bytes runA_Bytes stepsA_Bytes

theorem funcIdx_64 : prog.funcIdx? (nm! "(*field.Element).Bytes") = some 64 := by decide +kernel

/-- **tie**: `v.Bytes()` on any heap in which block `bv` holds the limbs of `v` (and the block of the package variable
    `binary.LittleEndian` exists): the run terminates and returns the slice of a fresh 32-cell block (the first block appended to the heap)
    that holds the bytes of the model's `Fe.bytes v`; no block of the heap changes. -/
theorem tie_Bytes (h : Heap) (bv : Nat) (v : Fe) (hv : h.blocks[bv]? = some (feCells v)) (h16 : 16 < h.blocks.size) :
    ∃ h', runCall prog 801 h (nm! "(*field.Element).Bytes") [[.ptr bv 0]] = some (.done ⟨h', []⟩ [[.slice (h.blocks.size + 0) 0 32 32]])
      ∧ Post0 h h' ∧ h'.blocks[h.blocks.size + 0]? = some (((Fe.bytes v).toList.map Val.int).toArray) := by
  obtain ⟨v0, v1, v2, v3, v4⟩ := v
  have hf : Fits h bv 0 5 := fits_of_get hv 5 (Nat.le_refl _)
  have core := coreE_Bytes v0 v1 v2 v3 v4 h bv 0 hf h16
  have hr : Restates h [(bv, 0, [.int v0, .int v1, .int v2, .int v3, .int v4])] :=
    restates_one hv (lt5_cases rfl rfl rfl rfl rfl) (restates_nil h)
  rw [mkE_restates h _ hr, mkE_restates_ext h _ _ hr] at core
  refine ⟨pushB h (extBytes (EdVerif.Gen.Field.reduce ⟨v0, v1, v2, v3, v4⟩)), ?_, ?_, ?_⟩
  · simp only [runCall, funcIdx_64, callState, funcs_64, mkFrame_64, Option.bind_some, Option.map_some, Option.pure_def,
      Option.bind_eq_bind]
    rw [core]
  · exact ⟨by rw [pushB_size]; omega, fun c hc => get_pushB_lt h _ c hc⟩
  · have e := mkE_get_ext h [] (extBytes (EdVerif.Gen.Field.reduce ⟨v0, v1, v2, v3, v4⟩)) 0
    rw [mkE_eq] at e
    rw [show (pushB h (extBytes (EdVerif.Gen.Field.reduce ⟨v0, v1, v2, v3, v4⟩))).blocks[h.blocks.size + 0]? = _ from e, bytes_eq]
    rfl

end EdVerif.Ssa.Tie
