import EdVerif.Ssa.Tie.FiatSmall
/-!
# `fiatScalarFromMontgomery`
-/
namespace EdVerif.Ssa.Tie
open EdVerif.Ssa EdVerif.Gen.Ssa EdVerif.Prims EdVerif.Gen.Fiat
set_option maxRecDepth 100000

def body98 : List Instr := body% f98
theorem funcs_98 : prog.funcs[98]? = some f98 := rfl
theorem mkFrame_98 (args : List RVal) (dest : Option Nat) :
    mkFrame 98 f98 args dest = some ⟨98, f98, #[], args.toArray, 0, body98, dest⟩ := rfl
theorem resultTys_98 : f98.resultTys = [] := rfl
theorem funcIdx_98 : prog.funcIdx? (nm! "fiatScalarFromMontgomery") = some 98 := by decide +kernel

/-- Every instruction of `fiatScalarFromMontgomery` but the final `Return`, whatever lies below its frame, on any heap in which the
    argument blocks hold four words each.  The blocks may coincide: the kernel loads its arguments before its first
    store to `out`, so this one run covers every aliasing of the pointers. -/
theorem pre_fiatScalarFromMontgomery (H : Heap) (bo ba : Nat) (o a : W4) 
    (ho : H.blocks[bo]? = some (w4Cells o)) (ha : H.blocks[ba]? = some (w4Cells a)) (dest : Option Nat) (frs : List Frame) :
    ∃ ext regs, steps prog 271 ⟨H, ⟨98, f98, #[], #[[.ptr bo 0], [.ptr ba 0]], 0, body98, dest⟩ :: frs⟩
      = some ⟨mkH H [(bo, w4Cells (fiatScalarFromMontgomery o a))] ext,
          ⟨98, f98, regs, #[[.ptr bo 0], [.ptr ba 0]], 0, List.drop 239 body98, dest⟩ :: frs⟩ := by
  obtain ⟨o0, o1, o2, o3⟩ := o
  obtain ⟨a0, a1, a2, a3⟩ := a
  have hbo := lt_of_get ho
  have hba := lt_of_get ha
  simp only [w4Cells] at ho ha
  apply Exists.intro
  apply Exists.intro
  apply steps_of_base
  simp only [body98]
  fiat_exec [resultTys_98, funcs_96, mkFrame_96, ↓steps_Cmovznz_ext, add_eq, read_base, write_base, write_hit, ho, ha, hbo, hba]
  refine state_eq ?_ rfl
  simp only [w4Cells, fiatScalarFromMontgomery, Bits.Add64, Bits.Sub64, Bits.Mul64]
  rfl

/-- the call returns into any caller frame -/
theorem call_fiatScalarFromMontgomery (H : Heap) (bo ba : Nat) (o a : W4) 
    (ho : H.blocks[bo]? = some (w4Cells o)) (ha : H.blocks[ba]? = some (w4Cells a)) (d : Nat) (cfi : Nat) (cf : Func) (cregs cparams : Array RVal) (cblk : Nat) (crest : List Instr) (cdest : Option Nat) (frs : List Frame) :
    ∃ ext, steps prog 272 ⟨H, ⟨98, f98, #[], #[[.ptr bo 0], [.ptr ba 0]], 0, body98, some d⟩ :: ⟨cfi, cf, cregs, cparams, cblk, crest, cdest⟩ :: frs⟩
      = some ⟨mkH H [(bo, w4Cells (fiatScalarFromMontgomery o a))] ext, ⟨cfi, cf, regSet cregs d [], cparams, cblk, crest, cdest⟩ :: frs⟩ := by
  obtain ⟨ext, regs, hp⟩ := pre_fiatScalarFromMontgomery H bo ba o a  ho ha (some d) (⟨cfi, cf, cregs, cparams, cblk, crest, cdest⟩ :: frs)
  refine ⟨ext, Eq.trans (steps_steps' hp 1) ?_⟩
  simp only [body98, List.drop_succ_cons, List.drop_zero]
  fiat_exec [resultTys_98]

/-- call lemma: the callee's frame on top of any caller -/
theorem call_fiatScalarFromMontgomery_oa (h0 : Heap) (ovr) (bo : Nat) (o0 o1 o2 o3 : Nat)
    (hbo : bo < h0.blocks.size)  (d : Nat) (cfi : Nat) (cf : Func) (cregs cparams : Array RVal) (cblk : Nat) (crest : List Instr) (cdest : Option Nat) (frs : List Frame) :
    ∃ ext, steps prog 272 ⟨mkH h0 ((bo, #[.int o0, .int o1, .int o2, .int o3]) :: ovr) [],
        ⟨98, f98, #[], #[[.ptr bo 0], [.ptr bo 0]], 0, body98, some d⟩ :: ⟨cfi, cf, cregs, cparams, cblk, crest, cdest⟩ :: frs⟩
      = some ⟨mkH h0 ((bo, w4Cells (fiatScalarFromMontgomery ⟨o0, o1, o2, o3⟩ ⟨o0, o1, o2, o3⟩)) :: ovr) ext, ⟨cfi, cf, regSet cregs d [], cparams, cblk, crest, cdest⟩ :: frs⟩ := by
  obtain ⟨ext, hc⟩ := call_fiatScalarFromMontgomery (mkH h0 ((bo, #[.int o0, .int o1, .int o2, .int o3]) :: ovr) []) bo bo ⟨o0, o1, o2, o3⟩ ⟨o0, o1, o2, o3⟩
    (mkH_get_hit _ _ _ _ _ hbo) (mkH_get_hit _ _ _ _ _ hbo) d cfi cf cregs cparams cblk crest cdest frs
  exact ⟨ext, hc.trans (by rw [mkH_over_hit])⟩

/-- call lemma: the callee's frame on top of any caller -/
theorem call_fiatScalarFromMontgomery_d (h0 : Heap) (ovr) (bo ba : Nat) (o0 o1 o2 o3 a0 a1 a2 a3 : Nat)
    (hbo : bo < h0.blocks.size) (hba : ba < h0.blocks.size) (hne_oa : bo ≠ ba) (d : Nat) (cfi : Nat) (cf : Func) (cregs cparams : Array RVal) (cblk : Nat) (crest : List Instr) (cdest : Option Nat) (frs : List Frame) :
    ∃ ext, steps prog 272 ⟨mkH h0 ((bo, #[.int o0, .int o1, .int o2, .int o3]) :: (ba, #[.int a0, .int a1, .int a2, .int a3]) :: ovr) [],
        ⟨98, f98, #[], #[[.ptr bo 0], [.ptr ba 0]], 0, body98, some d⟩ :: ⟨cfi, cf, cregs, cparams, cblk, crest, cdest⟩ :: frs⟩
      = some ⟨mkH h0 ((bo, w4Cells (fiatScalarFromMontgomery ⟨o0, o1, o2, o3⟩ ⟨a0, a1, a2, a3⟩)) :: (ba, #[.int a0, .int a1, .int a2, .int a3]) :: ovr) ext, ⟨cfi, cf, regSet cregs d [], cparams, cblk, crest, cdest⟩ :: frs⟩ := by
  obtain ⟨ext, hc⟩ := call_fiatScalarFromMontgomery (mkH h0 ((bo, #[.int o0, .int o1, .int o2, .int o3]) :: (ba, #[.int a0, .int a1, .int a2, .int a3]) :: ovr) []) bo ba ⟨o0, o1, o2, o3⟩ ⟨a0, a1, a2, a3⟩
    (mkH_get_hit _ _ _ _ _ hbo) (by rw [mkH_get_miss _ _ _ _ _ _ hne_oa.symm]; exact mkH_get_hit _ _ _ _ _ hba) d cfi cf cregs cparams cblk crest cdest frs
  exact ⟨ext, hc.trans (by rw [mkH_over_hit])⟩

/-- **tie** (any aliasing): `fiatScalarFromMontgomery` on an arbitrary heap in which the argument blocks hold the words of the arguments
    (the blocks may coincide, in which case the arguments do). -/
theorem tie_fiatScalarFromMontgomery (h : Heap) (bo ba : Nat) (o a : W4) 
    (ho : h.blocks[bo]? = some (w4Cells o)) (ha : h.blocks[ba]? = some (w4Cells a)) :
    ∃ h', runCall prog 272 h (nm! "fiatScalarFromMontgomery") [[.ptr bo 0], [.ptr ba 0]] = some (.done ⟨h', []⟩ [])
      ∧ Post1 h h' bo (w4Cells (fiatScalarFromMontgomery o a)) := by
  obtain ⟨ext, regs, hp⟩ := pre_fiatScalarFromMontgomery h bo ba o a  ho ha none []
  refine ⟨_, ?_, post1_base _ ext (lt_of_get ho)⟩
  rw [runCall_eq funcIdx_98 funcs_98 (mkFrame_98 _ _), run_steps' hp 1]
  simp only [body98, List.drop_succ_cons, List.drop_zero]
  fiat_exec [resultTys_98]

end EdVerif.Ssa.Tie
