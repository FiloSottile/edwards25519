import EdVerif.Ssa.Tie.FiatOpp
/-!
# `(*Scalar).Negate`
-/
namespace EdVerif.Ssa.Tie
open EdVerif.Ssa EdVerif.Gen.Ssa EdVerif.Prims EdVerif.Gen.Fiat
set_option maxRecDepth 100000

def body27 : List Instr := body% f27
theorem funcs_27 : prog.funcs[27]? = some f27 := rfl
theorem mkFrame_27 (args : List RVal) (dest : Option Nat) :
    mkFrame 27 f27 args dest = some ⟨27, f27, #[], args.toArray, 0, body27, dest⟩ := rfl
theorem resultTys_27 : f27.resultTys = [29] := rfl
theorem funcIdx_27 : prog.funcIdx? (nm! "(*Scalar).Negate") = some 27 := by decide +kernel

/-- **tie** (any aliasing): `(*Scalar).Negate` on an arbitrary heap in which the argument blocks hold the words of the arguments
    (the blocks may coincide, in which case the arguments do). -/
theorem tie_Scalar_Negate (h : Heap) (bs bp : Nat) (s p : W4) (hlt_p : p.lt64)
    (hs : h.blocks[bs]? = some (w4Cells s)) (hp : h.blocks[bp]? = some (w4Cells p)) :
    ∃ h', runCall prog 74 h (nm! "(*Scalar).Negate") [[.ptr bs 0], [.ptr bp 0]] = some (.done ⟨h', []⟩ [[.ptr bs 0]])
      ∧ Post1 h h' bs (w4Cells (EdVerif.Gen.Fiat.Negate s p)) := by
  obtain ⟨ext, hc⟩ := call_fiatScalarOpp h bs bp s p hlt_p hs hp 2 27 f27 (regsN 2 [[.ptr bp 0], [.ptr bs 0]]) #[[.ptr bs 0], [.ptr bp 0]] 0 (List.drop 3 body27) none []
  simp only [body27, List.drop_succ_cons, List.drop_zero] at hc
  refine ⟨_, ?_, post1_base _ ext (lt_of_get hs)⟩
  rw [runCall_eq funcIdx_27 funcs_27 (mkFrame_27 _ _)]
  simp only [body27]
  fiat_exec [resultTys_27, funcs_101, mkFrame_101, ↓run_steps' hc]
  rfl

end EdVerif.Ssa.Tie
