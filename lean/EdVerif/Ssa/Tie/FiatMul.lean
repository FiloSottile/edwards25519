import EdVerif.Ssa.Tie.FiatSmall
/-!
# `fiatScalarMul`
-/
namespace EdVerif.Ssa.Tie
open EdVerif.Ssa EdVerif.Gen.Ssa EdVerif.Prims EdVerif.Gen.Fiat
set_option maxRecDepth 100000

def body99 : List Instr := body% f99
theorem funcs_99 : prog.funcs[99]? = some f99 := rfl
theorem mkFrame_99 (args : List RVal) (dest : Option Nat) :
    mkFrame 99 f99 args dest = some ⟨99, f99, #[], args.toArray, 0, body99, dest⟩ := rfl
theorem resultTys_99 : f99.resultTys = [] := rfl
theorem funcIdx_99 : prog.funcIdx? (nm! "fiatScalarMul") = some 99 := by decide +kernel

set_option maxHeartbeats 1000000 in
/-- Every instruction of `fiatScalarMul` but the final `Return`, whatever lies below its frame, on any heap in which the
    argument blocks hold four words each.  The blocks may coincide: the kernel loads its arguments before its first
    store to `out`, so this one run covers every aliasing of the pointers. -/
theorem pre_fiatScalarMul (H : Heap) (bo ba bb : Nat) (o a b : W4) 
    (ho : H.blocks[bo]? = some (w4Cells o)) (ha : H.blocks[ba]? = some (w4Cells a)) (hb : H.blocks[bb]? = some (w4Cells b)) (dest : Option Nat) (frs : List Frame) :
    ∃ ext regs, steps prog 481 ⟨H, ⟨99, f99, #[], #[[.ptr bo 0], [.ptr ba 0], [.ptr bb 0]], 0, body99, dest⟩ :: frs⟩
      = some ⟨mkH H [(bo, w4Cells (fiatScalarMul o a b))] ext,
          ⟨99, f99, regs, #[[.ptr bo 0], [.ptr ba 0], [.ptr bb 0]], 0, List.drop 449 body99, dest⟩ :: frs⟩ := by
  obtain ⟨o0, o1, o2, o3⟩ := o
  obtain ⟨a0, a1, a2, a3⟩ := a
  obtain ⟨b0, b1, b2, b3⟩ := b
  have hbo := lt_of_get ho
  have hba := lt_of_get ha
  have hbb := lt_of_get hb
  simp only [w4Cells] at ho ha hb
  apply Exists.intro
  apply Exists.intro
  apply steps_of_base
  simp only [body99]
  fiat_exec [resultTys_99, funcs_96, mkFrame_96, ↓steps_Cmovznz_ext, add_eq, read_base, write_base, write_hit, ho, ha, hb, hbo, hba, hbb]
  refine state_eq ?_ rfl
  simp only [w4Cells, fiatScalarMul, Bits.Add64, Bits.Sub64, Bits.Mul64]
  rfl

/-- the call returns into any caller frame -/
theorem call_fiatScalarMul (H : Heap) (bo ba bb : Nat) (o a b : W4) 
    (ho : H.blocks[bo]? = some (w4Cells o)) (ha : H.blocks[ba]? = some (w4Cells a)) (hb : H.blocks[bb]? = some (w4Cells b)) (d : Nat) (cfi : Nat) (cf : Func) (cregs cparams : Array RVal) (cblk : Nat) (crest : List Instr) (cdest : Option Nat) (frs : List Frame) :
    ∃ ext, steps prog 482 ⟨H, ⟨99, f99, #[], #[[.ptr bo 0], [.ptr ba 0], [.ptr bb 0]], 0, body99, some d⟩ :: ⟨cfi, cf, cregs, cparams, cblk, crest, cdest⟩ :: frs⟩
      = some ⟨mkH H [(bo, w4Cells (fiatScalarMul o a b))] ext, ⟨cfi, cf, regSet cregs d [], cparams, cblk, crest, cdest⟩ :: frs⟩ := by
  obtain ⟨ext, regs, hp⟩ := pre_fiatScalarMul H bo ba bb o a b  ho ha hb (some d) (⟨cfi, cf, cregs, cparams, cblk, crest, cdest⟩ :: frs)
  refine ⟨ext, Eq.trans (steps_steps' hp 1) ?_⟩
  simp only [body99, List.drop_succ_cons, List.drop_zero]
  fiat_exec [resultTys_99]

/-- **tie** (any aliasing): `fiatScalarMul` on an arbitrary heap in which the argument blocks hold the words of the arguments
    (the blocks may coincide, in which case the arguments do). -/
theorem tie_fiatScalarMul (h : Heap) (bo ba bb : Nat) (o a b : W4) 
    (ho : h.blocks[bo]? = some (w4Cells o)) (ha : h.blocks[ba]? = some (w4Cells a)) (hb : h.blocks[bb]? = some (w4Cells b)) :
    ∃ h', runCall prog 482 h (nm! "fiatScalarMul") [[.ptr bo 0], [.ptr ba 0], [.ptr bb 0]] = some (.done ⟨h', []⟩ [])
      ∧ Post1 h h' bo (w4Cells (fiatScalarMul o a b)) := by
  obtain ⟨ext, regs, hp⟩ := pre_fiatScalarMul h bo ba bb o a b  ho ha hb none []
  refine ⟨_, ?_, post1_base _ ext (lt_of_get ho)⟩
  rw [runCall_eq funcIdx_99 funcs_99 (mkFrame_99 _ _), run_steps' hp 1]
  simp only [body99, List.drop_succ_cons, List.drop_zero]
  fiat_exec [resultTys_99]

end EdVerif.Ssa.Tie
