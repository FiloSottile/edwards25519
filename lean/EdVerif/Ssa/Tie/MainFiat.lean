import EdVerif.Ssa.Tie.FiatSmall
import EdVerif.Ssa.Tie.FiatAdd
import EdVerif.Ssa.Tie.FiatSub
import EdVerif.Ssa.Tie.FiatOpp
import EdVerif.Ssa.Tie.FiatBytes
import EdVerif.Ssa.Tie.FiatWrapSet
import EdVerif.Ssa.Tie.FiatEqual
import EdVerif.Ssa.Tie.FiatWrapAdd
import EdVerif.Ssa.Tie.FiatWrapSub
import EdVerif.Ssa.Tie.FiatWrapNeg
import EdVerif.Ssa.Tie.FiatFromMont
import EdVerif.Ssa.Tie.FiatToMont
import EdVerif.Ssa.Tie.FiatMul
import EdVerif.Ssa.Tie.FiatWrapMul
/-!
# `tie_*` for the fiat scalar kernels and the `(*Scalar)` wrappers (`EdVerif/Gen/FiatKernels.lean`, namespace `EdVerif.Gen.Fiat`)

Running the SSA (`EdVerif/Gen/Ssa.lean`) of each function in the semantics of `Sem.lean`, on an ARBITRARY heap, computes exactly
the shallow T1 definition.  Vocabulary as in `Main.lean`: `runCall p fuel h name args`, `Post1 h h' b V'` (`h'` has not shrunk,
block `b` of `h'` is `V'`, every other block of `h` is unchanged), `Post0 h h'` (no block of `h` changed).
`w4Cells v = #[.int v.w0, .int v.w1, .int v.w2, .int v.w3]` (a `[4]uint64` / a `Scalar` is 4 consecutive `u64` cells),
`cells32 x = #[.int (x 0), …, .int (x 31)]` (a `[32]byte`), `bytes32 x : Bytes = #[x 0, …, x 31]`, `bytesCells b = b.map .int`,
`v.lt64` = the four words of `v` are `< 2^64`.

## statements (for all word values; `h` arbitrary)
* `tie_fiatScalarCmovznzU64 (ho : h.blocks[bo]? = some #[.int o]) :
     ∃ h', runCall prog 8 h (nm! "fiatScalarCmovznzU64") [[.ptr bo 0], [.int c], [.int z], [.int nz]] = some (.done ⟨h', []⟩ [])
           ∧ Post1 h h' bo #[.int (fiatScalarCmovznzU64 o c z nz)]`
* `tie_fiatScalarNonzero` (13 steps): `Post1 h h' bo #[.int (fiatScalarNonzero o a)]`
* `tie_K (ho : h.blocks[bo]? = some (w4Cells o)) (ha : h.blocks[ba]? = some (w4Cells a)) (hb : h.blocks[bb]? = some (w4Cells b)) :
     ∃ h', runCall prog k h (nm! "K") [[.ptr bo 0], [.ptr ba 0], [.ptr bb 0]] = some (.done ⟨h', []⟩ [])
           ∧ Post1 h h' bo (w4Cells (K o a b))`
  with NO distinctness hypothesis (the blocks may coincide, then the arguments do), for
  `K` = `fiatScalarAdd` (116 steps), `fiatScalarSub` (78; `b.lt64`), `fiatScalarMul` (482); two-pointer versions for
  `fiatScalarOpp` (70; `a.lt64`), `fiatScalarFromMontgomery` (272), `fiatScalarToMontgomery` (423).
  Each comes from ONE run of the stepper, `pre_K` (all instructions but the final `Return`, on any stack, on any heap in which
  the argument blocks hold four words): every fiat kernel loads its arguments before its first store to `out`, so the run never
  asks whether two argument blocks are the same.  `call_K` (the callee's frame on top of any caller) is what the wrappers use.
  The `lt64` hypotheses are the contract of `bits.Sub64` (see `FiatExec.lean`): `Sem` and `Prims` agree on the difference only for a
  subtrahend `< 2^64` and a borrow `≤ 1`.
* `tie_fiatScalarFromBytes` (161; bytes `x i < 2^64` for `i < 32`): `Post1 h h' bo (w4Cells (fiatScalarFromBytes o (bytes32 x)))`
* `tie_fiatScalarToBytes` (161): `Post1 h h' bo (bytesCells (fiatScalarToBytes (bytes32 x) a))`
* wrappers (methods of `*Scalar`; result `[[.ptr bs 0]]`, any aliasing): `tie_Scalar_Add` (121), `tie_Scalar_Subtract` (83; `q.lt64`),
  `tie_Scalar_Negate` (74; `p.lt64`), `tie_Scalar_Multiply` (487), `tie_Scalar_Set` (3):
  `Post1 h h' bs (w4Cells (Fiat.Add s p q))` …
* `tie_Scalar_Equal` (133; `t.lt64`; `bs = bt` allowed):
  `runCall prog 133 h (nm! "(*Scalar).Equal") [[.ptr bs 0], [.ptr bt 0]] = some (.done ⟨h', []⟩ [[.int (Fiat.Equal s t)]]) ∧ Post0 h h'`

With these every function of `EdVerif/Gen/FiatKernels.lean` (T1) is tied.
-/

namespace EdVerif.Ssa.Tie
open EdVerif.Ssa EdVerif.Gen.Ssa EdVerif.Prims

#print axioms tie_fiatScalarCmovznzU64
#print axioms tie_fiatScalarNonzero
#print axioms tie_fiatScalarAdd
#print axioms tie_fiatScalarSub
#print axioms tie_fiatScalarOpp
#print axioms tie_fiatScalarFromBytes
#print axioms tie_fiatScalarToBytes
#print axioms tie_Scalar_Set
#print axioms tie_Scalar_Equal
#print axioms tie_Scalar_Add
#print axioms tie_Scalar_Subtract
#print axioms tie_Scalar_Negate
#print axioms tie_fiatScalarFromMontgomery
#print axioms tie_fiatScalarToMontgomery
#print axioms tie_fiatScalarMul
#print axioms tie_Scalar_Multiply

end EdVerif.Ssa.Tie
