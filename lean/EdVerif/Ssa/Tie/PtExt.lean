import EdVerif.Ssa.Tie.PtCk
/-!
# Local structures of elements (`new(projP1xP1)`, `new(projP2)`, `new(projCached)`): slots inside freshly allocated blocks
-/
namespace EdVerif.Ssa.Tie
open EdVerif.Ssa EdVerif.Gen.Ssa EdVerif.Prims EdVerif.Impl
set_option maxRecDepth 100000

def okBlkAt (o : Nat) : Option (Array Val) → Prop
  | some V => o + 5 ≤ V.size ∧ ∀ k, k < 5 → ∃ n, V[o + k]? = some (.int n)
  | none => False

def feAt (o : Nat) : Option (Array Val) → Fe
  | some V => ⟨natOf V[o + 0]?, natOf V[o + 1]?, natOf V[o + 2]?, natOf V[o + 3]?, natOf V[o + 4]?⟩
  | none => ⟨0, 0, 0, 0, 0⟩

def updAt (o : Nat) (x : Fe) : Option (Array Val) → Array Val
  | some V => ovl V o (feL x)
  | none => #[]

section
variable (h0 : Heap) (ovr : List Ent) (ext : List (Array Val)) (x : Fe)

theorem getE_extAt (k o : Nat) : getE (mkE h0 ovr ext) (h0.blocks.size + k) o = feAt o (ext[k]?) := by
  simp only [getE, mkE_cell_ext]
  cases ext[k]? <;> rfl

theorem okE_extAt (k o : Nat) (h : okBlkAt o (ext[k]?)) : OkE (mkE h0 ovr ext) (h0.blocks.size + k) o = True := by
  apply eq_true
  cases hk : ext[k]? with
  | none => rw [hk] at h; exact h.elim
  | some V =>
    rw [hk] at h
    have hlt : k < ext.length := by
      apply Classical.byContradiction; intro hn
      rw [List.getElem?_eq_none (by omega)] at hk; cases hk
    refine ⟨⟨by rw [mkE_size]; omega, ?_⟩, ?_⟩
    · rw [mkE_blkSize_ge _ _ _ _ (by omega), show h0.blocks.size + k - h0.blocks.size = k by omega, hk]
      simp only [Option.map_some, Option.getD_some]
      exact h.1
    · intro j hj
      rw [mkE_cell_ext, hk]
      exact h.2 j hj

theorem setE_extAt (k o : Nat) (hk : okBlkAt o (ext[k]?)) :
    setE (h0.blocks.size + k) o x (mkE h0 ovr ext) = mkE h0 ovr (ext.set k (updAt o x (ext[k]?))) := by
  cases hkk : ext[k]? with
  | none => rw [hkk] at hk; exact hk.elim
  | some V =>
    have hlt : k < ext.length := by
      apply Classical.byContradiction; intro hn
      rw [List.getElem?_eq_none (by omega)] at hkk; cases hkk
    simp only [setE, ovE, mkE]
    congr 1
    apply Array.ext_getElem?
    intro j
    rw [Array.getElem?_modify]
    by_cases hj : j < h0.blocks.size
    · have : h0.blocks.size + k ≠ j := by omega
      rw [if_neg this, Array.getElem?_append_left (by simpa using hj), Array.getElem?_append_left (by simpa using hj)]
    · rw [Array.getElem?_append_right (by simp; omega), Array.getElem?_append_right (by simp; omega)]
      simp only [baseE_size, List.getElem?_toArray]
      by_cases e : h0.blocks.size + k = j
      · subst e
        simp only [if_true, show h0.blocks.size + k - h0.blocks.size = k by omega, hkk, Option.map_some]
        rw [List.getElem?_set_self hlt]; rfl
      · rw [if_neg e, List.getElem?_set_ne (by omega)]

end

/-! ## evaluation on blocks of 3 and 4 elements -/
section shapes
variable (a b c d x : Fe)

theorem zeros20_cells : ([.int 0, .int 0, .int 0, .int 0, .int 0, .int 0, .int 0, .int 0, .int 0, .int 0,
    .int 0, .int 0, .int 0, .int 0, .int 0, .int 0, .int 0, .int 0, .int 0, .int 0] : List Val).toArray = cells4 Fe.rz Fe.rz Fe.rz Fe.rz := rfl
theorem zeros15_cells : ([.int 0, .int 0, .int 0, .int 0, .int 0, .int 0, .int 0, .int 0, .int 0, .int 0,
    .int 0, .int 0, .int 0, .int 0, .int 0] : List Val).toArray = cells3 Fe.rz Fe.rz Fe.rz := rfl

theorem okAt_cells (V : Array Val) (o : Nat) (hs : o + 5 ≤ V.size) (hv : ∀ k, k < 5 → ∃ n, V[o + k]? = some (.int n)) :
    okBlkAt o (some V) = True := eq_true ⟨hs, hv⟩

theorem okAt4_0 : okBlkAt 0 (some (cells4 a b c d)) = True := by
  cases a; cases b; cases c; cases d; exact okAt_cells _ _ (by show _ ≤ 20; decide) (lt5_cases ⟨_, rfl⟩ ⟨_, rfl⟩ ⟨_, rfl⟩ ⟨_, rfl⟩ ⟨_, rfl⟩)
theorem okAt4_5 : okBlkAt 5 (some (cells4 a b c d)) = True := by
  cases a; cases b; cases c; cases d; exact okAt_cells _ _ (by show _ ≤ 20; decide) (lt5_cases ⟨_, rfl⟩ ⟨_, rfl⟩ ⟨_, rfl⟩ ⟨_, rfl⟩ ⟨_, rfl⟩)
theorem okAt4_10 : okBlkAt 10 (some (cells4 a b c d)) = True := by
  cases a; cases b; cases c; cases d; exact okAt_cells _ _ (by show _ ≤ 20; decide) (lt5_cases ⟨_, rfl⟩ ⟨_, rfl⟩ ⟨_, rfl⟩ ⟨_, rfl⟩ ⟨_, rfl⟩)
theorem okAt4_15 : okBlkAt 15 (some (cells4 a b c d)) = True := by
  cases a; cases b; cases c; cases d; exact okAt_cells _ _ (by show _ ≤ 20; decide) (lt5_cases ⟨_, rfl⟩ ⟨_, rfl⟩ ⟨_, rfl⟩ ⟨_, rfl⟩ ⟨_, rfl⟩)
theorem okAt3_0 : okBlkAt 0 (some (cells3 a b c)) = True := by
  cases a; cases b; cases c; exact okAt_cells _ _ (by show _ ≤ 15; decide) (lt5_cases ⟨_, rfl⟩ ⟨_, rfl⟩ ⟨_, rfl⟩ ⟨_, rfl⟩ ⟨_, rfl⟩)
theorem okAt3_5 : okBlkAt 5 (some (cells3 a b c)) = True := by
  cases a; cases b; cases c; exact okAt_cells _ _ (by show _ ≤ 15; decide) (lt5_cases ⟨_, rfl⟩ ⟨_, rfl⟩ ⟨_, rfl⟩ ⟨_, rfl⟩ ⟨_, rfl⟩)
theorem okAt3_10 : okBlkAt 10 (some (cells3 a b c)) = True := by
  cases a; cases b; cases c; exact okAt_cells _ _ (by show _ ≤ 15; decide) (lt5_cases ⟨_, rfl⟩ ⟨_, rfl⟩ ⟨_, rfl⟩ ⟨_, rfl⟩ ⟨_, rfl⟩)

theorem feAt4_0 : feAt 0 (some (cells4 a b c d)) = a := by cases a; cases b; cases c; cases d; rfl
theorem feAt4_5 : feAt 5 (some (cells4 a b c d)) = b := by cases a; cases b; cases c; cases d; rfl
theorem feAt4_10 : feAt 10 (some (cells4 a b c d)) = c := by cases a; cases b; cases c; cases d; rfl
theorem feAt4_15 : feAt 15 (some (cells4 a b c d)) = d := by cases a; cases b; cases c; cases d; rfl
theorem feAt3_0 : feAt 0 (some (cells3 a b c)) = a := by cases a; cases b; cases c; rfl
theorem feAt3_5 : feAt 5 (some (cells3 a b c)) = b := by cases a; cases b; cases c; rfl
theorem feAt3_10 : feAt 10 (some (cells3 a b c)) = c := by cases a; cases b; cases c; rfl

theorem updAt4_0 : updAt 0 x (some (cells4 a b c d)) = cells4 x b c d := by
  simp only [updAt, cells4, feL, List.cons_append, List.nil_append, ovl, List.setIfInBounds_toArray, List.set_cons_zero, List.set_cons_succ,
    Nat.reduceAdd]
theorem updAt4_5 : updAt 5 x (some (cells4 a b c d)) = cells4 a x c d := by
  simp only [updAt, cells4, feL, List.cons_append, List.nil_append, ovl, List.setIfInBounds_toArray, List.set_cons_zero, List.set_cons_succ,
    Nat.reduceAdd]
theorem updAt4_10 : updAt 10 x (some (cells4 a b c d)) = cells4 a b x d := by
  simp only [updAt, cells4, feL, List.cons_append, List.nil_append, ovl, List.setIfInBounds_toArray, List.set_cons_zero, List.set_cons_succ,
    Nat.reduceAdd]
theorem updAt4_15 : updAt 15 x (some (cells4 a b c d)) = cells4 a b c x := by
  simp only [updAt, cells4, feL, List.cons_append, List.nil_append, ovl, List.setIfInBounds_toArray, List.set_cons_zero, List.set_cons_succ,
    Nat.reduceAdd]
theorem updAt3_0 : updAt 0 x (some (cells3 a b c)) = cells3 x b c := by
  simp only [updAt, cells3, feL, List.cons_append, List.nil_append, ovl, List.setIfInBounds_toArray, List.set_cons_zero, List.set_cons_succ,
    Nat.reduceAdd]
theorem updAt3_5 : updAt 5 x (some (cells3 a b c)) = cells3 a x c := by
  simp only [updAt, cells3, feL, List.cons_append, List.nil_append, ovl, List.setIfInBounds_toArray, List.set_cons_zero, List.set_cons_succ,
    Nat.reduceAdd]
theorem updAt3_10 : updAt 10 x (some (cells3 a b c)) = cells3 a b x := by
  simp only [updAt, cells3, feL, List.cons_append, List.nil_append, ovl, List.setIfInBounds_toArray, List.set_cons_zero, List.set_cons_succ,
    Nat.reduceAdd]

end shapes

/-! ## a block of the heap that holds the cells of a structure -/

theorem okE_of_get {h : Heap} {b o : Nat} {V : Array Val} (hb : h.blocks[b]? = some V) (hk : okBlkAt o (some V)) : OkE h b o := by
  refine ⟨⟨lt_of_get hb, ?_⟩, ?_⟩
  · simp only [blkSize, hb, Option.map_some, Option.getD_some]; exact hk.1
  · intro k hk5; rw [cell_of_get hb]; exact hk.2 k hk5

theorem getE_of_get {h : Heap} {b : Nat} {V : Array Val} (hb : h.blocks[b]? = some V) (o : Nat) : getE h b o = feAt o (some V) := by
  simp only [getE, cell_of_get hb]; rfl

/-- the receiver written as a whole on a heap without entries -/
theorem set4_base {H : Heap} {b : Nat} (x y z t : Fe) (ext : List (Array Val)) (hb : b < H.blocks.size) :
    set4 b x y z t (mkE H [] ext) = mkE H [(b, 0, feL x), (b, 5, feL y), (b, 10, feL z), (b, 15, feL t)] ext := by
  rw [set4, setE, setE, setE, setE, ← mkE_cons H b 15 (feL t) [] ext hb, ← mkE_cons H b 10 (feL z) _ ext hb,
    ← mkE_cons H b 5 (feL y) _ ext hb, ← mkE_cons H b 0 (feL x) _ ext hb]

theorem ok4_of_cells {h : Heap} {b : Nat} {x y z t : Fe} (hb : h.blocks[b]? = some (cells4 x y z t)) : Ok4 h b :=
  ⟨okE_of_get hb (of_eq_true (okAt4_0 x y z t)), okE_of_get hb (of_eq_true (okAt4_5 x y z t)),
    okE_of_get hb (of_eq_true (okAt4_10 x y z t)), okE_of_get hb (of_eq_true (okAt4_15 x y z t))⟩

theorem getP3_of_cells {h : Heap} {b : Nat} {p : P3} (hb : h.blocks[b]? = some (cellsP3 p)) : getP3 h b = p := by
  rw [getP3, getE_of_get hb, getE_of_get hb, getE_of_get hb, getE_of_get hb, cellsP3, feAt4_0, feAt4_5, feAt4_10, feAt4_15]

/-! ## a local allocated after a callee has appended its (opaque) blocks: index `X.length + j` -/

theorem getElem?_append_length {α} (X : List α) (a : α) (Y : List α) : (X ++ a :: Y)[X.length]? = some a := by
  rw [List.getElem?_append_right (Nat.le_refl _), Nat.sub_self]; rfl

theorem set_append_length {α} (X : List α) (a b : α) (Y : List α) : (X ++ a :: Y).set X.length b = X ++ b :: Y := by
  rw [List.set_append_right _ _ (Nat.le_refl _), Nat.sub_self]; rfl

theorem lit0_ne (n : Nat) : (0 = n + 1) = False := by apply eq_false; omega
theorem ne_lit0 (n : Nat) : (n + 1 = 0) = False := by apply eq_false; omega
theorem lit1_ne (n : Nat) : (1 = n + 1 + 1) = False := by apply eq_false; omega
theorem ne_lit1 (n : Nat) : (n + 1 + 1 = 1) = False := by apply eq_false; omega
theorem lit2_ne (n : Nat) : (2 = n + 1 + 1 + 1) = False := by apply eq_false; omega
theorem ne_lit2 (n : Nat) : (n + 1 + 1 + 1 = 2) = False := by apply eq_false; omega

theorem P3_eta (s : P3) : (⟨s.x, s.y, s.z, s.t⟩ : P3) = s := rfl
theorem P1_eta (s : P1xP1) : (⟨s.X, s.Y, s.Z, s.T⟩ : P1xP1) = s := rfl
theorem P2_eta (s : P2) : (⟨s.X, s.Y, s.Z⟩ : P2) = s := rfl
theorem C_eta (s : Cached) : (⟨s.YplusX, s.YminusX, s.Z, s.T2d⟩ : Cached) = s := rfl
theorem A_eta (s : AffineCached) : (⟨s.YplusX, s.YminusX, s.T2d⟩ : AffineCached) = s := rfl

syntax "ssa_execX" "[" Lean.Parser.Tactic.simpLemma,* "]" : tactic
macro_rules
  | `(tactic| ssa_execX [$ls,*]) => `(tactic|
  ssa_execC [getE_extAt, okE_extAt, setE_extAt, zeros20_cells, zeros15_cells, okAt4_0, okAt4_5, okAt4_10, okAt4_15, okAt3_0, okAt3_5, okAt3_10,
    feAt4_0, feAt4_5, feAt4_10, feAt4_15, feAt3_0, feAt3_5, feAt3_10, updAt4_0, updAt4_5, updAt4_10, updAt4_15, updAt3_0, updAt3_5, updAt3_10,
    Ok3_eq, Ok4_eq, getP3_eq, getP1_eq, getP2_eq, getC_eq, getA_eq, set3_eq, set4_eq,
    stepAlloc_14, stepAlloc_26, P3_eta, P1_eta, P2_eta, C_eta, A_eta, getElem?_append_length, set_append_length, List.append_assoc, lit0_ne, ne_lit0, lit1_ne, ne_lit1,
    lit2_ne, ne_lit2, $ls,*])

end EdVerif.Ssa.Tie
