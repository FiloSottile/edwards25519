import EdVerif.Ssa.Tie.Add
import EdVerif.Ssa.Tie.Sub
import EdVerif.Ssa.Tie.Mul
import EdVerif.Ssa.Tie.Sq
import EdVerif.Ssa.Tie.Select
import EdVerif.Ssa.Tie.Misc
import EdVerif.Impl.Point
/-!
# The point layer: common definitions and the stepper `ssa_execP`

A point-layer function only computes addresses of elements (`FieldAddr` on its parameters, `Alloc` of local elements) and calls the
kernels.  On a canonical heap `mkE H ovr ext` whose entries are the elements of the parameters (`(block, offset, feL x)`) and
whose fresh blocks are the local elements, a kernel call is one application of its abstract call lemma (`stepsA_*`/`runA_*`):
the side conditions `OkE`, `Compat` and the values `getE` are evaluated by the rules of `AbsE.lean`, and the resulting heap
`pushB (setE …) …` is put back into canonical form.
-/
namespace EdVerif.Ssa.Tie
open EdVerif.Ssa EdVerif.Gen.Ssa EdVerif.Prims EdVerif.Impl
set_option maxRecDepth 100000

/-! ## the struct types of the point layer -/

theorem tyOf_5 : prog.tyOf 5 = .struct [2, 4, 4, 4, 4] := rfl
theorem tyOf_6 : prog.tyOf 6 = .ptr 5 := rfl
theorem tyOf_13 : prog.tyOf 13 = .struct [4, 4, 4, 4] := rfl
theorem tyOf_14 : prog.tyOf 14 = .ptr 13 := rfl
theorem tyOf_25 : prog.tyOf 25 = .struct [4, 4, 4] := rfl
theorem tyOf_26 : prog.tyOf 26 = .ptr 25 := rfl
theorem spanP_1 : prog.fieldSpan [2, 4, 4, 4, 4] 1 = some (0, 5) := rfl
theorem spanP_2 : prog.fieldSpan [2, 4, 4, 4, 4] 2 = some (5, 5) := rfl
theorem spanP_3 : prog.fieldSpan [2, 4, 4, 4, 4] 3 = some (10, 5) := rfl
theorem spanP_4 : prog.fieldSpan [2, 4, 4, 4, 4] 4 = some (15, 5) := rfl
theorem span4_0 : prog.fieldSpan [4, 4, 4, 4] 0 = some (0, 5) := rfl
theorem span4_1 : prog.fieldSpan [4, 4, 4, 4] 1 = some (5, 5) := rfl
theorem span4_2 : prog.fieldSpan [4, 4, 4, 4] 2 = some (10, 5) := rfl
theorem span4_3 : prog.fieldSpan [4, 4, 4, 4] 3 = some (15, 5) := rfl
theorem span3_0 : prog.fieldSpan [4, 4, 4] 0 = some (0, 5) := rfl
theorem span3_1 : prog.fieldSpan [4, 4, 4] 1 = some (5, 5) := rfl
theorem span3_2 : prog.fieldSpan [4, 4, 4] 2 = some (10, 5) := rfl

/-! ## blocks below the heap size are not fresh blocks -/

theorem ne_fresh {b n : Nat} (k : Nat) (h : b < n) : (b = n + k) = False := by apply eq_false; omega
theorem fresh_ne {b n : Nat} (k : Nat) (h : b < n) : (n + k = b) = False := by apply eq_false; omega
theorem fresh_eq (n j k : Nat) : (n + j = n + k) = (j = k) := by apply propext; omega

theorem fits_sub {H : Heap} {b n : Nat} (o : Nat) (h : Fits H b 0 n) (ho : o + 5 ≤ n) : Fits H b o 5 :=
  ⟨h.1, by have := h.2; omega⟩

/-! ## the T1 kernels with the dummy receiver (`Impl/Fe.lean`) -/

/- (proved through a rewrite so that they are not `rfl`-lemmas: used definitionally by `simp`, the kernel would have to re-check
   `Field.Multiply V a b ≡ Field.Multiply rz a b` for a computed receiver value `V`, and tries `V ≡ rz` first) -/
theorem Multiply_rz (v a b : Fe) : EdVerif.Gen.Field.Multiply v a b = Fe.mul a b := by rw [Fe.mul]; rfl
theorem Square_rz (v a : Fe) : EdVerif.Gen.Field.Square v a = Fe.square a := by rw [Fe.square]; rfl
theorem Add_rz (v a b : Fe) : EdVerif.Gen.Field.Add v a b = Fe.add a b := by rw [Fe.add]; rfl
theorem Subtract_rz (v a b : Fe) : EdVerif.Gen.Field.Subtract v a b = Fe.sub a b := by rw [Fe.sub]; rfl
theorem Select_rz (v a b : Fe) (c : Nat) : EdVerif.Gen.Field.Select v a b c = Fe.select a b c := by rw [Fe.select]; rfl
theorem Set_rz (v a : Fe) : EdVerif.Gen.Field.Set v a = a := by rw [EdVerif.Gen.Field.Set]

/-! ## the entries of a structure of elements in the canonical heap (block `b`, offsets 0, 5, 10, 15) -/

def ents3 (b : Nat) (x y z : Fe) : List Ent := [(b, 0, feL x), (b, 5, feL y), (b, 10, feL z)]
def ents4 (b : Nat) (x y z t : Fe) : List Ent := [(b, 0, feL x), (b, 5, feL y), (b, 10, feL z), (b, 15, feL t)]
def entsP3 (b : Nat) (p : P3) : List Ent := ents4 b p.x p.y p.z p.t
def entsP1 (b : Nat) (p : P1xP1) : List Ent := ents4 b p.X p.Y p.Z p.T
def entsP2 (b : Nat) (p : P2) : List Ent := ents3 b p.X p.Y p.Z
def entsC (b : Nat) (p : Cached) : List Ent := ents4 b p.YplusX p.YminusX p.Z p.T2d
def entsA (b : Nat) (p : AffineCached) : List Ent := ents3 b p.YplusX p.YminusX p.T2d

/-! ## the stepper -/

syntax "ssa_execP" "[" Lean.Parser.Tactic.simpLemma,* "]" : tactic
macro_rules
  | `(tactic| ssa_execP [$ls,*]) => `(tactic|
  ssa_execE [tyOf_5, tyOf_6, tyOf_13, tyOf_14, tyOf_25, tyOf_26, spanP_1, spanP_2, spanP_3, spanP_4, span4_0, span4_1, span4_2, span4_3,
    span3_0, span3_1, span3_2, ents3, ents4, entsP3, entsP1, entsP2, entsC, entsA,
    funcs_63, mkFrame_63, funcs_79, mkFrame_79, funcs_69, mkFrame_69, funcs_78, mkFrame_78, funcs_73, mkFrame_73, funcs_74, mkFrame_74,
    getE_hit, getE_miss, getE_ext, okE_hit, okE_miss, okE_ext, okBlk_lit, okBlk_feL, feOfBlk_feL, feOfBlk_lit,
    setE_hit, setE_miss, setE_ext, setE_nil, consE_mkE, pushB_mkE,
    Compat_eq, SepE_eq, ne_fresh, fresh_ne, fresh_eq, ne_eq, eq_self, not_true_eq_false, not_false_eq_true,
    true_and, and_true, false_and, and_false, true_or, or_true, false_or, or_false, and_self, or_self,
    Nat.reduceEqDiff, Nat.reduceLeDiff, Nat.reduceAdd, decide_false, decide_true, $ls,*])

end EdVerif.Ssa.Tie
