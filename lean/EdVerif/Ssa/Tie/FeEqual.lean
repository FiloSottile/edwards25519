import EdVerif.Ssa.Tie.FeBytes
/-!
# `(*field.Element).IsNegative` and `(*field.Element).Equal`: SSA execution = the model `Fe.isNegative` / T5's `Formulas.field_Element_Equal`
-/
namespace EdVerif.Ssa.Tie
open EdVerif.Ssa EdVerif.Gen.Ssa EdVerif.Prims EdVerif.Impl EdVerif.Gen
set_option maxRecDepth 100000

/-! ## an arbitrary heap followed by fresh blocks -/

theorem read_pushB (H : Heap) (E : List (Array Val)) (k o n : Nat) :
    (pushB H E).read (H.blocks.size + k) o n = (E[k]?).bind (fun blk => readCells blk o n) := by
  have := readE_ext H [] E k o n
  rw [mkE_eq] at this
  exact this

/-- `readCells` on an optional block, kept folded so that the stepper does not unfold it under the binder -/
def readBlk (blk : Option (Array Val)) (o n : Nat) : Option (List Val) := blk.bind (fun b => readCells b o n)

theorem read_pushB' (H : Heap) (E : List (Array Val)) (k o n : Nat) :
    (pushB H E).read (H.blocks.size + k) o n = readBlk (E[k]?) o n := read_pushB H E k o n

theorem readBlk_bytesV (t : Fe) : readBlk (some (bytesV t).toArray) 0 32 = some (bytesV t) := readCells_bytesV t

theorem cell_pushB (H : Heap) (E : List (Array Val)) (b i : Nat) (hb : b < H.blocks.size) : cell (pushB H E) b i = cell H b i := by
  simp only [cell, get_pushB_lt H E b hb]

theorem blkSize_pushB (H : Heap) (E : List (Array Val)) (b : Nat) (hb : b < H.blocks.size) : blkSize (pushB H E) b = blkSize H b := by
  simp only [blkSize, get_pushB_lt H E b hb]

theorem okE_pushB {H : Heap} {b o : Nat} (E : List (Array Val)) (h : OkE H b o) : OkE (pushB H E) b o = True := by
  apply eq_true
  have hb := h.1.1
  refine ⟨⟨by rw [pushB_size]; omega, by rw [blkSize_pushB _ _ _ hb]; exact h.1.2⟩, ?_⟩
  intro k hk
  rw [cell_pushB _ _ _ _ hb]
  exact h.2 k hk

theorem getE_pushB {H : Heap} {b o : Nat} (E : List (Array Val)) (h : OkE H b o) : getE (pushB H E) b o = getE H b o := by
  simp only [getE, cell_pushB _ _ _ _ h.1.1]

theorem extBytes_length (t : Fe) : (extBytes t).length = 4 := rfl
theorem lt16_add (n k : Nat) (h : 16 < n) : (16 < n + k) = True := by apply eq_true; omega
theorem add4_0 (n : Nat) : n + 4 + 0 = n + 4 := rfl

theorem post0_pushB (h : Heap) (E : List (Array Val)) : Post0 h (pushB h E) :=
  ⟨by rw [pushB_size]; omega, fun c hc => get_pushB_lt h E c hc⟩

/-! ## the call rule of `Bytes` with the body as a literal (the stepper unfolds `body64`) -/

theorem callA_BytesL (H : Heap) (bv ov : Nat) (hkv : OkE H bv ov) (h16 : 16 < H.blocks.size)
    (d : Nat) (cfi : Nat) (cf : Func) (cregs cparams : Array RVal) (cblk : Nat) (crest : List Instr) (cdest : Option Nat) (frs : List Frame) :
    steps prog 801 ⟨H, ⟨64, f64, #[], #[[.ptr bv ov]], 0, body% f64, some d⟩ :: ⟨cfi, cf, cregs, cparams, cblk, crest, cdest⟩ :: frs⟩
      = some ⟨pushB H (extBytes (EdVerif.Gen.Field.reduce (getE H bv ov))),
          ⟨cfi, cf, regSet cregs d [.slice (H.blocks.size + 0) 0 32 32], cparams, cblk, crest, cdest⟩ :: frs⟩ :=
  callA_Bytes H bv ov hkv h16 d cfi cf cregs cparams cblk crest cdest frs

derive_rules callA_BytesL runA_BytesL stepsA_BytesL

/-! ## `IsNegative` -/

def body67 : List Instr := body% f67
theorem funcs_67 : prog.funcs[67]? = some f67 := rfl
theorem mkFrame_67 (args : List RVal) (dest : Option Nat) :
    mkFrame 67 f67 args dest = some ⟨67, f67, #[], args.toArray, 0, body67, dest⟩ := rfl
theorem resultTys_67 : f67.resultTys = [10] := rfl
theorem funcIdx_67 : prog.funcIdx? (nm! "(*field.Element).IsNegative") = some 67 := by decide +kernel

theorem isNegative_eq (v : Fe) :
    Fe.isNegative v = wrap 64 ((0 ||| (U.shl 64 (EdVerif.Gen.Field.reduce v).l0 0 >>> 0) % 256) &&& 1) := by
  unfold Fe.isNegative
  rw [bytes_eq, wrap64_of_lt _ (Nat.lt_of_le_of_lt Nat.and_le_right (by decide))]
  rfl

/-- every instruction of `v.IsNegative()` but the final `Return`, whatever lies below its frame, on an arbitrary heap in which
    `(bv, ov)` is an element slot: the register to be returned holds the model's `Fe.isNegative` -/
theorem preA_IsNegative (H : Heap) (bv ov : Nat) (hkv : OkE H bv ov) (h16 : 16 < H.blocks.size) (dest : Option Nat) (frs : List Frame) :
    ∃ r3 r2 r1 r0, steps prog 806 ⟨H, ⟨67, f67, #[], #[[.ptr bv ov]], 0, body67, dest⟩ :: frs⟩
      = some ⟨pushB H (extBytes (EdVerif.Gen.Field.reduce (getE H bv ov))),
          ⟨67, f67, regsN 5 [[.int (Fe.isNegative (getE H bv ov))], r3, r2, r1, r0], #[[.ptr bv ov]], 0,
            [⟨5, .none, 293, .ret [(.reg 4)], 0, [10]⟩], dest⟩ :: frs⟩ := by
  iterate 4 apply Exists.intro
  rw [isNegative_eq]
  simp only [body67]
  ssa_execB [resultTys_67, ↓stepsA_BytesL, hkv, h16, read_pushB, extBytes_eq, bytesV, bytesL, List.map_cons, List.map_nil]
  rfl

/-- `v.IsNegative()` called from any frame on an arbitrary heap in which `(bv, ov)` is an element slot -/
theorem callA_IsNegative (H : Heap) (bv ov : Nat) (hkv : OkE H bv ov) (h16 : 16 < H.blocks.size)
    (d : Nat) (cfi : Nat) (cf : Func) (cregs cparams : Array RVal) (cblk : Nat) (crest : List Instr) (cdest : Option Nat) (frs : List Frame) :
    steps prog 807 ⟨H, ⟨67, f67, #[], #[[.ptr bv ov]], 0, body67, some d⟩ :: ⟨cfi, cf, cregs, cparams, cblk, crest, cdest⟩ :: frs⟩
      = some ⟨pushB H (extBytes (EdVerif.Gen.Field.reduce (getE H bv ov))),
          ⟨cfi, cf, regSet cregs d [.int (Fe.isNegative (getE H bv ov))], cparams, cblk, crest, cdest⟩ :: frs⟩ := by
  obtain ⟨r3, r2, r1, r0, hp⟩ := preA_IsNegative H bv ov hkv h16 (some d) (⟨cfi, cf, cregs, cparams, cblk, crest, cdest⟩ :: frs)
  refine (steps_steps' hp 1).trans ?_
  ssa_execB [resultTys_67]

derive_rules callA_IsNegative runA_IsNegative stepsA_IsNegative

/-- **tie**: `v.IsNegative()` on any heap in which block `bv` holds the limbs of `v` (and the block of the package variable
    `binary.LittleEndian` exists): the run terminates and returns the model's `Fe.isNegative v`; no block of the heap changes -/
theorem tie_IsNegative (h : Heap) (bv : Nat) (v : Fe) (hv : h.blocks[bv]? = some (feCells v)) (h16 : 16 < h.blocks.size) :
    ∃ h', runCall prog 807 h (nm! "(*field.Element).IsNegative") [[.ptr bv 0]] = some (.done ⟨h', []⟩ [[.int (Fe.isNegative v)]])
      ∧ Post0 h h' := by
  obtain ⟨r3, r2, r1, r0, hp⟩ := preA_IsNegative h bv 0 (okE_of_feCells hv) h16 none []
  rw [getE_of_feCells hv] at hp
  refine ⟨pushB h (extBytes (EdVerif.Gen.Field.reduce v)), ?_, post0_pushB h _⟩
  simp only [runCall, funcIdx_67, callState, funcs_67, mkFrame_67, Option.bind_some, Option.map_some, Option.pure_def,
    Option.bind_eq_bind]
  rw [run_steps' hp 1]
  ssa_execB [resultTys_67]

/-! ## `Equal` -/

def body65 : List Instr := body% f65
theorem funcs_65 : prog.funcs[65]? = some f65 := rfl
theorem mkFrame_65 (args : List RVal) (dest : Option Nat) :
    mkFrame 65 f65 args dest = some ⟨65, f65, #[], args.toArray, 0, body65, dest⟩ := rfl
theorem resultTys_65 : f65.resultTys = [10] := rfl
theorem funcIdx_65 : prog.funcIdx? (nm! "(*field.Element).Equal") = some 65 := by decide +kernel

theorem equal_eq (v u : Fe) :
    Formulas.field_Element_Equal v u
      = (if bytesV (EdVerif.Gen.Field.reduce u) = bytesV (EdVerif.Gen.Field.reduce v) then 1 else 0) :=
  (cmp_bytesV v u).symm

/-- the blocks allocated by `v.Equal(u)`: those of `u.Bytes()`, then those of `v.Bytes()` -/
def extEqual (v u : Fe) : List (Array Val) :=
  extBytes (EdVerif.Gen.Field.reduce u) ++ extBytes (EdVerif.Gen.Field.reduce v)

theorem extEqual_eq (v u : Fe) : extEqual v u = extBytes (EdVerif.Gen.Field.reduce u) ++ extBytes (EdVerif.Gen.Field.reduce v) := by
  rw [extEqual]

/-- every instruction of `v.Equal(u)` but the final `Return`, whatever lies below its frame, on an arbitrary heap in which `(bv, ov)`
    and `(bu, ou)` are element slots (any aliasing): the register to be returned holds T5's `Formulas.field_Element_Equal` -/
theorem preA_Equal (H : Heap) (bv ov bu ou : Nat) (hkv : OkE H bv ov) (hku : OkE H bu ou) (h16 : 16 < H.blocks.size)
    (dest : Option Nat) (frs : List Frame) :
    ∃ r1 r0, steps prog 1605 ⟨H, ⟨65, f65, #[], #[[.ptr bv ov], [.ptr bu ou]], 0, body65, dest⟩ :: frs⟩
      = some ⟨pushB H (extEqual (getE H bv ov) (getE H bu ou)),
          ⟨65, f65, regsN 3 [[.int (Formulas.field_Element_Equal (getE H bv ov) (getE H bu ou))], r1, r0], #[[.ptr bv ov], [.ptr bu ou]], 0,
            [⟨3, .none, 254, .ret [(.reg 2)], 0, [10]⟩], dest⟩ :: frs⟩ := by
  iterate 2 apply Exists.intro
  rw [equal_eq]
  simp only [body65]
  ssa_execB [resultTys_65, ↓stepsA_BytesL, hkv, hku, h16, okE_pushB, getE_pushB, pushB_pushB, pushB_size, extBytes_length, lt16_add,
    add4_0, read_pushB', extBytes_eq, extEqual_eq, readBlk_bytesV, cmpK_some, bytesV_data]
  rfl

/-- `v.Equal(u)` called from any frame on an arbitrary heap in which `(bv, ov)` and `(bu, ou)` are element slots (any aliasing) -/
theorem callA_Equal (H : Heap) (bv ov bu ou : Nat) (hkv : OkE H bv ov) (hku : OkE H bu ou) (h16 : 16 < H.blocks.size)
    (d : Nat) (cfi : Nat) (cf : Func) (cregs cparams : Array RVal) (cblk : Nat) (crest : List Instr) (cdest : Option Nat) (frs : List Frame) :
    steps prog 1606 ⟨H, ⟨65, f65, #[], #[[.ptr bv ov], [.ptr bu ou]], 0, body65, some d⟩ :: ⟨cfi, cf, cregs, cparams, cblk, crest, cdest⟩ :: frs⟩
      = some ⟨pushB H (extEqual (getE H bv ov) (getE H bu ou)),
          ⟨cfi, cf, regSet cregs d [.int (Formulas.field_Element_Equal (getE H bv ov) (getE H bu ou))], cparams, cblk, crest, cdest⟩ :: frs⟩ := by
  obtain ⟨r1, r0, hp⟩ := preA_Equal H bv ov bu ou hkv hku h16 (some d) (⟨cfi, cf, cregs, cparams, cblk, crest, cdest⟩ :: frs)
  refine (steps_steps' hp 1).trans ?_
  ssa_execB [resultTys_65]

derive_rules callA_Equal runA_Equal stepsA_Equal

/-- **tie**: `v.Equal(u)` on any heap in which blocks `bv`, `bu` hold the limbs of `v`, `u` (`bv = bu` allowed; the block of the
    package variable `binary.LittleEndian` exists): the run terminates and returns T5's `Formulas.field_Element_Equal v u`
    (= `Fe.equal v u`); no block of the heap changes (the heap grows by the locals of the run) -/
theorem tie_Equal (h : Heap) (bv bu : Nat) (v u : Fe) (hv : h.blocks[bv]? = some (feCells v)) (hu : h.blocks[bu]? = some (feCells u))
    (h16 : 16 < h.blocks.size) :
    ∃ h', runCall prog 1606 h (nm! "(*field.Element).Equal") [[.ptr bv 0], [.ptr bu 0]]
            = some (.done ⟨h', []⟩ [[.int (Formulas.field_Element_Equal v u)]])
      ∧ Post0 h h' := by
  obtain ⟨r1, r0, hp⟩ := preA_Equal h bv 0 bu 0 (okE_of_feCells hv) (okE_of_feCells hu) h16 none []
  rw [getE_of_feCells hv, getE_of_feCells hu] at hp
  refine ⟨pushB h (extEqual v u), ?_, post0_pushB h _⟩
  simp only [runCall, funcIdx_65, callState, funcs_65, mkFrame_65, Option.bind_some, Option.map_some, Option.pure_def,
    Option.bind_eq_bind]
  rw [run_steps' hp 1]
  ssa_execB [resultTys_65]

end EdVerif.Ssa.Tie
