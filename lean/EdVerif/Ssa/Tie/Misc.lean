import EdVerif.Ssa.Tie.Slot
import EdVerif.Ssa.Tie.Arith
/-!
# `(*field.Element).Set`, `Zero`, `One`, `field.mul51`, `(*field.Element).Mult32`
-/
namespace EdVerif.Ssa.Tie
open EdVerif.Ssa EdVerif.Gen.Ssa EdVerif.Prims
set_option maxRecDepth 100000

/-! ## `Set` -/

def body74 : List Instr := body% f74
theorem funcs_74 : prog.funcs[74]? = some f74 := rfl
theorem mkFrame_74 (args : List RVal) (dest : Option Nat) :
    mkFrame 74 f74 args dest = some ⟨74, f74, #[], args.toArray, 0, body74, dest⟩ := rfl
theorem resultTys_74 : f74.resultTys = [19] := rfl
theorem funcIdx_74 : prog.funcIdx? (nm! "(*field.Element).Set") = some 74 := by decide +kernel

/-- `v.Set(a)` but for its final `Return`, whatever lies below its frame, on any heap; the slots of `v` and `a` may be the same or
    overlap in any way: the five limbs of `a` are loaded at once, then stored at once. -/
theorem preA_Set (H : Heap) (bv ov ba oa : Nat) (hkv : OkE H bv ov) (hka : OkE H ba oa) (dest : Option Nat) (frs : List Frame) :
    ∃ regs, steps prog 2 ⟨H, ⟨74, f74, #[], #[[.ptr bv ov], [.ptr ba oa]], 0, body74, dest⟩ :: frs⟩
      = some ⟨setE bv ov (EdVerif.Gen.Field.Set (getE H bv ov) (getE H ba oa)) H,
          ⟨74, f74, regs, #[[.ptr bv ov], [.ptr ba oa]], 0, List.drop 2 body74, dest⟩ :: frs⟩ := by
  apply Exists.intro
  apply steps_of_baseE
  simp only [body74]
  ssa_execS [resultTys_74, cls5, feL, hkv, hka]
  exact state_eq ((mkE_setE H bv ov _ []).trans (pushB_nil _)) rfl

/-- `v.Set(a)` called from any frame on an arbitrary heap -/
theorem callA_Set (H : Heap) (bv ov ba oa : Nat)
    (hkv : OkE H bv ov) (hka : OkE H ba oa) (d : Nat) (cfi : Nat) (cf : Func) (cregs cparams : Array RVal) (cblk : Nat) (crest : List Instr) (cdest : Option Nat) (frs : List Frame) :
    steps prog 3 ⟨H, ⟨74, f74, #[], #[[.ptr bv ov], [.ptr ba oa]], 0, body74, some d⟩ :: ⟨cfi, cf, cregs, cparams, cblk, crest, cdest⟩ :: frs⟩
      = some ⟨setE bv ov (EdVerif.Gen.Field.Set (getE H bv ov) (getE H ba oa)) H,
          ⟨cfi, cf, regSet cregs d [.ptr bv ov], cparams, cblk, crest, cdest⟩ :: frs⟩ := by
  obtain ⟨regs, hp⟩ := preA_Set H bv ov ba oa hkv hka (some d) (⟨cfi, cf, cregs, cparams, cblk, crest, cdest⟩ :: frs)
  refine Eq.trans (steps_steps' hp 1) ?_
  simp only [body74, List.drop_succ_cons, List.drop_zero]
  ssa_execE [resultTys_74]

derive_rules callA_Set runA_Set stepsA_Set

/-- **tie** (any aliasing): `(*field.Element).Set` on an arbitrary heap in which the argument blocks hold the limbs of the arguments
    (the blocks may coincide, in which case the arguments do). -/
theorem tie_Set_any (h : Heap) (bv ba : Nat) (v a : Fe) 
    (hv : h.blocks[bv]? = some (feCells v)) (ha : h.blocks[ba]? = some (feCells a)) :
    ∃ h', runCall prog 3 h (nm! "(*field.Element).Set") [[.ptr bv 0], [.ptr ba 0]] = some (.done ⟨h', []⟩ [[.ptr bv 0]])
      ∧ Post1 h h' bv (feCells (EdVerif.Gen.Field.Set v a)) := by
  obtain ⟨regs, hp⟩ := preA_Set h bv 0 ba 0 (okE_of_feCells hv) (okE_of_feCells ha) none []
  rw [getE_of_feCells hv, getE_of_feCells ha] at hp
  refine ⟨_, ?_, (pushB_nil _) ▸ post1_setE _ [] hv rfl⟩
  rw [runCall_eq funcIdx_74 funcs_74 (mkFrame_74 _ _), run_steps' hp 1]
  simp only [body74, List.drop_succ_cons, List.drop_zero]
  ssa_execE [resultTys_74]

/-! ## `Zero`, `One`

The Go code is `*v = *feZero` / `*v = *feOne`: the package-level variable (global 12 / 11, i.e. block 13 / 12 of the heap)
holds a pointer to an `Element`.  Hypotheses: that variable points to a block `bz` holding the limbs of T1's `feZero` / `feOne`
(what `field.init` establishes). -/

def body81 : List Instr := body% f81
theorem funcs_81 : prog.funcs[81]? = some f81 := rfl
theorem mkFrame_81 (args : List RVal) (dest : Option Nat) :
    mkFrame 81 f81 args dest = some ⟨81, f81, #[], args.toArray, 0, body81, dest⟩ := rfl
theorem resultTys_81 : f81.resultTys = [19] := rfl
theorem funcIdx_81 : prog.funcIdx? (nm! "(*field.Element).Zero") = some 81 := by decide +kernel
theorem globalIdx_feZero : prog.globalIdx? (nm! "field.feZero") = some 12 := by decide +kernel
theorem globalIdx_feOne : prog.globalIdx? (nm! "field.feOne") = some 11 := by decide +kernel

theorem core_Zero (h0 : Heap) (ovr ext) (bv bz g : Nat) (v0 v1 v2 v3 v4 z0 z1 z2 z3 z4 : Nat)
    (hbv : bv < h0.blocks.size) (hbz : bz < h0.blocks.size) (hg : g + 1 < h0.blocks.size)
    (hvz : bv ≠ bz) (hvg : bv ≠ g + 1) (hzg : bz ≠ g + 1) (fi : Nat) (f : Func) (body : List Instr) (l1 l2 : Nat)
    (hbody : body = [⟨0, .ptr, l1, .load (.global g), 19, [50]⟩, ⟨1, (.agg false), l1, .load (.reg 0), 4, [19]⟩,
        ⟨2, .none, l1, .store (.agg false) (.param 0) (.reg 1), 0, [19, 4]⟩, ⟨3, .none, l2, .ret [(.param 0)], 0, [19]⟩])
    (hres : f.resultTys = [19]) :
    run prog 4 ⟨mkH h0 ((bv, #[.int v0, .int v1, .int v2, .int v3, .int v4]) :: (g + 1, #[.ptr bz 0])
                    :: (bz, #[.int z0, .int z1, .int z2, .int z3, .int z4]) :: ovr) ext,
        [⟨fi, f, #[], #[[.ptr bv 0]], 0, body, none⟩]⟩
      = .done ⟨mkH h0 ((bv, #[.int z0, .int z1, .int z2, .int z3, .int z4]) :: (g + 1, #[.ptr bz 0])
                    :: (bz, #[.int z0, .int z1, .int z2, .int z3, .int z4]) :: ovr) ext, []⟩ [[.ptr bv 0]] := by
  subst hbody
  ssa_exec [hres, read_hit, read_miss, write_hit, hbv, hbz, hg, hvz, hvg, hzg, hvz.symm, hvg.symm, hzg.symm, ne_eq, not_false_eq_true]


theorem ne_of_cells {h : Heap} {b1 b2 : Nat} {V1 V2 : Array Val} (h1 : h.blocks[b1]? = some V1) (h2 : h.blocks[b2]? = some V2)
    (hne : V1 ≠ V2) : b1 ≠ b2 := by
  intro e; subst e; rw [h1] at h2; exact hne (Option.some.inj h2)

/-- **tie**: `v.Zero()`; `bz` is the block the package variable `feZero` points to -/
theorem tie_Zero (h : Heap) (bv bz : Nat) (v : Fe)
    (hv : h.blocks[bv]? = some (feCells v)) (hg : h.blocks[13]? = some #[.ptr bz 0])
    (hz : h.blocks[bz]? = some (feCells EdVerif.Gen.Field.feZero)) (hvz : bv ≠ bz) :
    ∃ h', runCall prog 4 h (nm! "(*field.Element).Zero") [[.ptr bv 0]] = some (.done ⟨h', []⟩ [[.ptr bv 0]])
      ∧ Post1 h h' bv (feCells (EdVerif.Gen.Field.Zero v)) := by
  obtain ⟨v0, v1, v2, v3, v4⟩ := v
  have hvg : bv ≠ 12 + 1 := ne_of_cells hv hg (by simp [feCells])
  have hzg : bz ≠ 12 + 1 := ne_of_cells hz hg (by simp [feCells])
  have core := core_Zero h [] [] bv bz 12 v0 v1 v2 v3 v4 0 0 0 0 0 (lt_of_get hv) (lt_of_get hz) (lt_of_get hg) hvz hvg hzg
    81 f81 body81 41 42 rfl resultTys_81
  have hall : ∀ kv ∈ [(12 + 1, #[Val.ptr bz 0]), (bz, #[Val.int 0, .int 0, .int 0, .int 0, .int 0])], h.blocks[kv.1]? = some kv.2 := by
    simpa [feCells, EdVerif.Gen.Field.feZero] using ⟨hg, hz⟩
  rw [show mkH h [(bv, #[.int v0, .int v1, .int v2, .int v3, .int v4]), (12 + 1, #[.ptr bz 0]), (bz, #[.int 0, .int 0, .int 0, .int 0, .int 0])] [] = h from
      mkH_intro h _ (by simpa [feCells, EdVerif.Gen.Field.feZero] using ⟨hv, hg, hz⟩)] at core
  refine ⟨_, ?_, post1_mkH _ [] (lt_of_get hv) hall⟩
  simp only [runCall, funcIdx_81, callState, funcs_81, mkFrame_81, Option.bind_some, Option.map_some, Option.pure_def,
    Option.bind_eq_bind]
  rw [core]; rfl

def body71 : List Instr := body% f71
theorem funcs_71 : prog.funcs[71]? = some f71 := rfl
theorem mkFrame_71 (args : List RVal) (dest : Option Nat) :
    mkFrame 71 f71 args dest = some ⟨71, f71, #[], args.toArray, 0, body71, dest⟩ := rfl
theorem resultTys_71 : f71.resultTys = [19] := rfl
theorem funcIdx_71 : prog.funcIdx? (nm! "(*field.Element).One") = some 71 := by decide +kernel

/-- **tie**: `v.One()`; `bz` is the block the package variable `feOne` points to -/
theorem tie_One (h : Heap) (bv bz : Nat) (v : Fe)
    (hv : h.blocks[bv]? = some (feCells v)) (hg : h.blocks[12]? = some #[.ptr bz 0])
    (hz : h.blocks[bz]? = some (feCells EdVerif.Gen.Field.feOne)) (hvz : bv ≠ bz) :
    ∃ h', runCall prog 4 h (nm! "(*field.Element).One") [[.ptr bv 0]] = some (.done ⟨h', []⟩ [[.ptr bv 0]])
      ∧ Post1 h h' bv (feCells (EdVerif.Gen.Field.One v)) := by
  obtain ⟨v0, v1, v2, v3, v4⟩ := v
  have hvg : bv ≠ 11 + 1 := ne_of_cells hv hg (by simp [feCells])
  have hzg : bz ≠ 11 + 1 := ne_of_cells hz hg (by simp [feCells])
  have core := core_Zero h [] [] bv bz 11 v0 v1 v2 v3 v4 1 0 0 0 0 (lt_of_get hv) (lt_of_get hz) (lt_of_get hg) hvz hvg hzg
    71 f71 body71 49 50 rfl resultTys_71
  have hall : ∀ kv ∈ [(11 + 1, #[Val.ptr bz 0]), (bz, #[Val.int 1, .int 0, .int 0, .int 0, .int 0])], h.blocks[kv.1]? = some kv.2 := by
    simpa [feCells, EdVerif.Gen.Field.feOne] using ⟨hg, hz⟩
  rw [show mkH h [(bv, #[.int v0, .int v1, .int v2, .int v3, .int v4]), (11 + 1, #[.ptr bz 0]), (bz, #[.int 1, .int 0, .int 0, .int 0, .int 0])] [] = h from
      mkH_intro h _ (by simpa [feCells, EdVerif.Gen.Field.feOne] using ⟨hv, hg, hz⟩)] at core
  refine ⟨_, ?_, post1_mkH _ [] (lt_of_get hv) hall⟩
  simp only [runCall, funcIdx_71, callState, funcs_71, mkFrame_71, Option.bind_some, Option.map_some, Option.pure_def,
    Option.bind_eq_bind]
  rw [core]; rfl


/-! ## `field.mul51` -/

def body115 : List Instr := body% f115
theorem funcs_115 : prog.funcs[115]? = some f115 := rfl
theorem mkFrame_115 (args : List RVal) (dest : Option Nat) :
    mkFrame 115 f115 args dest = some ⟨115, f115, #[], args.toArray, 0, body115, dest⟩ := rfl
theorem resultTys_115 : f115.resultTys = [3, 3] := rfl
theorem funcIdx_115 : prog.funcIdx? (nm! "field.mul51") = some 115 := by decide +kernel

/-- the second argument is a `uint32`; the conversion to `uint64` (dropped by T1) is the identity below `2^64` -/
theorem call_mul51 (hp : Heap) (a y d : Nat) (hy : y < 2 ^ 64) (cfi : Nat) (cf : Func) (cregs cparams : Array RVal) (cblk : Nat)
    (crest : List Instr) (cdest : Option Nat) (frs : List Frame) :
    steps prog 9 ⟨hp, ⟨115, f115, #[], #[[.int a], [.int y]], 0, body115, some d⟩ :: ⟨cfi, cf, cregs, cparams, cblk, crest, cdest⟩ :: frs⟩
      = some ⟨hp, ⟨cfi, cf, regSet cregs d [.int (EdVerif.Gen.Field.mul51 a y).1, .int (EdVerif.Gen.Field.mul51 a y).2], cparams, cblk, crest, cdest⟩ :: frs⟩ := by
  simp only [body115]
  ssa_exec [resultTys_115, wrap64_of_lt y hy, and_eq, or_eq, shl_eq, shr_eq]
  simp only [EdVerif.Gen.Field.mul51, Bits.Mul64]

derive_rules call_mul51 run_mul51 steps_mul51

/-- **tie**: `field.mul51` -/
theorem tie_mul51 (h : Heap) (a y : Nat) (hy : y < 2 ^ 64) :
    runCall prog 9 h (nm! "field.mul51") [[.int a], [.int y]]
      = some (.done ⟨h, []⟩ [[.int (EdVerif.Gen.Field.mul51 a y).1], [.int (EdVerif.Gen.Field.mul51 a y).2]]) := by
  simp only [runCall, funcIdx_115, callState, funcs_115, mkFrame_115, Option.bind_some, Option.map_some, Option.pure_def,
    Option.bind_eq_bind, body115]
  ssa_exec [resultTys_115, wrap64_of_lt y hy, and_eq, or_eq, shl_eq, shr_eq]
  simp only [EdVerif.Gen.Field.mul51, Bits.Mul64]

/-! ## `(*field.Element).Mult32` -/

def body68 : List Instr := body% f68
theorem funcs_68 : prog.funcs[68]? = some f68 := rfl
theorem mkFrame_68 (args : List RVal) (dest : Option Nat) :
    mkFrame 68 f68 args dest = some ⟨68, f68, #[], args.toArray, 0, body68, dest⟩ := rfl
theorem resultTys_68 : f68.resultTys = [19] := rfl
theorem funcIdx_68 : prog.funcIdx? (nm! "(*field.Element).Mult32") = some 68 := by decide +kernel

/-- **tie** (any aliasing): `(*field.Element).Mult32` on an arbitrary heap in which the argument blocks hold the limbs of the arguments
    (the blocks may coincide, in which case the arguments do). -/
theorem tie_Mult32_any (h : Heap) (bv ba : Nat) (v a : Fe) (y : Nat) (hy : y < 2 ^ 64)
    (hv : h.blocks[bv]? = some (feCells v)) (ha : h.blocks[ba]? = some (feCells a)) :
    ∃ h', runCall prog 87 h (nm! "(*field.Element).Mult32") [[.ptr bv 0], [.ptr ba 0], [.int y]] = some (.done ⟨h', []⟩ [[.ptr bv 0]])
      ∧ Post1 h h' bv (feCells (EdVerif.Gen.Field.Mult32 v a y)) := by
  obtain ⟨v0, v1, v2, v3, v4⟩ := v
  obtain ⟨a0, a1, a2, a3, a4⟩ := a
  have hbv := lt_of_get hv
  have hba := lt_of_get ha
  simp only [feCells] at hv ha
  refine ⟨_, ?_, post1_base _ [] hbv⟩
  rw [runCall_eq funcIdx_68 funcs_68 (mkFrame_68 _ _)]
  refine congrArg some (run_of_base ?_)
  -- the five limbs of `a` are loaded before the first store to `v`
  simp only [body68]
  ssa_exec [resultTys_68, funcs_115, mkFrame_115, ↓run_mul51, add_eq, mul_eq, read_base, write_base, read_hit, write_hit, hv, ha, hbv, hba, hy]
  rfl

end EdVerif.Ssa.Tie
