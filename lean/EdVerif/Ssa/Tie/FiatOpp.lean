import EdVerif.Ssa.Tie.FiatSmall
/-!
# `fiatScalarOpp`
-/
namespace EdVerif.Ssa.Tie
open EdVerif.Ssa EdVerif.Gen.Ssa EdVerif.Prims EdVerif.Gen.Fiat
set_option maxRecDepth 100000

def body101 : List Instr := body% f101
theorem funcs_101 : prog.funcs[101]? = some f101 := rfl
theorem mkFrame_101 (args : List RVal) (dest : Option Nat) :
    mkFrame 101 f101 args dest = some ⟨101, f101, #[], args.toArray, 0, body101, dest⟩ := rfl
theorem resultTys_101 : f101.resultTys = [] := rfl
theorem funcIdx_101 : prog.funcIdx? (nm! "fiatScalarOpp") = some 101 := by decide +kernel

/-- Every instruction of `fiatScalarOpp` but the final `Return`, whatever lies below its frame, on any heap in which the
    argument blocks hold four words each.  The blocks may coincide: the kernel loads its arguments before its first
    store to `out`, so this one run covers every aliasing of the pointers. -/
theorem pre_fiatScalarOpp (H : Heap) (bo ba : Nat) (o a : W4) (hlt_a : a.lt64)
    (ho : H.blocks[bo]? = some (w4Cells o)) (ha : H.blocks[ba]? = some (w4Cells a)) (dest : Option Nat) (frs : List Frame) :
    ∃ ext regs, steps prog 69 ⟨H, ⟨101, f101, #[], #[[.ptr bo 0], [.ptr ba 0]], 0, body101, dest⟩ :: frs⟩
      = some ⟨mkH H [(bo, w4Cells (fiatScalarOpp o a))] ext,
          ⟨101, f101, regs, #[[.ptr bo 0], [.ptr ba 0]], 0, List.drop 61 body101, dest⟩ :: frs⟩ := by
  obtain ⟨o0, o1, o2, o3⟩ := o
  obtain ⟨a0, a1, a2, a3⟩ := a
  obtain ⟨hlt_a0, hlt_a1, hlt_a2, hlt_a3⟩ := hlt_a
  have hbo := lt_of_get ho
  have hba := lt_of_get ha
  simp only [w4Cells] at ho ha
  apply Exists.intro
  apply Exists.intro
  apply steps_of_base
  simp only [body101]
  fiat_exec [resultTys_101, funcs_96, mkFrame_96, ↓steps_Cmovznz_ext, and_eq, read_base, write_base, write_hit, ho, ha, hbo, hba, hlt_a0, hlt_a1, hlt_a2, hlt_a3]
  refine state_eq ?_ rfl
  simp only [w4Cells, fiatScalarOpp, Bits.Add64, Bits.Sub64]
  rfl

/-- the call returns into any caller frame -/
theorem call_fiatScalarOpp (H : Heap) (bo ba : Nat) (o a : W4) (hlt_a : a.lt64)
    (ho : H.blocks[bo]? = some (w4Cells o)) (ha : H.blocks[ba]? = some (w4Cells a)) (d : Nat) (cfi : Nat) (cf : Func) (cregs cparams : Array RVal) (cblk : Nat) (crest : List Instr) (cdest : Option Nat) (frs : List Frame) :
    ∃ ext, steps prog 70 ⟨H, ⟨101, f101, #[], #[[.ptr bo 0], [.ptr ba 0]], 0, body101, some d⟩ :: ⟨cfi, cf, cregs, cparams, cblk, crest, cdest⟩ :: frs⟩
      = some ⟨mkH H [(bo, w4Cells (fiatScalarOpp o a))] ext, ⟨cfi, cf, regSet cregs d [], cparams, cblk, crest, cdest⟩ :: frs⟩ := by
  obtain ⟨ext, regs, hp⟩ := pre_fiatScalarOpp H bo ba o a hlt_a ho ha (some d) (⟨cfi, cf, cregs, cparams, cblk, crest, cdest⟩ :: frs)
  refine ⟨ext, Eq.trans (steps_steps' hp 1) ?_⟩
  simp only [body101, List.drop_succ_cons, List.drop_zero]
  fiat_exec [resultTys_101]

/-- **tie** (any aliasing): `fiatScalarOpp` on an arbitrary heap in which the argument blocks hold the words of the arguments
    (the blocks may coincide, in which case the arguments do). -/
theorem tie_fiatScalarOpp (h : Heap) (bo ba : Nat) (o a : W4) (hlt_a : a.lt64)
    (ho : h.blocks[bo]? = some (w4Cells o)) (ha : h.blocks[ba]? = some (w4Cells a)) :
    ∃ h', runCall prog 70 h (nm! "fiatScalarOpp") [[.ptr bo 0], [.ptr ba 0]] = some (.done ⟨h', []⟩ [])
      ∧ Post1 h h' bo (w4Cells (fiatScalarOpp o a)) := by
  obtain ⟨ext, regs, hp⟩ := pre_fiatScalarOpp h bo ba o a hlt_a ho ha none []
  refine ⟨_, ?_, post1_base _ ext (lt_of_get ho)⟩
  rw [runCall_eq funcIdx_101 funcs_101 (mkFrame_101 _ _), run_steps' hp 1]
  simp only [body101, List.drop_succ_cons, List.drop_zero]
  fiat_exec [resultTys_101]

end EdVerif.Ssa.Tie
