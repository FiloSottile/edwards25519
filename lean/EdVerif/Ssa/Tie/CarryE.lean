import EdVerif.Ssa.Tie.ExecE
import EdVerif.Ssa.Tie.Carry
/-!
# `carryPropagateGeneric`, `carryPropagate` on element slots `(block, offset)`
-/
namespace EdVerif.Ssa.Tie
open EdVerif.Ssa EdVerif.Gen.Ssa EdVerif.Prims
set_option maxRecDepth 100000

/-- the five cells of an `Element`, as a list -/
def feL (v : Fe) : List Val := [.int v.l0, .int v.l1, .int v.l2, .int v.l3, .int v.l4]

theorem callE_carryPropagateGeneric (h0 : Heap) (ovr ext) (bv ov : Nat) (v0 v1 v2 v3 v4 : Nat) (hfv : Fits h0 bv ov 5) (d : Nat)
    (cfi : Nat) (cf : Func) (cregs cparams : Array RVal) (cblk : Nat) (crest : List Instr) (cdest : Option Nat) (frs : List Frame) :
    steps prog 47 ⟨mkE h0 ((bv, ov, [.int v0, .int v1, .int v2, .int v3, .int v4]) :: ovr) ext,
        ⟨84, f84, #[], #[[.ptr bv ov]], 0, body84, some d⟩ :: ⟨cfi, cf, cregs, cparams, cblk, crest, cdest⟩ :: frs⟩
      = some ⟨mkE h0 ((bv, ov, [.int (cpg v0 v1 v2 v3 v4).l0, .int (cpg v0 v1 v2 v3 v4).l1, .int (cpg v0 v1 v2 v3 v4).l2,
                              .int (cpg v0 v1 v2 v3 v4).l3, .int (cpg v0 v1 v2 v3 v4).l4]) :: ovr) ext,
          ⟨cfi, cf, regSet cregs d [.ptr bv ov], cparams, cblk, crest, cdest⟩ :: frs⟩ := by
  simp only [body84]
  ssa_execE [resultTys_84, hfv]
  rfl

derive_rules callE_carryPropagateGeneric runE_carryPropagateGeneric stepsE_carryPropagateGeneric

theorem callE_carryPropagate (h0 : Heap) (ovr ext) (bv ov : Nat) (v0 v1 v2 v3 v4 : Nat) (hfv : Fits h0 bv ov 5) (d : Nat)
    (cfi : Nat) (cf : Func) (cregs cparams : Array RVal) (cblk : Nat) (crest : List Instr) (cdest : Option Nat) (frs : List Frame) :
    steps prog 49 ⟨mkE h0 ((bv, ov, [.int v0, .int v1, .int v2, .int v3, .int v4]) :: ovr) ext,
        ⟨83, f83, #[], #[[.ptr bv ov]], 0, body83, some d⟩ :: ⟨cfi, cf, cregs, cparams, cblk, crest, cdest⟩ :: frs⟩
      = some ⟨mkE h0 ((bv, ov, [.int (cp v0 v1 v2 v3 v4).l0, .int (cp v0 v1 v2 v3 v4).l1, .int (cp v0 v1 v2 v3 v4).l2,
                              .int (cp v0 v1 v2 v3 v4).l3, .int (cp v0 v1 v2 v3 v4).l4]) :: ovr) ext,
          ⟨cfi, cf, regSet cregs d [.ptr bv ov], cparams, cblk, crest, cdest⟩ :: frs⟩ := by
  simp only [body83]
  ssa_execE [resultTys_83, funcs_84, mkFrame_84, ↓stepsE_carryPropagateGeneric, hfv]
  rfl

derive_rules callE_carryPropagate runE_carryPropagate stepsE_carryPropagate

end EdVerif.Ssa.Tie
