import EdVerif.Ssa.Tie.Slot
/-!
# `field.feSquareGeneric`, `field.feSquare`, `(*field.Element).Square`
-/
namespace EdVerif.Ssa.Tie
open EdVerif.Ssa EdVerif.Gen.Ssa EdVerif.Prims
set_option maxRecDepth 100000

def body112 : List Instr := body% f112
theorem funcs_112 : prog.funcs[112]? = some f112 := rfl
theorem mkFrame_112 (args : List RVal) (dest : Option Nat) :
    mkFrame 112 f112 args dest = some ⟨112, f112, #[], args.toArray, 0, body112, dest⟩ := rfl
theorem resultTys_112 : f112.resultTys = [] := rfl
theorem funcIdx_112 : prog.funcIdx? (nm! "field.feSquareGeneric") = some 112 := by decide +kernel

/-- Every instruction of `feSquareGeneric` but the final `Return`, whatever lies below its frame, on any heap, the operands in element slots.
    All limbs of the operands are loaded before the first store to `v`, so nothing is asked about which slots coincide.  The blocks
    the run allocates (temporaries of the callees) depend on the operand values only. -/
theorem preA_feSquareGeneric (a : Fe) : ∃ E : List (Array Val), ∀ (H : Heap) (bv ov ba oa : Nat)
    (hkv : OkE H bv ov) (hka : OkE H ba oa) (ea : getE H ba oa = a) (dest : Option Nat) (frs : List Frame),
    ∃ regs, steps prog 473 ⟨H, ⟨112, f112, #[], #[[.ptr bv ov], [.ptr ba oa]], 0, body112, dest⟩ :: frs⟩
      = some ⟨pushB (setE bv ov (EdVerif.Gen.Field.feSquareGeneric (getE H bv ov) a) H) E,
          ⟨112, f112, regs, #[[.ptr bv ov], [.ptr ba oa]], 0, List.drop 104 body112, dest⟩ :: frs⟩ := by
  apply Exists.intro
  intro H bv ov ba oa hkv hka ea dest frs
  apply Exists.intro
  apply steps_of_baseE
  simp only [body112]
  ssa_execS [resultTys_112, funcs_83, mkFrame_83, funcs_116, mkFrame_116, funcs_108, mkFrame_108, funcs_117, mkFrame_117,
    ↓stepsE_carryPropagate, ↓steps_mul64, ↓steps_addMul64, ↓steps_shiftRightBy51, U128_eta, hkv, hka, ea, hkv.1]
  refine state_eq (mkE_setE H bv ov _ _) ?_
  rfl

/-- the blocks `feSquareGeneric` allocates -/
noncomputable def xE_feSquareGeneric (a : Fe) : List (Array Val) := Classical.choose (preA_feSquareGeneric a)

/-- `feSquareGeneric` called from any frame on an arbitrary heap -/
theorem callA_feSquareGeneric (H : Heap) (bv ov ba oa : Nat)
    (hkv : OkE H bv ov) (hka : OkE H ba oa) (d : Nat) (cfi : Nat) (cf : Func) (cregs cparams : Array RVal) (cblk : Nat) (crest : List Instr) (cdest : Option Nat) (frs : List Frame) :
    steps prog 474 ⟨H, ⟨112, f112, #[], #[[.ptr bv ov], [.ptr ba oa]], 0, body112, some d⟩ :: ⟨cfi, cf, cregs, cparams, cblk, crest, cdest⟩ :: frs⟩
      = some ⟨pushB (setE bv ov (EdVerif.Gen.Field.feSquareGeneric (getE H bv ov) (getE H ba oa)) H) (xE_feSquareGeneric (getE H ba oa)),
          ⟨cfi, cf, regSet cregs d [], cparams, cblk, crest, cdest⟩ :: frs⟩ := by
  obtain ⟨regs, hp⟩ := Classical.choose_spec (preA_feSquareGeneric (getE H ba oa)) H bv ov ba oa hkv hka rfl (some d) (⟨cfi, cf, cregs, cparams, cblk, crest, cdest⟩ :: frs)
  rw [← xE_feSquareGeneric] at hp
  refine Eq.trans (steps_steps' hp 1) ?_
  simp only [body112, List.drop_succ_cons, List.drop_zero]
  ssa_execE [resultTys_112]

derive_rules callA_feSquareGeneric runA_feSquareGeneric stepsA_feSquareGeneric

/-- **tie** (any aliasing): `field.feSquareGeneric` on an arbitrary heap in which the argument blocks hold the limbs of the arguments
    (the blocks may coincide, in which case the arguments do). -/
theorem tie_feSquareGeneric_any (h : Heap) (bv ba : Nat) (v a : Fe) 
    (hv : h.blocks[bv]? = some (feCells v)) (ha : h.blocks[ba]? = some (feCells a)) :
    ∃ h', runCall prog 474 h (nm! "field.feSquareGeneric") [[.ptr bv 0], [.ptr ba 0]] = some (.done ⟨h', []⟩ [])
      ∧ Post1 h h' bv (feCells (EdVerif.Gen.Field.feSquareGeneric v a)) := by
  obtain ⟨regs, hp⟩ := Classical.choose_spec (preA_feSquareGeneric a) h bv 0 ba 0 (okE_of_feCells hv) (okE_of_feCells ha) (getE_of_feCells ha) none []
  rw [getE_of_feCells hv, ← xE_feSquareGeneric] at hp
  refine ⟨_, ?_, post1_setE _ (xE_feSquareGeneric a) hv rfl⟩
  rw [runCall_eq funcIdx_112 funcs_112 (mkFrame_112 _ _), run_steps' hp 1]
  simp only [body112, List.drop_succ_cons, List.drop_zero]
  ssa_execE [resultTys_112]

/-! ## `field.feSquare` -/

def body111 : List Instr := body% f111
theorem funcs_111 : prog.funcs[111]? = some f111 := rfl
theorem mkFrame_111 (args : List RVal) (dest : Option Nat) :
    mkFrame 111 f111 args dest = some ⟨111, f111, #[], args.toArray, 0, body111, dest⟩ := rfl
theorem resultTys_111 : f111.resultTys = [] := rfl
theorem funcIdx_111 : prog.funcIdx? (nm! "field.feSquare") = some 111 := by decide +kernel

/-- `field.feSquare` called from any frame on an arbitrary heap (through the call rule of `feSquareGeneric`) -/
theorem callA_feSquare (H : Heap) (bv ov ba oa : Nat)
    (hkv : OkE H bv ov) (hka : OkE H ba oa) (d : Nat) (cfi : Nat) (cf : Func) (cregs cparams : Array RVal) (cblk : Nat) (crest : List Instr) (cdest : Option Nat) (frs : List Frame) :
    steps prog 476 ⟨H, ⟨111, f111, #[], #[[.ptr bv ov], [.ptr ba oa]], 0, body111, some d⟩ :: ⟨cfi, cf, cregs, cparams, cblk, crest, cdest⟩ :: frs⟩
      = some ⟨pushB (setE bv ov (EdVerif.Gen.Field.feSquare (getE H bv ov) (getE H ba oa)) H) (xE_feSquareGeneric (getE H ba oa)),
          ⟨cfi, cf, regSet cregs d [], cparams, cblk, crest, cdest⟩ :: frs⟩ := by
  simp only [body111]
  ssa_execE [resultTys_111, funcs_112, mkFrame_112, ↓stepsA_feSquareGeneric, hkv, hka]
  rfl

derive_rules callA_feSquare runA_feSquare stepsA_feSquare

/-- **tie** (any aliasing): `field.feSquare` on an arbitrary heap in which the argument blocks hold the limbs of the arguments
    (the blocks may coincide, in which case the arguments do). -/
theorem tie_feSquare_any (h : Heap) (bv ba : Nat) (v a : Fe) 
    (hv : h.blocks[bv]? = some (feCells v)) (ha : h.blocks[ba]? = some (feCells a)) :
    ∃ h', runCall prog 476 h (nm! "field.feSquare") [[.ptr bv 0], [.ptr ba 0]] = some (.done ⟨h', []⟩ [])
      ∧ Post1 h h' bv (feCells (EdVerif.Gen.Field.feSquare v a)) := by
  have hkv := okE_of_feCells hv
  have hka := okE_of_feCells ha
  refine ⟨pushB (setE bv 0 (EdVerif.Gen.Field.feSquare v a) h) (xE_feSquareGeneric a), ?_, post1_setE _ _ hv rfl⟩
  rw [runCall_eq funcIdx_111 funcs_111 (mkFrame_111 _ _)]
  simp only [body111]
  ssa_execE [resultTys_111, funcs_112, mkFrame_112, ↓runA_feSquareGeneric, hkv, hka, getE_of_feCells hv, getE_of_feCells ha]
  rfl

/-! ## `(*field.Element).Square` -/

def body78 : List Instr := body% f78
theorem funcs_78 : prog.funcs[78]? = some f78 := rfl
theorem mkFrame_78 (args : List RVal) (dest : Option Nat) :
    mkFrame 78 f78 args dest = some ⟨78, f78, #[], args.toArray, 0, body78, dest⟩ := rfl
theorem resultTys_78 : f78.resultTys = [19] := rfl
theorem funcIdx_78 : prog.funcIdx? (nm! "(*field.Element).Square") = some 78 := by decide +kernel

/-- `(*field.Element).Square` called from any frame on an arbitrary heap (through the call rule of `feSquare`) -/
theorem callA_Square (H : Heap) (bv ov ba oa : Nat)
    (hkv : OkE H bv ov) (hka : OkE H ba oa) (d : Nat) (cfi : Nat) (cf : Func) (cregs cparams : Array RVal) (cblk : Nat) (crest : List Instr) (cdest : Option Nat) (frs : List Frame) :
    steps prog 478 ⟨H, ⟨78, f78, #[], #[[.ptr bv ov], [.ptr ba oa]], 0, body78, some d⟩ :: ⟨cfi, cf, cregs, cparams, cblk, crest, cdest⟩ :: frs⟩
      = some ⟨pushB (setE bv ov (EdVerif.Gen.Field.Square (getE H bv ov) (getE H ba oa)) H) (xE_feSquareGeneric (getE H ba oa)),
          ⟨cfi, cf, regSet cregs d [.ptr bv ov], cparams, cblk, crest, cdest⟩ :: frs⟩ := by
  simp only [body78]
  ssa_execE [resultTys_78, funcs_111, mkFrame_111, ↓stepsA_feSquare, hkv, hka]
  rfl

derive_rules callA_Square runA_Square stepsA_Square

/-- **tie** (any aliasing): `(*field.Element).Square` on an arbitrary heap in which the argument blocks hold the limbs of the arguments
    (the blocks may coincide, in which case the arguments do). -/
theorem tie_Square_any (h : Heap) (bv ba : Nat) (v a : Fe) 
    (hv : h.blocks[bv]? = some (feCells v)) (ha : h.blocks[ba]? = some (feCells a)) :
    ∃ h', runCall prog 478 h (nm! "(*field.Element).Square") [[.ptr bv 0], [.ptr ba 0]] = some (.done ⟨h', []⟩ [[.ptr bv 0]])
      ∧ Post1 h h' bv (feCells (EdVerif.Gen.Field.Square v a)) := by
  have hkv := okE_of_feCells hv
  have hka := okE_of_feCells ha
  refine ⟨pushB (setE bv 0 (EdVerif.Gen.Field.Square v a) h) (xE_feSquareGeneric a), ?_, post1_setE _ _ hv rfl⟩
  rw [runCall_eq funcIdx_78 funcs_78 (mkFrame_78 _ _)]
  simp only [body78]
  ssa_execE [resultTys_78, funcs_111, mkFrame_111, ↓runA_feSquare, hkv, hka, getE_of_feCells hv, getE_of_feCells ha]
  rfl

end EdVerif.Ssa.Tie
