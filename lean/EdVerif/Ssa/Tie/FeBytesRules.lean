import EdVerif.Ssa.Tie.FeReduceE
/-!
# Rewrite rules for the byte layer: `Index`, `i64` arithmetic on literals, `[N]byte` allocations,
`binary.LittleEndian.PutUint64`, `subtle.ConstantTimeCompare`, and the blocks of `(*field.Element).bytes` (function 82)
-/
namespace EdVerif.Ssa.Tie
open EdVerif.Ssa EdVerif.Gen.Ssa EdVerif.Prims EdVerif.Impl
set_option maxRecDepth 100000

section rules
variable (p : Program) (hp : Heap) (fi : Nat) (f : Func) (regs params : Array RVal) (blk : Nat) (rest : List Instr)
  (dest : Option Nat) (frs : List Frame) (id : Nat) (k : VK) (ln ty : Nat) (tys : List Nat)

theorem step_index (x ix : Opnd) :
    step p ⟨hp, ⟨fi, f, regs, params, blk, ⟨id, k, ln, .index x ix, ty, tys⟩ :: rest, dest⟩ :: frs⟩
      = stepIndex p hp ⟨fi, f, regs, params, blk, rest, dest⟩ frs ⟨id, k, ln, .index x ix, ty, tys⟩ x ix := rfl

end rules

/-! ## `int` (i64) arithmetic on small literals -/

theorem wrap64_lit (n : Nat) (h : n < 18446744073709551616) : wrap 64 n = n := wrap64_of_lt n h
theorem wrap64_2p64 : wrap 64 18446744073709551616 = 0 := by decide

theorem toInt64_small (a : Nat) (ha : a < 9223372036854775808) : toInt 64 a = (a : Int) := by
  have h1 : a < 2 ^ (64 - 1) := by omega
  simp [toInt, h1]

theorem ofInt64_nat (n : Nat) (h : n < 18446744073709551616) : ofInt 64 (n : Int) = n := by
  simp only [ofInt]
  have : ((n : Int) % ((2 ^ 64 : Nat) : Int)) = (n : Int) := by omega
  rw [this]; rfl

theorem ge_i64 (a b : Nat) (ha : a < 9223372036854775808) (hb : b < 9223372036854775808) :
    decide (asInt 64 true a ≥ asInt 64 true b) = decide (b ≤ a) := by
  simp only [asInt, if_true, toInt64_small a ha, toInt64_small b hb]
  simp

theorem rem_i64 (a b : Nat) (ha : a < 9223372036854775808) (hb : b < 9223372036854775808) :
    ofInt 64 (Int.tmod (toInt 64 a) (toInt 64 b)) = a % b := by
  rw [toInt64_small a ha, toInt64_small b hb]
  have e : Int.tmod (a : Int) (b : Int) = ((a % b : Nat) : Int) := by
    rw [Int.tmod_eq_emod_of_nonneg (by omega)]; simp
  rw [e]
  apply ofInt64_nat
  have : a % b ≤ a := Nat.mod_le a b
  omega

theorem quo_i64 (a b : Nat) (ha : a < 9223372036854775808) (hb : b < 9223372036854775808) :
    ofInt 64 (Int.tdiv (toInt 64 a) (toInt 64 b)) = a / b := by
  rw [toInt64_small a ha, toInt64_small b hb]
  have e : Int.tdiv (a : Int) (b : Int) = ((a / b : Nat) : Int) := by
    rw [Int.tdiv_eq_ediv_of_nonneg (by omega)]; simp
  rw [e]
  apply ofInt64_nat
  have : a / b ≤ a := Nat.div_le_self a b
  omega

theorem conv_i64_u64 (c : Nat) (hc : c < 9223372036854775808) : ofInt 64 (toInt 64 c) = c :=
  ofInt_toInt64 c (by omega)

/-! ## the types of the byte layer -/

theorem tyOf_66 : prog.tyOf 66 = .arr 5 3 := rfl
theorem tyOf_67 : prog.tyOf 67 = .ptr 66 := rfl
theorem tyOf_68 : prog.tyOf 68 = .ptr 12 := rfl
theorem tyOf_74 : prog.tyOf 74 = .arr 8 15 := rfl
theorem tyOf_75 : prog.tyOf 75 = .ptr 74 := rfl
theorem zeros_66 : prog.zeros 66 = some [.int 0, .int 0, .int 0, .int 0, .int 0] := rfl
theorem zeros_74 : prog.zeros 74 = some [.int 0, .int 0, .int 0, .int 0, .int 0, .int 0, .int 0, .int 0] := rfl

theorem cls8 (a b c d e f g h : Nat) :
    listEqClasses [.int a, .int b, .int c, .int d, .int e, .int f, .int g, .int h]
      [.int 0, .int 0, .int 0, .int 0, .int 0, .int 0, .int 0, .int 0] = true := rfl

/-- `new([32]byte)` -/
theorem stepAlloc_18 (hp : Heap) (fr : Frame) (frs : List Frame) (id : Nat) (k : VK) (ln : Nat) (op : Op) (tys : List Nat) :
    stepAlloc prog hp fr frs ⟨id, k, ln, op, 18, tys⟩
      = contReg fr frs id [.ptr (hp.alloc [.int 0, .int 0, .int 0, .int 0, .int 0, .int 0, .int 0, .int 0,
    .int 0, .int 0, .int 0, .int 0, .int 0, .int 0, .int 0, .int 0, .int 0, .int 0, .int 0, .int 0, .int 0, .int 0, .int 0, .int 0,
    .int 0, .int 0, .int 0, .int 0, .int 0, .int 0, .int 0, .int 0]).2 0]
        (hp.alloc [.int 0, .int 0, .int 0, .int 0, .int 0, .int 0, .int 0, .int 0,
    .int 0, .int 0, .int 0, .int 0, .int 0, .int 0, .int 0, .int 0, .int 0, .int 0, .int 0, .int 0, .int 0, .int 0, .int 0, .int 0,
    .int 0, .int 0, .int 0, .int 0, .int 0, .int 0, .int 0, .int 0]).1 [] :=
  stepAlloc_of tyOf_18 zeros_17 (by decide) hp fr frs id k ln op tys

/-- `new([8]byte)` -/
theorem stepAlloc_75 (hp : Heap) (fr : Frame) (frs : List Frame) (id : Nat) (k : VK) (ln : Nat) (op : Op) (tys : List Nat) :
    stepAlloc prog hp fr frs ⟨id, k, ln, op, 75, tys⟩
      = contReg fr frs id [.ptr (hp.alloc [.int 0, .int 0, .int 0, .int 0, .int 0, .int 0, .int 0, .int 0]).2 0]
        (hp.alloc [.int 0, .int 0, .int 0, .int 0, .int 0, .int 0, .int 0, .int 0]).1 [] :=
  stepAlloc_of tyOf_75 zeros_74 (by decide) hp fr frs id k ln op tys

/-- `new([5]uint64)` -/
theorem stepAlloc_67 (hp : Heap) (fr : Frame) (frs : List Frame) (id : Nat) (k : VK) (ln : Nat) (op : Op) (tys : List Nat) :
    stepAlloc prog hp fr frs ⟨id, k, ln, op, 67, tys⟩
      = contReg fr frs id [.ptr (hp.alloc [.int 0, .int 0, .int 0, .int 0, .int 0]).2 0]
        (hp.alloc [.int 0, .int 0, .int 0, .int 0, .int 0]).1 [] :=
  stepAlloc_of tyOf_67 zeros_66 (by decide) hp fr frs id k ln op tys

/-- a load of zero cells only needs the block to exist -/
theorem readE_zero (h0 : Heap) (ovr ext) (b o : Nat) (hb : b < h0.blocks.size) : (mkE h0 ovr ext).read b o 0 = some [] := by
  have hlt : b < (mkE h0 ovr ext).blocks.size := by rw [mkE_size]; omega
  simp only [Heap.read, Array.getElem?_eq_getElem hlt]
  rfl

/-! ## `binary.LittleEndian.PutUint64` -/

/-- byte `j` of `v` (the shift amount is `8 * j`) -/
def putK (fr : Frame) (frs : List Frame) (id b o : Nat) : Option Heap → Step
  | some h => contReg fr frs id [] h [ev fr K.sliceBound [.int 8], ev fr EK.addr [.ptr b o, .int 8]]
  | none => .fault "PutUint64: not bytes"

theorem extern_lePutUint64 (p : Program) (hp : Heap) (fr : Frame) (frs : List Frame) (i : Instr) (a : RVal) (b o c v : Nat) :
    stepExtern p hp fr frs i N213 [a, [.slice b o 8 c], [.int v]] = putK fr frs i.id b o (hp.write b o (natToBytes 8 v)) := by
  have h1 : (N213 == Ext.mul64) = false := by decide
  have h2 : (N213 == Ext.add64) = false := by decide
  have h3 : (N213 == Ext.sub64) = false := by decide
  have h4 : (N213 == Ext.ctByteEq) = false := by decide
  have h5 : (N213 == Ext.ctCompare) = false := by decide
  have h6 : (N213 == Ext.leUint64) = false := by decide
  have h7 : (N213 == Ext.lePutUint64) = true := by decide
  simp only [stepExtern, h1, h2, h3, h4, h5, h6, h7, if_true, Bool.false_eq_true, if_false, Nat.lt_irrefl]
  cases hp.write b o (natToBytes 8 v) <;> rfl

theorem putK_some (fr : Frame) (frs : List Frame) (id b o : Nat) (h : Heap) :
    putK fr frs id b o (some h) = contReg fr frs id [] h [ev fr K.sliceBound [.int 8], ev fr EK.addr [.ptr b o, .int 8]] := rfl

theorem natToBytes_8 (v : Nat) :
    natToBytes 8 v = [.int ((v >>> 0) % 256), .int ((v >>> 8) % 256), .int ((v >>> 16) % 256), .int ((v >>> 24) % 256),
      .int ((v >>> 32) % 256), .int ((v >>> 40) % 256), .int ((v >>> 48) % 256), .int ((v >>> 56) % 256)] := by
  simp only [natToBytes, Nat.shiftRight_eq_div_pow, Nat.div_div_eq_div_mul, Nat.reducePow, Nat.reduceMul, Nat.div_one]

/-! ## `subtle.ConstantTimeCompare` on two 32-byte slices -/

def cmpK (fr : Frame) (frs : List Frame) (hp : Heap) (id b1 o1 b2 o2 : Nat) : Option (List Val) → Option (List Val) → Step
  | some x, some y =>
    if x.all (·.cls = .data) && y.all (·.cls = .data) then
      contReg fr frs id [.int (if x = y then 1 else 0)] hp
        [ev fr K.sliceBound [.int 32, .int 32], ev fr EK.addr [.ptr b1 o1, .int 32], ev fr EK.addr [.ptr b2 o2, .int 32]]
    else .fault "ConstantTimeCompare: not bytes"
  | _, _ => .fault "ConstantTimeCompare: out of block"

theorem extern_ctCompare (p : Program) (hp : Heap) (fr : Frame) (frs : List Frame) (i : Instr) (b1 o1 c1 b2 o2 c2 : Nat) :
    stepExtern p hp fr frs i N184 [[.slice b1 o1 32 c1], [.slice b2 o2 32 c2]]
      = cmpK fr frs hp i.id b1 o1 b2 o2 (hp.read b1 o1 32) (hp.read b2 o2 32) := by
  have h1 : (N184 == Ext.mul64) = false := by decide
  have h2 : (N184 == Ext.add64) = false := by decide
  have h3 : (N184 == Ext.sub64) = false := by decide
  have h4 : (N184 == Ext.ctByteEq) = false := by decide
  have h5 : (N184 == Ext.ctCompare) = true := by decide
  simp only [stepExtern, h1, h2, h3, h4, h5, if_true, Bool.false_eq_true, if_false, ne_eq, not_true_eq_false]
  cases hp.read b1 o1 32 <;> cases hp.read b2 o2 32 <;> rfl

theorem cmpK_some (fr : Frame) (frs : List Frame) (hp : Heap) (id b1 o1 b2 o2 : Nat) (x y : List Val)
    (hx : x.all (·.cls = .data) = true) (hy : y.all (·.cls = .data) = true) :
    cmpK fr frs hp id b1 o1 b2 o2 (some x) (some y) = contReg fr frs id [.int (if x = y then 1 else 0)] hp
        [ev fr K.sliceBound [.int 32, .int 32], ev fr EK.addr [.ptr b1 o1, .int 32], ev fr EK.addr [.ptr b2 o2, .int 32]] := by
  simp [cmpK, hx, hy]

/-! ## the blocks of `(*field.Element).bytes` and `Bytes` -/

def body64 : List Instr := body% f64
theorem funcs_64 : prog.funcs[64]? = some f64 := rfl
theorem mkFrame_64 (args : List RVal) (dest : Option Nat) :
    mkFrame 64 f64 args dest = some ⟨64, f64, #[], args.toArray, 0, body64, dest⟩ := rfl
theorem resultTys_64 : f64.resultTys = [16] := rfl

def body82 : List Instr := body% f82
def blk82_1 : List Instr := List.tail (block% f82 1)
def blk82_2 : List Instr := block% f82 2
def blk82_3 : List Instr := block% f82 3
def blk82_4 : List Instr := List.tail (block% f82 4)
def blk82_5 : List Instr := block% f82 5
def blk82_6 : List Instr := block% f82 6
theorem funcs_82 : prog.funcs[82]? = some f82 := rfl
theorem mkFrame_82 (args : List RVal) (dest : Option Nat) :
    mkFrame 82 f82 args dest = some ⟨82, f82, #[], args.toArray, 0, body82, dest⟩ := rfl
theorem resultTys_82 : f82.resultTys = [16] := rfl

theorem phi_bind1 (mk : Array RVal → Frame) (regs : Array RVal) (id : Nat) (x : Option RVal) :
    (x.bind fun v => (some ([] : List (Nat × RVal))).bind fun r => some ((id, v) :: r)).bind
        (fun vals => some (mk (assignAll regs vals)))
      = x.bind (fun v => some (mk (regSet regs id v))) := by
  cases x <;> rfl

section jumps
variable (regs params : Array RVal) (rest : List Instr) (dest : Option Nat)

theorem jumpTo_82_0_1 : jumpTo prog ⟨82, f82, regs, params, 0, rest, dest⟩ 1
      = some ⟨82, f82, regSet regs 28 [.int 18446744073709551615], params, 1, blk82_1, dest⟩ := rfl
theorem jumpTo_82_4_1 : jumpTo prog ⟨82, f82, regs, params, 4, rest, dest⟩ 1
      = (regs[29]?).bind (fun v => some ⟨82, f82, regSet regs 28 v, params, 1, blk82_1, dest⟩) :=
  phi_bind1 (fun r => ⟨82, f82, r, params, 1, blk82_1, dest⟩) regs 28 regs[29]?
theorem jumpTo_82_5_1 : jumpTo prog ⟨82, f82, regs, params, 5, rest, dest⟩ 1
      = (regs[29]?).bind (fun v => some ⟨82, f82, regSet regs 28 v, params, 1, blk82_1, dest⟩) :=
  phi_bind1 (fun r => ⟨82, f82, r, params, 1, blk82_1, dest⟩) regs 28 regs[29]?
theorem jumpTo_82_1_2 : jumpTo prog ⟨82, f82, regs, params, 1, rest, dest⟩ 2
      = some ⟨82, f82, regs, params, 2, blk82_2, dest⟩ := rfl
theorem jumpTo_82_1_3 : jumpTo prog ⟨82, f82, regs, params, 1, rest, dest⟩ 3
      = some ⟨82, f82, regs, params, 3, blk82_3, dest⟩ := rfl
theorem jumpTo_82_2_4 : jumpTo prog ⟨82, f82, regs, params, 2, rest, dest⟩ 4
      = some ⟨82, f82, regSet regs 44 [.int 18446744073709551615], params, 4, blk82_4, dest⟩ := rfl
theorem jumpTo_82_6_4 : jumpTo prog ⟨82, f82, regs, params, 6, rest, dest⟩ 4
      = (regs[45]?).bind (fun v => some ⟨82, f82, regSet regs 44 v, params, 4, blk82_4, dest⟩) :=
  phi_bind1 (fun r => ⟨82, f82, r, params, 4, blk82_4, dest⟩) regs 44 regs[45]?
theorem jumpTo_82_4_5 : jumpTo prog ⟨82, f82, regs, params, 4, rest, dest⟩ 5
      = some ⟨82, f82, regs, params, 5, blk82_5, dest⟩ := rfl
theorem jumpTo_82_5_6 : jumpTo prog ⟨82, f82, regs, params, 5, rest, dest⟩ 6
      = some ⟨82, f82, regs, params, 6, blk82_6, dest⟩ := rfl

end jumps

/-- the stepper of the byte layer -/
syntax "ssa_execB" "[" Lean.Parser.Tactic.simpLemma,* "]" : tactic
macro_rules
  | `(tactic| ssa_execB [$ls,*]) => `(tactic|
  ssa_execC [step_index, stepIndex, wrap64_lit, wrap64_2p64, ge_i64, rem_i64, quo_i64, conv_i64_u64,
    tyOf_15, tyOf_17, tyOf_18, tyOf_52, tyOf_66, tyOf_67, tyOf_68, tyOf_74, tyOf_75, size_3, size_15, tyOf_16, zeros_12, cls0,
    zeros_15, zeros_66, zeros_74, zeros_17, intOfTy_15, cls8, stepAlloc_18, stepAlloc_75, stepAlloc_67, readE_zero,
    extern_lePutUint64, putK_some, natToBytes_8, extern_ctCompare,
    body64, funcs_64, mkFrame_64, resultTys_64, body82, blk82_1, blk82_2, blk82_3, blk82_4, blk82_5, blk82_6, funcs_82, mkFrame_82,
    resultTys_82, jumpTo_82_0_1, jumpTo_82_4_1, jumpTo_82_5_1, jumpTo_82_1_2, jumpTo_82_1_3, jumpTo_82_2_4, jumpTo_82_6_4,
    jumpTo_82_4_5, jumpTo_82_5_6, stepsA_reduce, feL, shl_eq, Nat.reduceMod, Nat.reduceDiv, Nat.reduceEqDiff, $ls,*])

end EdVerif.Ssa.Tie
