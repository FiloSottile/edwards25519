import EdVerif.Ssa.Tie.Exec
import EdVerif.Gen.FieldKernels
/-!
# `field.shiftRightBy51`, `field.mul64`, `field.addMul64`

For each: the entry block as a literal, the frame a call creates, a *call lemma* (the callee's frame on top of any
caller: after `k` steps the caller's register holds T1's value and the heap has grown by the callee's locals), and the
top-level `tie_*` theorem.
-/
namespace EdVerif.Ssa.Tie
open EdVerif.Ssa EdVerif.Gen.Ssa EdVerif.Prims
set_option maxRecDepth 100000

theorem U128_eta (x : U128) : (⟨x.lo, x.hi⟩ : U128) = x := rfl

/-! ## `field.shiftRightBy51` -/

def body117 : List Instr := body% f117
theorem funcs_117 : prog.funcs[117]? = some f117 := rfl
theorem mkFrame_117 (args : List RVal) (dest : Option Nat) :
    mkFrame 117 f117 args dest = some ⟨117, f117, #[], args.toArray, 0, body117, dest⟩ := rfl
theorem resultTys_117 : f117.resultTys = [3] := rfl

theorem call_shiftRightBy51 (hp : Heap) (lo hi d : Nat) (cfi : Nat) (cf : Func) (cregs cparams : Array RVal) (cblk : Nat)
    (crest : List Instr) (cdest : Option Nat) (frs : List Frame) :
    steps prog 10 ⟨hp, ⟨117, f117, #[], #[[.int lo, .int hi]], 0, body117, some d⟩ :: ⟨cfi, cf, cregs, cparams, cblk, crest, cdest⟩ :: frs⟩
      = some ⟨mkH hp [] [#[.int lo, .int hi]],
          ⟨cfi, cf, regSet cregs d [.int (EdVerif.Gen.Field.shiftRightBy51 ⟨lo, hi⟩)], cparams, cblk, crest, cdest⟩ :: frs⟩ := by
  rw [← mkH_nil hp]
  simp only [body117]
  ssa_exec [resultTys_117]
  rfl


theorem funcIdx_117 : prog.funcIdx? (nm! "field.shiftRightBy51") = some 117 := by decide +kernel

/-- **tie**: `field.shiftRightBy51` on any heap returns T1's value; the heap only grows (by the callee's copy of the argument). -/
theorem tie_shiftRightBy51 (h : Heap) (lo hi : Nat) :
    runCall prog 10 h (nm! "field.shiftRightBy51") [[.int lo, .int hi]]
      = some (.done ⟨mkH h [] [#[.int lo, .int hi]], []⟩ [[.int (EdVerif.Gen.Field.shiftRightBy51 ⟨lo, hi⟩)]]) := by
  simp only [runCall, funcIdx_117, callState, funcs_117, mkFrame_117, Option.bind_some, Option.map_some, Option.pure_def,
    Option.bind_eq_bind, body117]
  rw [← mkH_nil h]
  ssa_exec [resultTys_117]
  rfl

/-! ## `field.mul64` -/

def body116 : List Instr := body% f116
theorem funcs_116 : prog.funcs[116]? = some f116 := rfl
theorem mkFrame_116 (args : List RVal) (dest : Option Nat) :
    mkFrame 116 f116 args dest = some ⟨116, f116, #[], args.toArray, 0, body116, dest⟩ := rfl
theorem resultTys_116 : f116.resultTys = [73] := rfl
theorem funcIdx_116 : prog.funcIdx? (nm! "field.mul64") = some 116 := by decide +kernel

theorem call_mul64 (hp : Heap) (a b d : Nat) (cfi : Nat) (cf : Func) (cregs cparams : Array RVal) (cblk : Nat)
    (crest : List Instr) (cdest : Option Nat) (frs : List Frame) :
    steps prog 10 ⟨hp, ⟨116, f116, #[], #[[.int a], [.int b]], 0, body116, some d⟩ :: ⟨cfi, cf, cregs, cparams, cblk, crest, cdest⟩ :: frs⟩
      = some ⟨mkH hp [] [#[.int (EdVerif.Gen.Field.mul64 a b).lo, .int (EdVerif.Gen.Field.mul64 a b).hi]],
          ⟨cfi, cf, regSet cregs d [.int (EdVerif.Gen.Field.mul64 a b).lo, .int (EdVerif.Gen.Field.mul64 a b).hi], cparams, cblk, crest, cdest⟩ :: frs⟩ := by
  rw [← mkH_nil hp]
  simp only [body116]
  ssa_exec [resultTys_116]
  rfl

/-- **tie**: `field.mul64` -/
theorem tie_mul64 (h : Heap) (a b : Nat) :
    runCall prog 10 h (nm! "field.mul64") [[.int a], [.int b]]
      = some (.done ⟨mkH h [] [#[.int (EdVerif.Gen.Field.mul64 a b).lo, .int (EdVerif.Gen.Field.mul64 a b).hi]], []⟩
          [[.int (EdVerif.Gen.Field.mul64 a b).lo, .int (EdVerif.Gen.Field.mul64 a b).hi]]) := by
  simp only [runCall, funcIdx_116, callState, funcs_116, mkFrame_116, Option.bind_some, Option.map_some, Option.pure_def,
    Option.bind_eq_bind, body116]
  rw [← mkH_nil h]
  ssa_exec [resultTys_116]
  rfl

/-! ## `field.addMul64` -/

def body108 : List Instr := body% f108
theorem funcs_108 : prog.funcs[108]? = some f108 := rfl
theorem mkFrame_108 (args : List RVal) (dest : Option Nat) :
    mkFrame 108 f108 args dest = some ⟨108, f108, #[], args.toArray, 0, body108, dest⟩ := rfl
theorem resultTys_108 : f108.resultTys = [73] := rfl
theorem funcIdx_108 : prog.funcIdx? (nm! "field.addMul64") = some 108 := by decide +kernel

theorem call_addMul64 (hp : Heap) (lo hi a b d : Nat) (cfi : Nat) (cf : Func) (cregs cparams : Array RVal) (cblk : Nat)
    (crest : List Instr) (cdest : Option Nat) (frs : List Frame) :
    steps prog 22 ⟨hp, ⟨108, f108, #[], #[[.int lo, .int hi], [.int a], [.int b]], 0, body108, some d⟩ :: ⟨cfi, cf, cregs, cparams, cblk, crest, cdest⟩ :: frs⟩
      = some ⟨mkH hp [] [#[.int lo, .int hi],
                         #[.int (EdVerif.Gen.Field.addMul64 ⟨lo, hi⟩ a b).lo, .int (EdVerif.Gen.Field.addMul64 ⟨lo, hi⟩ a b).hi]],
          ⟨cfi, cf, regSet cregs d [.int (EdVerif.Gen.Field.addMul64 ⟨lo, hi⟩ a b).lo, .int (EdVerif.Gen.Field.addMul64 ⟨lo, hi⟩ a b).hi],
            cparams, cblk, crest, cdest⟩ :: frs⟩ := by
  rw [← mkH_nil hp]
  simp only [body108]
  ssa_exec [resultTys_108]
  rfl

/-- **tie**: `field.addMul64` -/
theorem tie_addMul64 (h : Heap) (lo hi a b : Nat) :
    runCall prog 22 h (nm! "field.addMul64") [[.int lo, .int hi], [.int a], [.int b]]
      = some (.done ⟨mkH h [] [#[.int lo, .int hi],
                         #[.int (EdVerif.Gen.Field.addMul64 ⟨lo, hi⟩ a b).lo, .int (EdVerif.Gen.Field.addMul64 ⟨lo, hi⟩ a b).hi]], []⟩
          [[.int (EdVerif.Gen.Field.addMul64 ⟨lo, hi⟩ a b).lo, .int (EdVerif.Gen.Field.addMul64 ⟨lo, hi⟩ a b).hi]]) := by
  simp only [runCall, funcIdx_108, callState, funcs_108, mkFrame_108, Option.bind_some, Option.map_some, Option.pure_def,
    Option.bind_eq_bind, body108]
  rw [← mkH_nil h]
  ssa_exec [resultTys_108]
  rfl


/-! ## the call lemmas as rewrite rules (`n` further steps after the call returned) -/
derive_rules call_shiftRightBy51 run_shiftRightBy51 steps_shiftRightBy51
derive_rules call_mul64 run_mul64 steps_mul64
derive_rules call_addMul64 run_addMul64 steps_addMul64

end EdVerif.Ssa.Tie
