import EdVerif.Ssa.Tie.Slot
/-!
# `(*field.Element).Subtract`
-/
namespace EdVerif.Ssa.Tie
open EdVerif.Ssa EdVerif.Gen.Ssa EdVerif.Prims
set_option maxRecDepth 100000

def body79 : List Instr := body% f79
theorem funcs_79 : prog.funcs[79]? = some f79 := rfl
theorem mkFrame_79 (args : List RVal) (dest : Option Nat) :
    mkFrame 79 f79 args dest = some ⟨79, f79, #[], args.toArray, 0, body79, dest⟩ := rfl
theorem resultTys_79 : f79.resultTys = [19] := rfl
theorem funcIdx_79 : prog.funcIdx? (nm! "(*field.Element).Subtract") = some 79 := by decide +kernel

/-- Every instruction of `(*field.Element).Subtract` but the final `Return`, whatever lies below its frame, on any heap: the operands are element slots
    `(block, offset)`, any of which may be the receiver's slot.  Limb `k` of `v` is stored after limb `k` of `a` and `b` has been loaded, so one run covers every aliasing. -/
theorem preA_Subtract (H : Heap) (bv ov ba oa bb ob : Nat)
    (hkv : OkE H bv ov) (hka : OkE H ba oa) (hkb : OkE H bb ob) (hc_va : Compat bv ov ba oa) (hc_vb : Compat bv ov bb ob) (dest : Option Nat) (frs : List Frame) :
    ∃ regs, steps prog 90 ⟨H, ⟨79, f79, #[], #[[.ptr bv ov], [.ptr ba oa], [.ptr bb ob]], 0, body79, dest⟩ :: frs⟩
      = some ⟨setE bv ov (EdVerif.Gen.Field.Subtract (getE H bv ov) (getE H ba oa) (getE H bb ob)) H,
          ⟨79, f79, regs, #[[.ptr bv ov], [.ptr ba oa], [.ptr bb ob]], 0, List.drop 41 body79, dest⟩ :: frs⟩
      ∧ regs[40]? = some [.ptr bv ov] := by
  refine ⟨?regs, ?run, ?reg⟩
  case run =>
    apply steps_of_baseE
    simp only [body79]
    ssa_execS [resultTys_79, funcs_83, mkFrame_83, ↓stepsE_carryPropagate, hkv, hka, hkb, hc_va, hc_vb, hkv.1]
    refine state_eq ((mkE_setE H bv ov _ []).trans (pushB_nil _)) ?_
    rfl
  case reg => rfl

/-- `(*field.Element).Subtract` called from any frame on an arbitrary heap: the slots hold elements, the receiver's slot and an operand's are the same or disjoint -/
theorem callA_Subtract (H : Heap) (bv ov ba oa bb ob : Nat)
    (hkv : OkE H bv ov) (hka : OkE H ba oa) (hkb : OkE H bb ob) (hc_va : Compat bv ov ba oa) (hc_vb : Compat bv ov bb ob) (d : Nat) (cfi : Nat) (cf : Func) (cregs cparams : Array RVal) (cblk : Nat) (crest : List Instr) (cdest : Option Nat) (frs : List Frame) :
    steps prog 91 ⟨H, ⟨79, f79, #[], #[[.ptr bv ov], [.ptr ba oa], [.ptr bb ob]], 0, body79, some d⟩ :: ⟨cfi, cf, cregs, cparams, cblk, crest, cdest⟩ :: frs⟩
      = some ⟨setE bv ov (EdVerif.Gen.Field.Subtract (getE H bv ov) (getE H ba oa) (getE H bb ob)) H,
          ⟨cfi, cf, regSet cregs d [.ptr bv ov], cparams, cblk, crest, cdest⟩ :: frs⟩ := by
  obtain ⟨regs, hp, hr⟩ := preA_Subtract H bv ov ba oa bb ob hkv hka hkb hc_va hc_vb (some d) (⟨cfi, cf, cregs, cparams, cblk, crest, cdest⟩ :: frs)
  refine Eq.trans (steps_steps' hp 1) ?_
  simp only [body79, List.drop_succ_cons, List.drop_zero]
  ssa_execE [resultTys_79, hr]

derive_rules callA_Subtract runA_Subtract stepsA_Subtract

/-- **tie** (any aliasing): `(*field.Element).Subtract` on an arbitrary heap in which the argument blocks hold the limbs of the arguments
    (the blocks may coincide, in which case the arguments do). -/
theorem tie_Subtract_any (h : Heap) (bv ba bb : Nat) (v a b : Fe) 
    (hv : h.blocks[bv]? = some (feCells v)) (ha : h.blocks[ba]? = some (feCells a)) (hb : h.blocks[bb]? = some (feCells b)) :
    ∃ h', runCall prog 91 h (nm! "(*field.Element).Subtract") [[.ptr bv 0], [.ptr ba 0], [.ptr bb 0]] = some (.done ⟨h', []⟩ [[.ptr bv 0]])
      ∧ Post1 h h' bv (feCells (EdVerif.Gen.Field.Subtract v a b)) := by
  obtain ⟨regs, hp, hr⟩ := preA_Subtract h bv 0 ba 0 bb 0 (okE_of_feCells hv) (okE_of_feCells ha) (okE_of_feCells hb) (compat_zero bv ba) (compat_zero bv bb) none []
  rw [getE_of_feCells hv, getE_of_feCells ha, getE_of_feCells hb] at hp
  refine ⟨_, ?_, (pushB_nil _) ▸ post1_setE _ [] hv rfl⟩
  rw [runCall_eq funcIdx_79 funcs_79 (mkFrame_79 _ _), run_steps' hp 1]
  simp only [body79, List.drop_succ_cons, List.drop_zero]
  ssa_execE [resultTys_79, hr]

end EdVerif.Ssa.Tie
