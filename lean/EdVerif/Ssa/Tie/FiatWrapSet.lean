import EdVerif.Ssa.Tie.FiatSmall
/-!
# `(*Scalar).Set` (`*s = *x`)
-/
namespace EdVerif.Ssa.Tie
open EdVerif.Ssa EdVerif.Gen.Ssa EdVerif.Prims EdVerif.Gen.Fiat
set_option maxRecDepth 100000

def body28 : List Instr := body% f28
theorem funcs_28 : prog.funcs[28]? = some f28 := rfl
theorem mkFrame_28 (args : List RVal) (dest : Option Nat) :
    mkFrame 28 f28 args dest = some ⟨28, f28, #[], args.toArray, 0, body28, dest⟩ := rfl
theorem resultTys_28 : f28.resultTys = [29] := rfl
theorem funcIdx_28 : prog.funcIdx? (nm! "(*Scalar).Set") = some 28 := by decide +kernel

/-- **tie** (any aliasing): `(*Scalar).Set` on an arbitrary heap in which the argument blocks hold the words of the arguments
    (the blocks may coincide, in which case the arguments do). -/
theorem tie_Scalar_Set (h : Heap) (bs bp : Nat) (s p : W4) 
    (hs : h.blocks[bs]? = some (w4Cells s)) (hp : h.blocks[bp]? = some (w4Cells p)) :
    ∃ h', runCall prog 3 h (nm! "(*Scalar).Set") [[.ptr bs 0], [.ptr bp 0]] = some (.done ⟨h', []⟩ [[.ptr bs 0]])
      ∧ Post1 h h' bs (w4Cells (EdVerif.Gen.Fiat.Set s p)) := by
  obtain ⟨s0, s1, s2, s3⟩ := s
  obtain ⟨p0, p1, p2, p3⟩ := p
  have hbs := lt_of_get hs
  have hbp := lt_of_get hp
  simp only [w4Cells] at hs hp
  refine ⟨_, ?_, post1_base _ [] hbs⟩
  rw [runCall_eq funcIdx_28 funcs_28 (mkFrame_28 _ _)]
  simp only [body28]
  conv => lhs; rw [← mkH_nil h]
  fiat_exec [resultTys_28, cls4, read_base, write_base, hs, hp, hbs, hbp]
  rfl

end EdVerif.Ssa.Tie
