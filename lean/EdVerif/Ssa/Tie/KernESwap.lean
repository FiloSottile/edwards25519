import EdVerif.Ssa.Tie.AbsE
import EdVerif.Ssa.Tie.Select
/-!
# `(*field.Element).Swap` on two disjoint element slots, and its abstract call lemma
-/
namespace EdVerif.Ssa.Tie
open EdVerif.Ssa EdVerif.Gen.Ssa EdVerif.Prims
set_option maxRecDepth 100000

theorem callE_Swap_d (h0 : Heap) (ovr ext) (bv ov bu ou : Nat) (v0 v1 v2 v3 v4 u0 u1 u2 u3 u4 c : Nat) (hc : c < 2 ^ 64)
    (hfv : Fits h0 bv ov 5) (hfu : Fits h0 bu ou 5) (hs_vu : SepE bv ov bu ou)
    (d : Nat) (cfi : Nat) (cf : Func) (cregs cparams : Array RVal) (cblk : Nat) (crest : List Instr) (cdest : Option Nat) (frs : List Frame) :
    steps prog 86 ⟨mkE h0 ((bv, ov, [.int v0, .int v1, .int v2, .int v3, .int v4]) :: (bu, ou, [.int u0, .int u1, .int u2, .int u3, .int u4]) :: ovr) ext,
        ⟨80, f80, #[], #[[.ptr bv ov], [.ptr bu ou], [.int c]], 0, body80, some d⟩ :: ⟨cfi, cf, cregs, cparams, cblk, crest, cdest⟩ :: frs⟩
      = some ⟨mkE h0 ((bv, ov, feL (SwapT v0 v1 v2 v3 v4 u0 u1 u2 u3 u4 c).1) :: (bu, ou, feL (SwapT v0 v1 v2 v3 v4 u0 u1 u2 u3 u4 c).2) :: ovr) ext,
          ⟨cfi, cf, regSet cregs d [], cparams, cblk, crest, cdest⟩ :: frs⟩ := by
  simp only [body80]
  ssa_execE [resultTys_80, funcs_114, mkFrame_114, ↓steps_mask64Bits, and_eq, xor_eq,
    writeE_hit1_0, writeE_hit1_1, writeE_hit1_2, writeE_hit1_3, writeE_hit1_4, hfv, hfu, hc, hs_vu, hs_vu.symm]
  simp only [feL, SwapT, EdVerif.Gen.Field.Swap]

/-- `v.Swap(u, cond)` called from any frame on an arbitrary heap, `v` and `u` disjoint element slots -/
theorem callA_Swap (H : Heap) (bv ov bu ou c : Nat) (hc : c < 2 ^ 64) (hkv : OkE H bv ov) (hku : OkE H bu ou) (hs_vu : SepE bv ov bu ou)
    (d : Nat) (cfi : Nat) (cf : Func) (cregs cparams : Array RVal) (cblk : Nat) (crest : List Instr) (cdest : Option Nat) (frs : List Frame) :
    steps prog 86 ⟨H, ⟨80, f80, #[], #[[.ptr bv ov], [.ptr bu ou], [.int c]], 0, body80, some d⟩ :: ⟨cfi, cf, cregs, cparams, cblk, crest, cdest⟩ :: frs⟩
      = some ⟨setE bv ov (EdVerif.Gen.Field.Swap (getE H bv ov) (getE H bu ou) c).1
                (setE bu ou (EdVerif.Gen.Field.Swap (getE H bv ov) (getE H bu ou) c).2 H),
          ⟨cfi, cf, regSet cregs d [], cparams, cblk, crest, cdest⟩ :: frs⟩ := by
  have key := callE_Swap_d H [] [] bv ov bu ou (getE H bv ov).l0 (getE H bv ov).l1 (getE H bv ov).l2 (getE H bv ov).l3 (getE H bv ov).l4
    (getE H bu ou).l0 (getE H bu ou).l1 (getE H bu ou).l2 (getE H bu ou).l3 (getE H bu ou).l4 c hc hkv.1 hku.1 hs_vu d cfi cf cregs cparams cblk crest cdest frs
  rw [show mkE H [(bv, ov, [.int (getE H bv ov).l0, .int (getE H bv ov).l1, .int (getE H bv ov).l2, .int (getE H bv ov).l3, .int (getE H bv ov).l4]),
        (bu, ou, [.int (getE H bu ou).l0, .int (getE H bu ou).l1, .int (getE H bu ou).l2, .int (getE H bu ou).l3, .int (getE H bu ou).l4])] [] = H
      from mkE_restates H _ (restates_cons hkv (restates_cons hku (restates_nil H)))] at key
  rw [key]
  refine congrArg (fun hp => some (⟨hp, _⟩ : State)) ?_
  rw [mkE_eq]
  simp only [baseE, pushB_nil]
  rfl

derive_rules callA_Swap runA_Swap stepsA_Swap

end EdVerif.Ssa.Tie
