import EdVerif.Ssa.Tie.PtGlob
import EdVerif.Ssa.Tie.KernESwap
import EdVerif.Gen.Formulas
/-!
# GENERATED by gen_pt.py — `(*projP1xP1).Sub`: SSA execution = T5's `Formulas.projP1xP1_Sub`
-/
namespace EdVerif.Ssa.Tie
open EdVerif.Ssa EdVerif.Gen.Ssa EdVerif.Prims EdVerif.Impl EdVerif.Gen
set_option maxRecDepth 100000
set_option linter.unusedVariables false

def body57 : List Instr := body% f57
theorem funcs_57 : prog.funcs[57]? = some f57 := rfl
theorem mkFrame_57 (args : List RVal) (dest : Option Nat) :
    mkFrame 57 f57 args dest = some ⟨57, f57, #[], args.toArray, 0, body57, dest⟩ := rfl
theorem resultTys_57 : f57.resultTys = [14] := rfl
theorem funcIdx_57 : prog.funcIdx? (nm! "(*projP1xP1).Sub") = some 57 := by decide +kernel

/-- every instruction of `(*projP1xP1).Sub` but the final `Return`, whatever lies below its frame, on the canonical heap of its parameters;
    the blocks allocated (locals and temporaries of the callees) depend on the values only -/
theorem preE_projP1xP1_Sub (v : P1xP1) (p : P3) (q : Cached)  : ∃ E : List (Array Val), ∀ (H : Heap) (bv bp bq : Nat) (hfv : Fits H bv 0 20) (hfp : Fits H bp 0 20) (hfq : Fits H bq 0 20) (hne_vp : bv ≠ bp) (hne_vq : bv ≠ bq) (hne_pq : bp ≠ bq)  (dest : Option Nat) (frs : List Frame), ∃ regs,
    steps prog 3580 ⟨mkE H (entsP1 bv v ++ entsP3 bp p ++ entsC bq q) [],
        ⟨57, f57, #[], #[[.ptr bv 0], [.ptr bp 0], [.ptr bq 0]], 0, body57, dest⟩ :: frs⟩
      = some ⟨mkE H (entsP1 bv (Formulas.projP1xP1_Sub v p q) ++ entsP3 bp p ++ entsC bq q) E,
          ⟨57, f57, regs, #[[.ptr bv 0], [.ptr bp 0], [.ptr bq 0]], 0, [⟨31, .none, 310, .ret [(.param 0)], 0, [14]⟩], dest⟩ :: frs⟩ := by
  apply Exists.intro
  intro H bv bp bq hfv hfp hfq hne_vp hne_vq hne_pq  dest frs
  apply Exists.intro
  have hbv := hfv.1
  have hfv0 := fits_sub 0 hfv (by decide)
  have hfv1 := fits_sub 5 hfv (by decide)
  have hfv2 := fits_sub 10 hfv (by decide)
  have hfv3 := fits_sub 15 hfv (by decide)
  have hbp := hfp.1
  have hfp0 := fits_sub 0 hfp (by decide)
  have hfp1 := fits_sub 5 hfp (by decide)
  have hfp2 := fits_sub 10 hfp (by decide)
  have hfp3 := fits_sub 15 hfp (by decide)
  have hbq := hfq.1
  have hfq0 := fits_sub 0 hfq (by decide)
  have hfq1 := fits_sub 5 hfq (by decide)
  have hfq2 := fits_sub 10 hfq (by decide)
  have hfq3 := fits_sub 15 hfq (by decide)
  simp only [body57]
  ssa_execP [resultTys_57, ↓stepsA_Multiply, ↓stepsA_Add, ↓stepsA_Subtract, hbv, hfv0, hfv1, hfv2, hfv3, hbp, hfp0, hfp1, hfp2, hfp3, hbq, hfq0, hfq1, hfq2, hfq3, hne_vp, hne_vp.symm, hne_vq, hne_vq.symm, hne_pq, hne_pq.symm, Multiply_rz, Square_rz, Add_rz, Subtract_rz, Select_rz, Set_rz]
  rfl

/-- the blocks `(*projP1xP1).Sub` allocates -/
noncomputable def ext_projP1xP1_Sub (v : P1xP1) (p : P3) (q : Cached) : List (Array Val) :=
  open Classical in if h : True then Classical.choose (preE_projP1xP1_Sub v p q  ) else []

/-- `(*projP1xP1).Sub` called from any frame on an arbitrary heap in which the parameters are structures of elements in distinct blocks -/
theorem callA_projP1xP1_Sub (H : Heap) (bv bp bq : Nat)  (hkv : Ok4 H bv) (hkp : Ok4 H bp) (hkq : Ok4 H bq) (hne_vp : bv ≠ bp) (hne_vq : bv ≠ bq) (hne_pq : bp ≠ bq)  (d : Nat) (cfi : Nat) (cf : Func) (cregs cparams : Array RVal) (cblk : Nat) (crest : List Instr) (cdest : Option Nat) (frs : List Frame) :
    steps prog 3581 ⟨H, ⟨57, f57, #[], #[[.ptr bv 0], [.ptr bp 0], [.ptr bq 0]], 0, body57, some d⟩ :: ⟨cfi, cf, cregs, cparams, cblk, crest, cdest⟩ :: frs⟩
      = some ⟨pushB (set4 bv (Formulas.projP1xP1_Sub (getP1 H bv) (getP3 H bp) (getC H bq)).X (Formulas.projP1xP1_Sub (getP1 H bv) (getP3 H bp) (getC H bq)).Y (Formulas.projP1xP1_Sub (getP1 H bv) (getP3 H bp) (getC H bq)).Z (Formulas.projP1xP1_Sub (getP1 H bv) (getP3 H bp) (getC H bq)).T H) (ext_projP1xP1_Sub (getP1 H bv) (getP3 H bp) (getC H bq) ),
          ⟨cfi, cf, regSet cregs d [.ptr bv 0], cparams, cblk, crest, cdest⟩ :: frs⟩ := by
  have hsc : True := trivial
  obtain ⟨regs, hp⟩ := Classical.choose_spec (preE_projP1xP1_Sub (getP1 H bv) (getP3 H bp) (getC H bq)  ) H bv bp bq  (fits_ok4 hkv) (fits_ok4 hkp) (fits_ok4 hkq) hne_vp hne_vq hne_pq  (some d) (⟨cfi, cf, cregs, cparams, cblk, crest, cdest⟩ :: frs)
  rw [show mkE H (entsP1 bv (getP1 H bv) ++ entsP3 bp (getP3 H bp) ++ entsC bq (getC H bq)) [] = H from mkE_restates H _ (restatesO4 hkv (restatesO4 hkp (restatesO4 hkq (restates_nil H))))] at hp
  rw [ext_projP1xP1_Sub, dif_pos hsc]
  refine (steps_steps' hp 1).trans ?_
  ssa_execP [resultTys_57]
  refine congrArg (fun hp => some (⟨hp, _⟩ : State)) ?_
  exact mkE_head4 H bv _ _ _ _ _ _ (restatesO4 hkp (restatesO4 hkq (restates_nil H)))

derive_rules callA_projP1xP1_Sub runA_projP1xP1_Sub stepsA_projP1xP1_Sub

/-- **tie**: `(*projP1xP1).Sub` on any heap in which the (pairwise distinct) parameter blocks hold the cells of the model values: the run
    terminates and returns the receiver; the receiver's block then holds the cells of T5's `Formulas.projP1xP1_Sub`; every other block of the
    heap is unchanged (the heap grows by the locals of the run). -/
theorem tie_projP1xP1_Sub (h : Heap) (bv bp bq : Nat) (v : P1xP1) (p : P3) (q : Cached)  (hcv : h.blocks[bv]? = some (cellsP1 v)) (hcp : h.blocks[bp]? = some (cellsP3 p)) (hcq : h.blocks[bq]? = some (cellsC q)) (hne_vp : bv ≠ bp) (hne_vq : bv ≠ bq) (hne_pq : bp ≠ bq)  :
    ∃ h', runCall prog 3581 h (nm! "(*projP1xP1).Sub") [[.ptr bv 0], [.ptr bp 0], [.ptr bq 0]] = some (.done ⟨h', []⟩ [[.ptr bv 0]])
      ∧ Post1 h h' bv (cellsP1 (Formulas.projP1xP1_Sub v p q)) := by
  obtain ⟨E, pre⟩ := preE_projP1xP1_Sub v p q  
  obtain ⟨regs, hp⟩ := pre h bv bp bq (fits_of_get hcv 20 (Nat.le_refl _)) (fits_of_get hcp 20 (Nat.le_refl _)) (fits_of_get hcq 20 (Nat.le_refl _)) hne_vp hne_vq hne_pq  none []
  rw [show mkE h (entsP1 bv v ++ entsP3 bp p ++ entsC bq q) [] = h from mkE_restates h _ (restates4 hcv (restates4 hcp (restates4 hcq (restates_nil h))))] at hp
  refine ⟨_, ?_, post1_mkE4 _ _ _ _ _ E hcv (cells4_size _ _ _ _) (restates4 hcp (restates4 hcq (restates_nil h)))⟩
  simp only [runCall, funcIdx_57, callState, funcs_57, mkFrame_57, Option.bind_some, Option.map_some, Option.pure_def,
    Option.bind_eq_bind]
  rw [run_steps' hp 1]
  ssa_execP [resultTys_57]

end EdVerif.Ssa.Tie
