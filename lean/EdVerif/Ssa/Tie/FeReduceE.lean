import EdVerif.Ssa.Tie.PtCk
import EdVerif.Ssa.Tie.Reduce
/-!
# `(*field.Element).reduce` on an element slot `(block, offset)` of an arbitrary heap (abstract call lemma)
-/
namespace EdVerif.Ssa.Tie
open EdVerif.Ssa EdVerif.Gen.Ssa EdVerif.Prims EdVerif.Impl
set_option maxRecDepth 100000

theorem callE_reduce (h0 : Heap) (ovr ext) (bv ov : Nat) (v0 v1 v2 v3 v4 : Nat) (hfv : Fits h0 bv ov 5) (d : Nat)
    (cfi : Nat) (cf : Func) (cregs cparams : Array RVal) (cblk : Nat) (crest : List Instr) (cdest : Option Nat) (frs : List Frame) :
    steps prog 134 ⟨mkE h0 ((bv, ov, [.int v0, .int v1, .int v2, .int v3, .int v4]) :: ovr) ext,
        ⟨85, f85, #[], #[[.ptr bv ov]], 0, body85, some d⟩ :: ⟨cfi, cf, cregs, cparams, cblk, crest, cdest⟩ :: frs⟩
      = some ⟨mkE h0 ((bv, ov, feL (redT v0 v1 v2 v3 v4)) :: ovr) ext,
          ⟨cfi, cf, regSet cregs d [.ptr bv ov], cparams, cblk, crest, cdest⟩ :: frs⟩ := by
  simp only [body85]
  ssa_execE [resultTys_85, funcs_83, mkFrame_83, ↓stepsE_carryPropagate, hfv]
  rfl

/-- `(*field.Element).reduce` called from any frame on an arbitrary heap: the slot holds an element -/
theorem callA_reduce (H : Heap) (bv ov : Nat) (hkv : OkE H bv ov) (d : Nat)
    (cfi : Nat) (cf : Func) (cregs cparams : Array RVal) (cblk : Nat) (crest : List Instr) (cdest : Option Nat) (frs : List Frame) :
    steps prog 134 ⟨H, ⟨85, f85, #[], #[[.ptr bv ov]], 0, body85, some d⟩ :: ⟨cfi, cf, cregs, cparams, cblk, crest, cdest⟩ :: frs⟩
      = some ⟨setE bv ov (EdVerif.Gen.Field.reduce (getE H bv ov)) H,
          ⟨cfi, cf, regSet cregs d [.ptr bv ov], cparams, cblk, crest, cdest⟩ :: frs⟩ := by
  have key := callE_reduce H [] [] bv ov (getE H bv ov).l0 (getE H bv ov).l1 (getE H bv ov).l2 (getE H bv ov).l3 (getE H bv ov).l4
    hkv.1 d cfi cf cregs cparams cblk crest cdest frs
  rw [show mkE H [(bv, ov, [.int (getE H bv ov).l0, .int (getE H bv ov).l1, .int (getE H bv ov).l2, .int (getE H bv ov).l3,
      .int (getE H bv ov).l4])] [] = H from mkE_restates H _ (restates_cons hkv (restates_nil H))] at key
  rw [key]
  refine congrArg (fun hp => some (⟨hp, _⟩ : State)) ?_
  refine (mkE_head_intro H _ _ _ _ _ (restates_nil H)).trans ?_
  rw [pushB_nil]
  rfl

derive_rules callA_reduce runA_reduce stepsA_reduce

end EdVerif.Ssa.Tie
