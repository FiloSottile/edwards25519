import EdVerif.Ssa.Tie.Small
import EdVerif.Ssa.Tie.Carry
import EdVerif.Ssa.Tie.Add
import EdVerif.Ssa.Tie.Sub
import EdVerif.Ssa.Tie.Select
import EdVerif.Ssa.Tie.Misc
import EdVerif.Ssa.Tie.Mul
import EdVerif.Ssa.Tie.Sq
import EdVerif.Ssa.Tie.Reduce
import EdVerif.Ssa.Tie.Negate
import EdVerif.Ssa.Tie.Bytes
import EdVerif.Ssa.Tie.Wide
import EdVerif.Ssa.Tie.Init
/-!
# `tie_*`: running the SSA of a field kernel in the semantics of `Sem.lean` computes the T1 definition

`runCall p fuel h name args` = look the function `name` up in `p` (`Program.funcIdx?`), build `callState p h fi args`, `run p fuel`.
`feCells v = #[.int v.l0, …, .int v.l4]` (an `Element` is five `u64` scalars), `mkH h [] ext` = the blocks of `h` followed by `ext`.
`Post1 h h' b V'`: `h'` has not shrunk, block `b` of `h'` is `V'`, every other block of `h` is unchanged in `h'`
(`Post2`: the same with two replaced blocks).  All statements hold for ALL limb values (arbitrary `Nat`s; no `< 2^64` needed
except for the scalar arguments that the Go code converts between integer types: `cond` of `Select`/`Swap`/`mask64Bits`, `y` of
`Mult32`/`mul51`).

## value kernels (arbitrary heap `h`)
* `tie_shiftRightBy51 : runCall prog 10 h (nm! "field.shiftRightBy51") [[.int lo, .int hi]]
     = some (.done ⟨mkH h [] [#[.int lo, .int hi]], []⟩ [[.int (Field.shiftRightBy51 ⟨lo, hi⟩)]])`
* `tie_mul64`, `tie_addMul64`, `tie_mask64Bits` (`c < 2^64`), `tie_mul51` (`y < 2^64`): same shape.

## pointer kernels
For an arbitrary heap `h` whose blocks `bv`, `ba`, `bb` hold the limbs of `v`, `a`, `b` (`h.blocks[bv]? = some (feCells v)` …):
* `tie_K_any` — NO distinctness hypothesis: the blocks may coincide, in which case the arguments do — of the form
  `∃ h', runCall prog k h (nm! "(*field.Element).K") [[.ptr bv 0], [.ptr ba 0], [.ptr bb 0]] = some (.done ⟨h', []⟩ rets)
         ∧ Post1 h h' bv (feCells (Field.K v a b))`
  for `K` = `Add` (84 steps), `Subtract` (91), `Select` (56, `+ [.int c]`, `c < 2^64`), `Set` (3), `Mult32` (87, `y < 2^64`),
  `feMulGeneric` (731), `feSquareGeneric` (474), `feMul` (733), `Multiply` (735), `feSquare` (476), `Square` (478).
  Each kernel is stepped through once, on an arbitrary heap with the operands in element slots `(block, offset)` that may be the
  receiver's slot (`preA_K`, `Slot.lean`): every kernel stores limb `k` of the receiver only after loading limb `k` of its operands.
  The block-level theorems here are the offset-0 instances; the call rules of the point layer (`callA_K`) come from the same run;
* `tie_carryPropagateGeneric` (47), `tie_carryPropagate` (49), `tie_reduce` (134): one block;
* `tie_Swap` (86; two distinct blocks, `Post2`), `tie_Zero`, `tie_One` (4; hypothesis: the package variable `feZero`/`feOne`, heap block
  13/12, points to a block holding T1's constant), `tie_Negate` (94; `bv = ba` allowed, the block of `feZero` distinct from both);
* `tie_SetBytes` (60; the slice is a whole 32-cell block, `[.slice bx 0 32 32]`; result `[[.ptr bv 0], [.nil]]`),
  `tie_SetWideBytes` (243; `[.slice bx 0 64 64]`, bytes `x 0 … x 63`, T1 argument `bytes64 x`); both need block 16
  (`binary.LittleEndian`) to exist;
* `tie_field_init`: `field.init` on `initHeap prog` terminates and establishes `InitGood` (the hypotheses of `tie_Zero/One/Negate`).

With these every function of `EdVerif/Gen/FieldKernels.lean` (T1) is tied.
-/

namespace EdVerif.Ssa.Tie
open EdVerif.Ssa EdVerif.Gen.Ssa EdVerif.Prims

#print axioms tie_shiftRightBy51
#print axioms tie_mul64
#print axioms tie_addMul64
#print axioms tie_mask64Bits
#print axioms tie_mul51
#print axioms tie_carryPropagateGeneric
#print axioms tie_carryPropagate
#print axioms tie_reduce
#print axioms tie_Add_any
#print axioms tie_Subtract_any
#print axioms tie_Select_any
#print axioms tie_Swap
#print axioms tie_Set_any
#print axioms tie_Zero
#print axioms tie_One
#print axioms tie_Negate
#print axioms tie_Mult32_any
#print axioms tie_feMulGeneric_any
#print axioms tie_feSquareGeneric_any
#print axioms tie_feMul_any
#print axioms tie_Multiply_any
#print axioms tie_feSquare_any
#print axioms tie_Square_any
#print axioms tie_SetBytes
#print axioms tie_SetWideBytes
#print axioms tie_field_init

end EdVerif.Ssa.Tie
