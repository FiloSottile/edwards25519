import EdVerif.Ssa.Tie.Pt_projCached_FromP3
import EdVerif.Ssa.Tie.Pt_projP1xP1_Add
import EdVerif.Ssa.Tie.Pt_Point_fromP1xP1
import EdVerif.Ssa.Tie.PtExt
import EdVerif.Ssa.Tie.KernESwap
import EdVerif.Gen.Formulas
/-!
# GENERATED by gen_pt.py — `(*Point).Add`: SSA execution = T5's `Formulas.Point_Add`
-/
namespace EdVerif.Ssa.Tie
open EdVerif.Ssa EdVerif.Gen.Ssa EdVerif.Prims EdVerif.Impl EdVerif.Gen
set_option maxRecDepth 100000
set_option linter.unusedVariables false

def body0 : List Instr := body% f0
theorem funcs_0 : prog.funcs[0]? = some f0 := rfl
theorem mkFrame_0 (args : List RVal) (dest : Option Nat) :
    mkFrame 0 f0 args dest = some ⟨0, f0, #[], args.toArray, 0, body0, dest⟩ := rfl
theorem resultTys_0 : f0.resultTys = [6] := rfl
theorem funcIdx_0 : prog.funcIdx? (nm! "(*Point).Add") = some 0 := by decide +kernel

/-- `(*Point).Add` as the outermost call on an arbitrary heap in which the parameter blocks hold the structures `v p q` (the blocks may
    coincide: the receiver is written by the last call only), the guarded points being initialised; the fuel is the exact number of
    steps, `checkInitialized` taking `ckSteps` -/
theorem coreA_Point_Add (v : P3) (p : P3) (q : P3) (hi_p : InitP p) (hi_q : InitP q) : ∀ (H : Heap) (bv bp bq bg_d2 : Nat) (hkv : Ok4 H bv) (hkp : Ok4 H bp) (hkq : Ok4 H bq) (hgv : getP3 H bv = v) (hgp : getP3 H bp = p) (hgq : getP3 H bq = q) (hg_d2 : H.read 4 0 1 = some [.ptr bg_d2 0]) (hkg_d2 : OkE H bg_d2 0) (hvg_d2 : getE H bg_d2 0 = Point.d2) (hn_d2 : bg_d2 ≠ 4) (hne_v_d2 : bv ≠ bg_d2) (hng_v_d2 : bv ≠ 4) (hne_p_d2 : bp ≠ bg_d2) (hng_p_d2 : bp ≠ 4) (hne_q_d2 : bq ≠ bg_d2) (hng_q_d2 : bq ≠ 4), ∃ E : List (Array Val),
    run prog (7473 + ckSteps [p, q] + 7) ⟨mkE H [] [], [⟨0, f0, #[], #[[.ptr bv 0], [.ptr bp 0], [.ptr bq 0]], 0, body0, none⟩]⟩
      = .done ⟨mkE H (entsP3 bv (Formulas.Point_Add v p q)) E, []⟩ [[.ptr bv 0]] := by
  intro H bv bp bq bg_d2 hkv hkp hkq hgv hgp hgq hg_d2 hkg_d2 hvg_d2 hn_d2 hne_v_d2 hng_v_d2 hne_p_d2 hng_p_d2 hne_q_d2 hng_q_d2
  apply Exists.intro
  have hbv := hkv.1.1.1
  have hkv0 := hkv.1
  have hgv0 : getE H bv 0 = v.x := congrArg P3.x hgv
  have hkv1 := hkv.2.1
  have hgv1 : getE H bv 5 = v.y := congrArg P3.y hgv
  have hkv2 := hkv.2.2.1
  have hgv2 : getE H bv 10 = v.z := congrArg P3.z hgv
  have hkv3 := hkv.2.2.2
  have hgv3 : getE H bv 15 = v.t := congrArg P3.t hgv
  have hbp := hkp.1.1.1
  have hkp0 := hkp.1
  have hgp0 : getE H bp 0 = p.x := congrArg P3.x hgp
  have hkp1 := hkp.2.1
  have hgp1 : getE H bp 5 = p.y := congrArg P3.y hgp
  have hkp2 := hkp.2.2.1
  have hgp2 : getE H bp 10 = p.z := congrArg P3.z hgp
  have hkp3 := hkp.2.2.2
  have hgp3 : getE H bp 15 = p.t := congrArg P3.t hgp
  have hbq := hkq.1.1.1
  have hkq0 := hkq.1
  have hgq0 : getE H bq 0 = q.x := congrArg P3.x hgq
  have hkq1 := hkq.2.1
  have hgq1 : getE H bq 5 = q.y := congrArg P3.y hgq
  have hkq2 := hkq.2.2.1
  have hgq2 : getE H bq 10 = q.z := congrArg P3.z hgq
  have hkq3 := hkq.2.2.2
  have hgq3 : getE H bq 15 = q.t := congrArg P3.t hgq
  have hlt_d2 := lt_of_read hg_d2
  simp only [body0]
  ssa_execX [resultTys_0, ↓runA_projCached_FromP3, ↓runA_projP1xP1_Add, ↓runA_Point_fromP1xP1, ↓runA_ck2 bp bq p q hi_p hi_q, okE_base, getE_base, readE_base5, ↓set4_base, hbv, hkv0, hgv0, hkv1, hgv1, hkv2, hgv2, hkv3, hgv3, hbp, hkp0, hgp0, hkp1, hgp1, hkp2, hgp2, hkp3, hgp3, hbq, hkq0, hgq0, hkq1, hgq1, hkq2, hgq2, hkq3, hgq3, read_mkE_base hg_d2, gptr_mkE hg_d2, isGlob_mkE hg_d2, hkg_d2, hvg_d2, hkg_d2.1.1, hn_d2, hn_d2.symm, hne_v_d2, hne_v_d2.symm, hng_v_d2, hng_v_d2.symm, hne_p_d2, hne_p_d2.symm, hng_p_d2, hng_p_d2.symm, hne_q_d2, hne_q_d2.symm, hng_q_d2, hng_q_d2.symm, NoBlk_nil, hlt_d2, Multiply_rz, Square_rz, Add_rz, Subtract_rz, Select_rz, Set_rz, funcs_49, mkFrame_49, funcs_54, mkFrame_54, funcs_19, mkFrame_19]
  rfl

/-- **tie**, any aliasing: `(*Point).Add` on any heap in which the parameter blocks hold the cells of the model values (blocks may coincide,
    in which case the values do) and the package variables point to T5's constants, the guarded parameters (p, q) being initialised points
    (`checkInitialized` does not panic): the run terminates and returns the receiver; the receiver's block then holds the cells of T5's
    `Formulas.Point_Add`; every other block of the heap is unchanged. -/
theorem tie_Point_Add_any (h : Heap) (bv bp bq bg_d2 : Nat) (v : P3) (p : P3) (q : P3) (hi_p : InitP p) (hi_q : InitP q) (hcv : h.blocks[bv]? = some (cellsP3 v)) (hcp : h.blocks[bp]? = some (cellsP3 p)) (hcq : h.blocks[bq]? = some (cellsP3 q)) (hgp_d2 : h.blocks[4]? = some #[.ptr bg_d2 0]) (hgv_d2 : h.blocks[bg_d2]? = some (feCells Point.d2)) :
    ∃ h', runCall prog 7512 h (nm! "(*Point).Add") [[.ptr bv 0], [.ptr bp 0], [.ptr bq 0]] = some (.done ⟨h', []⟩ [[.ptr bv 0]])
      ∧ Post1 h h' bv (cellsP3 (Formulas.Point_Add v p q)) := by
  obtain ⟨E, core⟩ := coreA_Point_Add v p q hi_p hi_q h bv bp bq bg_d2 (ok4_of_cells hcv) (ok4_of_cells hcp) (ok4_of_cells hcq) (getP3_of_cells hcv) (getP3_of_cells hcp) (getP3_of_cells hcq) (read_of_get1 hgp_d2) (okE_of_feCells hgv_d2) (getE_of_feCells hgv_d2) (ne_of_size' hgv_d2 hgp_d2 (n1 := 5) (n2 := 1) rfl rfl (by decide)) (ne_of_size' hcv hgv_d2 (n1 := 20) (n2 := 5) rfl rfl (by decide)) (ne_of_size' hcv hgp_d2 (n1 := 20) (n2 := 1) rfl rfl (by decide)) (ne_of_size' hcp hgv_d2 (n1 := 20) (n2 := 5) rfl rfl (by decide)) (ne_of_size' hcp hgp_d2 (n1 := 20) (n2 := 1) rfl rfl (by decide)) (ne_of_size' hcq hgv_d2 (n1 := 20) (n2 := 5) rfl rfl (by decide)) (ne_of_size' hcq hgp_d2 (n1 := 20) (n2 := 1) rfl rfl (by decide))
  have core := run_done_mono core (k' := 7512) (by have := ckSteps_le2 p q; omega)
  rw [mkE_nil] at core
  refine ⟨_, ?_, post1_mkE4 _ _ _ _ [] E hcv (cells4_size _ _ _ _) (restates_nil h)⟩
  simp only [runCall, funcIdx_0, callState, funcs_0, mkFrame_0, Option.bind_some, Option.map_some, Option.pure_def,
    Option.bind_eq_bind]
  rw [core]
  rfl

/-- **tie**: `(*Point).Add`, the parameter blocks pairwise distinct (an instance of `tie_Point_Add_any`) -/
theorem tie_Point_Add (h : Heap) (bv bp bq bg_d2 : Nat) (v : P3) (p : P3) (q : P3) (hi_p : InitP p) (hi_q : InitP q) (hcv : h.blocks[bv]? = some (cellsP3 v)) (hcp : h.blocks[bp]? = some (cellsP3 p)) (hcq : h.blocks[bq]? = some (cellsP3 q)) (hne_vp : bv ≠ bp) (hne_vq : bv ≠ bq) (hne_pq : bp ≠ bq) (hgp_d2 : h.blocks[4]? = some #[.ptr bg_d2 0]) (hgv_d2 : h.blocks[bg_d2]? = some (feCells Point.d2)) :
    ∃ h', runCall prog 7512 h (nm! "(*Point).Add") [[.ptr bv 0], [.ptr bp 0], [.ptr bq 0]] = some (.done ⟨h', []⟩ [[.ptr bv 0]])
      ∧ Post1 h h' bv (cellsP3 (Formulas.Point_Add v p q)) :=
  tie_Point_Add_any h bv bp bq bg_d2 v p q hi_p hi_q hcv hcp hcq hgp_d2 hgv_d2

/-- **tie**: `(*Point).Add`, parameters sharing a block as the argument list shows, the others distinct (an instance of `tie_Point_Add_any`) -/
theorem tie_Point_Add__al010 (h : Heap) (bv bp bg_d2 : Nat) (v : P3) (p : P3) (hi_p : InitP p) (hi_v : InitP v) (hcv : h.blocks[bv]? = some (cellsP3 v)) (hcp : h.blocks[bp]? = some (cellsP3 p)) (hne_vp : bv ≠ bp) (hgp_d2 : h.blocks[4]? = some #[.ptr bg_d2 0]) (hgv_d2 : h.blocks[bg_d2]? = some (feCells Point.d2)) :
    ∃ h', runCall prog 7512 h (nm! "(*Point).Add") [[.ptr bv 0], [.ptr bp 0], [.ptr bv 0]] = some (.done ⟨h', []⟩ [[.ptr bv 0]])
      ∧ Post1 h h' bv (cellsP3 (Formulas.Point_Add__al010 v p v)) :=
  tie_Point_Add_any h bv bp bv bg_d2 v p v hi_p hi_v hcv hcp hcv hgp_d2 hgv_d2

/-- **tie**: `(*Point).Add`, parameters sharing a block as the argument list shows, the others distinct (an instance of `tie_Point_Add_any`) -/
theorem tie_Point_Add__al011 (h : Heap) (bv bp bg_d2 : Nat) (v : P3) (p : P3) (hi_p : InitP p) (hcv : h.blocks[bv]? = some (cellsP3 v)) (hcp : h.blocks[bp]? = some (cellsP3 p)) (hne_vp : bv ≠ bp) (hgp_d2 : h.blocks[4]? = some #[.ptr bg_d2 0]) (hgv_d2 : h.blocks[bg_d2]? = some (feCells Point.d2)) :
    ∃ h', runCall prog 7512 h (nm! "(*Point).Add") [[.ptr bv 0], [.ptr bp 0], [.ptr bp 0]] = some (.done ⟨h', []⟩ [[.ptr bv 0]])
      ∧ Post1 h h' bv (cellsP3 (Formulas.Point_Add__al011 v p p)) :=
  tie_Point_Add_any h bv bp bp bg_d2 v p p hi_p hi_p hcv hcp hcp hgp_d2 hgv_d2

/-- **tie**: `(*Point).Add`, parameters sharing a block as the argument list shows, the others distinct (an instance of `tie_Point_Add_any`) -/
theorem tie_Point_Add__al002 (h : Heap) (bv bq bg_d2 : Nat) (v : P3) (q : P3) (hi_v : InitP v) (hi_q : InitP q) (hcv : h.blocks[bv]? = some (cellsP3 v)) (hcq : h.blocks[bq]? = some (cellsP3 q)) (hne_vq : bv ≠ bq) (hgp_d2 : h.blocks[4]? = some #[.ptr bg_d2 0]) (hgv_d2 : h.blocks[bg_d2]? = some (feCells Point.d2)) :
    ∃ h', runCall prog 7512 h (nm! "(*Point).Add") [[.ptr bv 0], [.ptr bv 0], [.ptr bq 0]] = some (.done ⟨h', []⟩ [[.ptr bv 0]])
      ∧ Post1 h h' bv (cellsP3 (Formulas.Point_Add__al002 v v q)) :=
  tie_Point_Add_any h bv bv bq bg_d2 v v q hi_v hi_q hcv hcv hcq hgp_d2 hgv_d2

/-- **tie**: `(*Point).Add`, parameters sharing a block as the argument list shows, the others distinct (an instance of `tie_Point_Add_any`) -/
theorem tie_Point_Add__al000 (h : Heap) (bv bg_d2 : Nat) (v : P3) (hi_v : InitP v) (hcv : h.blocks[bv]? = some (cellsP3 v))  (hgp_d2 : h.blocks[4]? = some #[.ptr bg_d2 0]) (hgv_d2 : h.blocks[bg_d2]? = some (feCells Point.d2)) :
    ∃ h', runCall prog 7512 h (nm! "(*Point).Add") [[.ptr bv 0], [.ptr bv 0], [.ptr bv 0]] = some (.done ⟨h', []⟩ [[.ptr bv 0]])
      ∧ Post1 h h' bv (cellsP3 (Formulas.Point_Add__al000 v v v)) :=
  tie_Point_Add_any h bv bv bv bg_d2 v v v hi_v hi_v hcv hcv hcv hgp_d2 hgv_d2

end EdVerif.Ssa.Tie
