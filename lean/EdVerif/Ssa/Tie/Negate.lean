import EdVerif.Ssa.Tie.Sub
import EdVerif.Ssa.Tie.Misc
/-!
# `(*field.Element).Negate`  (`v.Subtract(feZero, a)`; `feZero` is a package-level `*Element`, global 12 = heap block 13)
-/
namespace EdVerif.Ssa.Tie
open EdVerif.Ssa EdVerif.Gen.Ssa EdVerif.Prims
set_option maxRecDepth 100000

def body70 : List Instr := body% f70
theorem funcs_70 : prog.funcs[70]? = some f70 := rfl
theorem mkFrame_70 (args : List RVal) (dest : Option Nat) :
    mkFrame 70 f70 args dest = some ⟨70, f70, #[], args.toArray, 0, body70, dest⟩ := rfl
theorem resultTys_70 : f70.resultTys = [19] := rfl
theorem funcIdx_70 : prog.funcIdx? (nm! "(*field.Element).Negate") = some 70 := by decide +kernel

/-- `v.Negate(a)`, `v`, `a`, the block of `feZero` and block 13 pairwise distinct -/
theorem core_Negate_d (h0 : Heap) (ovr ext) (bv ba bz : Nat) (v0 v1 v2 v3 v4 a0 a1 a2 a3 a4 : Nat)
    (hbv : bv < h0.blocks.size) (hba : ba < h0.blocks.size) (hbz : bz < h0.blocks.size) (hg : 13 < h0.blocks.size)
    (hva : bv ≠ ba) (hvz : bv ≠ bz) (hvg : bv ≠ 13) (haz : ba ≠ bz) (hag : ba ≠ 13) (hzg : bz ≠ 13) :
    run prog 94 ⟨mkH h0 ((bv, #[.int v0, .int v1, .int v2, .int v3, .int v4]) :: (ba, #[.int a0, .int a1, .int a2, .int a3, .int a4])
                    :: (13, #[.ptr bz 0]) :: (bz, #[.int 0, .int 0, .int 0, .int 0, .int 0]) :: ovr) ext,
        [⟨70, f70, #[], #[[.ptr bv 0], [.ptr ba 0]], 0, body70, none⟩]⟩
      = .done ⟨mkH h0 ((bv, feCells (EdVerif.Gen.Field.Negate ⟨v0, v1, v2, v3, v4⟩ ⟨a0, a1, a2, a3, a4⟩)) :: (ba, #[.int a0, .int a1, .int a2, .int a3, .int a4])
                    :: (13, #[.ptr bz 0]) :: (bz, #[.int 0, .int 0, .int 0, .int 0, .int 0]) :: ovr) ext, []⟩ [[.ptr bv 0]] := by
  simp only [body70]
  ssa_exec [resultTys_70, funcs_79, mkFrame_79, resultTys_79, body79, funcs_83, mkFrame_83, ↓run_carryPropagate,
    read_hit, read_miss, write_hit, hbv, hba, hbz, hg, hva, hvz, hvg, haz, hag, hzg, hva.symm, hvz.symm, hvg.symm, haz.symm, hag.symm, hzg.symm,
    ne_eq, not_false_eq_true]
  rfl

/-- `v.Negate(v)` -/
theorem core_Negate_va (h0 : Heap) (ovr ext) (bv bz : Nat) (v0 v1 v2 v3 v4 : Nat)
    (hbv : bv < h0.blocks.size) (hbz : bz < h0.blocks.size) (hg : 13 < h0.blocks.size)
    (hvz : bv ≠ bz) (hvg : bv ≠ 13) (hzg : bz ≠ 13) :
    run prog 94 ⟨mkH h0 ((bv, #[.int v0, .int v1, .int v2, .int v3, .int v4])
                    :: (13, #[.ptr bz 0]) :: (bz, #[.int 0, .int 0, .int 0, .int 0, .int 0]) :: ovr) ext,
        [⟨70, f70, #[], #[[.ptr bv 0], [.ptr bv 0]], 0, body70, none⟩]⟩
      = .done ⟨mkH h0 ((bv, feCells (EdVerif.Gen.Field.Negate ⟨v0, v1, v2, v3, v4⟩ ⟨v0, v1, v2, v3, v4⟩))
                    :: (13, #[.ptr bz 0]) :: (bz, #[.int 0, .int 0, .int 0, .int 0, .int 0]) :: ovr) ext, []⟩ [[.ptr bv 0]] := by
  simp only [body70]
  ssa_exec [resultTys_70, funcs_79, mkFrame_79, resultTys_79, body79, funcs_83, mkFrame_83, ↓run_carryPropagate,
    read_hit, read_miss, write_hit, hbv, hbz, hg, hvz, hvg, hzg, hvz.symm, hvg.symm, hzg.symm,
    ne_eq, not_false_eq_true]
  rfl

/-- **tie**: `v.Negate(a)`; `bz` is the block the package variable `feZero` points to (distinct from `bv`, `ba`);
    `bv = ba` allowed. -/
theorem tie_Negate (h : Heap) (bv ba bz : Nat) (v a : Fe)
    (hv : h.blocks[bv]? = some (feCells v)) (ha : h.blocks[ba]? = some (feCells a))
    (hg : h.blocks[13]? = some #[.ptr bz 0]) (hz : h.blocks[bz]? = some (feCells EdVerif.Gen.Field.feZero))
    (hvz : bv ≠ bz) (haz : ba ≠ bz) :
    ∃ h', runCall prog 94 h (nm! "(*field.Element).Negate") [[.ptr bv 0], [.ptr ba 0]] = some (.done ⟨h', []⟩ [[.ptr bv 0]])
      ∧ Post1 h h' bv (feCells (EdVerif.Gen.Field.Negate v a)) := by
  have hvg : bv ≠ 13 := ne_of_cells hv hg (by simp [feCells])
  have hag : ba ≠ 13 := ne_of_cells ha hg (by simp [feCells])
  have hzg : bz ≠ 13 := ne_of_cells hz hg (by simp [feCells])
  have hz' : h.blocks[bz]? = some #[Val.int 0, .int 0, .int 0, .int 0, .int 0] := by
    simpa [feCells, EdVerif.Gen.Field.feZero] using hz
  by_cases hva : bv = ba
  · subst hva
    have e := feCells_inj (Option.some.inj (hv.symm.trans ha)); subst e
    obtain ⟨v0, v1, v2, v3, v4⟩ := v
    have core := core_Negate_va h [] [] bv bz v0 v1 v2 v3 v4 (lt_of_get hv) (lt_of_get hz) (lt_of_get hg) hvz hvg hzg
    have hall : ∀ kv ∈ [(13, #[Val.ptr bz 0]), (bz, #[Val.int 0, .int 0, .int 0, .int 0, .int 0])], h.blocks[kv.1]? = some kv.2 := by
      simpa using ⟨hg, hz'⟩
    rw [show mkH h [(bv, #[.int v0, .int v1, .int v2, .int v3, .int v4]), (13, #[.ptr bz 0]), (bz, #[.int 0, .int 0, .int 0, .int 0, .int 0])] [] = h from
        mkH_intro h _ (by simpa [feCells] using ⟨hv, hg, hz'⟩)] at core
    refine ⟨_, ?_, post1_mkH _ [] (lt_of_get hv) hall⟩
    simp only [runCall, funcIdx_70, callState, funcs_70, mkFrame_70, Option.bind_some, Option.map_some, Option.pure_def,
      Option.bind_eq_bind]
    rw [core]; first | done | rfl
  · obtain ⟨v0, v1, v2, v3, v4⟩ := v
    obtain ⟨a0, a1, a2, a3, a4⟩ := a
    have core := core_Negate_d h [] [] bv ba bz v0 v1 v2 v3 v4 a0 a1 a2 a3 a4 (lt_of_get hv) (lt_of_get ha) (lt_of_get hz) (lt_of_get hg)
      hva hvz hvg haz hag hzg
    have hall : ∀ kv ∈ [(ba, feCells ⟨a0, a1, a2, a3, a4⟩), (13, #[Val.ptr bz 0]), (bz, #[Val.int 0, .int 0, .int 0, .int 0, .int 0])],
        h.blocks[kv.1]? = some kv.2 := by
      simpa using ⟨ha, hg, hz'⟩
    rw [show mkH h [(bv, #[.int v0, .int v1, .int v2, .int v3, .int v4]), (ba, #[.int a0, .int a1, .int a2, .int a3, .int a4]),
          (13, #[.ptr bz 0]), (bz, #[.int 0, .int 0, .int 0, .int 0, .int 0])] [] = h from
        mkH_intro h _ (by simpa [feCells] using ⟨hv, ha, hg, hz'⟩)] at core
    refine ⟨_, ?_, post1_mkH _ [] (lt_of_get hv) hall⟩
    simp only [runCall, funcIdx_70, callState, funcs_70, mkFrame_70, Option.bind_some, Option.map_some, Option.pure_def,
      Option.bind_eq_bind]
    rw [core]; first | done | rfl

end EdVerif.Ssa.Tie
