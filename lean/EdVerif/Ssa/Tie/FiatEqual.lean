import EdVerif.Ssa.Tie.FiatSub
/-!
# `(*Scalar).Equal`

`diff` (a `[4]uint64`) and `nonzero` (a `uint64`) are locals of the Go function: freshly allocated blocks.  The callees
`fiatScalarSub` and `fiatScalarNonzero` are executed in line (their out-pointers are those fresh blocks).
The heap of the caller is unchanged (`Post0`); the result is T1's `Equal s t`.
-/
namespace EdVerif.Ssa.Tie
open EdVerif.Ssa EdVerif.Gen.Ssa EdVerif.Prims EdVerif.Gen.Fiat
set_option maxRecDepth 100000

def body23 : List Instr := body% f23
theorem funcs_23 : prog.funcs[23]? = some f23 := rfl
theorem mkFrame_23 (args : List RVal) (dest : Option Nat) :
    mkFrame 23 f23 args dest = some ⟨23, f23, #[], args.toArray, 0, body23, dest⟩ := rfl
theorem resultTys_23 : f23.resultTys = [10] := rfl
theorem funcIdx_23 : prog.funcIdx? (nm! "(*Scalar).Equal") = some 23 := by decide +kernel

/-- `int(^x)` for a `uint64` `x`: the conversion wraps, so no bound on `x` is needed -/
theorem wrap_not64 (v : Nat) : wrap 64 ((2 ^ 64 - 1) ^^^ v) = U.not 64 v := by
  have h1 : (2 ^ 64 - 1) % 2 ^ 64 = 2 ^ 64 - 1 := by decide
  rw [wrap, Nat.xor_mod_two_pow, h1, not64 _ (Nat.mod_lt _ (by decide))]
  simp only [U.not, Nat.mod_mod]

/-- **tie**: `s.Equal(t)` on any heap in which blocks `bs`, `bt` hold the words of `s`, `t` (the blocks may coincide; the
    words of `t` are 64-bit values): returns T1's `Equal s t`; no block of the heap changes (the heap grows by the locals). -/
theorem tie_Scalar_Equal (h : Heap) (bs bt : Nat) (s t : W4) (hlt_t : t.lt64)
    (hs : h.blocks[bs]? = some (w4Cells s)) (ht : h.blocks[bt]? = some (w4Cells t)) :
    ∃ h', runCall prog 133 h (nm! "(*Scalar).Equal") [[.ptr bs 0], [.ptr bt 0]]
            = some (.done ⟨h', []⟩ [[.int (EdVerif.Gen.Fiat.Equal s t)]])
      ∧ Post0 h h' := by
  obtain ⟨s0, s1, s2, s3⟩ := s
  obtain ⟨t0, t1, t2, t3⟩ := t
  obtain ⟨hlt_t0, hlt_t1, hlt_t2, hlt_t3⟩ := hlt_t
  have hbs := lt_of_get hs
  have hbt := lt_of_get ht
  simp only [w4Cells] at hs ht
  refine ⟨_, ?_, post0_mkH h ?ext⟩
  rw [runCall_eq funcIdx_23 funcs_23 (mkFrame_23 _ _)]
  simp only [body23]
  conv => lhs; rw [← mkH_nil h]
  -- `diff` and `nonzero` are fresh blocks, so the operands are only ever read: no case on `bs = bt`
  fiat_exec [resultTys_23, funcs_96, mkFrame_96, ↓run_Cmovznz_ext, and_eq, or_eq, shr_eq, wrap_not64,
    funcs_102, mkFrame_102, resultTys_102, body102, funcs_100, mkFrame_100, resultTys_100, body100,
    read_base, hs, ht, hbs, hbt, hlt_t0, hlt_t1, hlt_t2, hlt_t3]
  simp only [EdVerif.Gen.Fiat.Equal, fiatScalarSub, fiatScalarNonzero, Bits.Add64, Bits.Sub64]
  rfl

end EdVerif.Ssa.Tie
