import EdVerif.Ssa.Tie.FiatSmall
/-!
# `fiatScalarAdd`
-/
namespace EdVerif.Ssa.Tie
open EdVerif.Ssa EdVerif.Gen.Ssa EdVerif.Prims EdVerif.Gen.Fiat
set_option maxRecDepth 100000

def body95 : List Instr := body% f95
theorem funcs_95 : prog.funcs[95]? = some f95 := rfl
theorem mkFrame_95 (args : List RVal) (dest : Option Nat) :
    mkFrame 95 f95 args dest = some ⟨95, f95, #[], args.toArray, 0, body95, dest⟩ := rfl
theorem resultTys_95 : f95.resultTys = [] := rfl
theorem funcIdx_95 : prog.funcIdx? (nm! "fiatScalarAdd") = some 95 := by decide +kernel

/-- Every instruction of `fiatScalarAdd` but the final `Return`, whatever lies below its frame, on any heap in which the
    argument blocks hold four words each.  The blocks may coincide: the kernel loads its arguments before its first
    store to `out`, so this one run covers every aliasing of the pointers. -/
theorem pre_fiatScalarAdd (H : Heap) (bo ba bb : Nat) (o a b : W4) 
    (ho : H.blocks[bo]? = some (w4Cells o)) (ha : H.blocks[ba]? = some (w4Cells a)) (hb : H.blocks[bb]? = some (w4Cells b)) (dest : Option Nat) (frs : List Frame) :
    ∃ ext regs, steps prog 115 ⟨H, ⟨95, f95, #[], #[[.ptr bo 0], [.ptr ba 0], [.ptr bb 0]], 0, body95, dest⟩ :: frs⟩
      = some ⟨mkH H [(bo, w4Cells (fiatScalarAdd o a b))] ext,
          ⟨95, f95, regs, #[[.ptr bo 0], [.ptr ba 0], [.ptr bb 0]], 0, List.drop 83 body95, dest⟩ :: frs⟩ := by
  obtain ⟨o0, o1, o2, o3⟩ := o
  obtain ⟨a0, a1, a2, a3⟩ := a
  obtain ⟨b0, b1, b2, b3⟩ := b
  have hbo := lt_of_get ho
  have hba := lt_of_get ha
  have hbb := lt_of_get hb
  simp only [w4Cells] at ho ha hb
  apply Exists.intro
  apply Exists.intro
  apply steps_of_base
  simp only [body95]
  fiat_exec [resultTys_95, funcs_96, mkFrame_96, ↓steps_Cmovznz_ext, read_base, write_base, write_hit, ho, ha, hb, hbo, hba, hbb]
  refine state_eq ?_ rfl
  simp only [w4Cells, fiatScalarAdd, Bits.Add64, Bits.Sub64]
  rfl

/-- the call returns into any caller frame -/
theorem call_fiatScalarAdd (H : Heap) (bo ba bb : Nat) (o a b : W4) 
    (ho : H.blocks[bo]? = some (w4Cells o)) (ha : H.blocks[ba]? = some (w4Cells a)) (hb : H.blocks[bb]? = some (w4Cells b)) (d : Nat) (cfi : Nat) (cf : Func) (cregs cparams : Array RVal) (cblk : Nat) (crest : List Instr) (cdest : Option Nat) (frs : List Frame) :
    ∃ ext, steps prog 116 ⟨H, ⟨95, f95, #[], #[[.ptr bo 0], [.ptr ba 0], [.ptr bb 0]], 0, body95, some d⟩ :: ⟨cfi, cf, cregs, cparams, cblk, crest, cdest⟩ :: frs⟩
      = some ⟨mkH H [(bo, w4Cells (fiatScalarAdd o a b))] ext, ⟨cfi, cf, regSet cregs d [], cparams, cblk, crest, cdest⟩ :: frs⟩ := by
  obtain ⟨ext, regs, hp⟩ := pre_fiatScalarAdd H bo ba bb o a b  ho ha hb (some d) (⟨cfi, cf, cregs, cparams, cblk, crest, cdest⟩ :: frs)
  refine ⟨ext, Eq.trans (steps_steps' hp 1) ?_⟩
  simp only [body95, List.drop_succ_cons, List.drop_zero]
  fiat_exec [resultTys_95]

/-- **tie** (any aliasing): `fiatScalarAdd` on an arbitrary heap in which the argument blocks hold the words of the arguments
    (the blocks may coincide, in which case the arguments do). -/
theorem tie_fiatScalarAdd (h : Heap) (bo ba bb : Nat) (o a b : W4) 
    (ho : h.blocks[bo]? = some (w4Cells o)) (ha : h.blocks[ba]? = some (w4Cells a)) (hb : h.blocks[bb]? = some (w4Cells b)) :
    ∃ h', runCall prog 116 h (nm! "fiatScalarAdd") [[.ptr bo 0], [.ptr ba 0], [.ptr bb 0]] = some (.done ⟨h', []⟩ [])
      ∧ Post1 h h' bo (w4Cells (fiatScalarAdd o a b)) := by
  obtain ⟨ext, regs, hp⟩ := pre_fiatScalarAdd h bo ba bb o a b  ho ha hb none []
  refine ⟨_, ?_, post1_base _ ext (lt_of_get ho)⟩
  rw [runCall_eq funcIdx_95 funcs_95 (mkFrame_95 _ _), run_steps' hp 1]
  simp only [body95, List.drop_succ_cons, List.drop_zero]
  fiat_exec [resultTys_95]

end EdVerif.Ssa.Tie
