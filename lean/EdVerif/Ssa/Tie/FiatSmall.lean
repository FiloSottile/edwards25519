import EdVerif.Ssa.Tie.FiatExec
/-!
# `fiatScalarCmovznzU64`, `fiatScalarNonzero`
-/
namespace EdVerif.Ssa.Tie
open EdVerif.Ssa EdVerif.Gen.Ssa EdVerif.Prims EdVerif.Gen.Fiat
set_option maxRecDepth 100000

/-! ## `fiatScalarCmovznzU64` -/

def body96 : List Instr := body% f96
theorem funcs_96 : prog.funcs[96]? = some f96 := rfl
theorem mkFrame_96 (args : List RVal) (dest : Option Nat) :
    mkFrame 96 f96 args dest = some ⟨96, f96, #[], args.toArray, 0, body96, dest⟩ := rfl
theorem resultTys_96 : f96.resultTys = [] := rfl
theorem funcIdx_96 : prog.funcIdx? (nm! "fiatScalarCmovznzU64") = some 96 := by decide +kernel

/-- the value computed by the SSA of `fiatScalarCmovznzU64`, folded back into T1's definition -/
theorem cmov_fold (o c z nz : Nat) :
    U.or 64 (U.and 64 (U.mul 64 c 18446744073709551615) nz) (U.and 64 (U.not 64 (U.mul 64 c 18446744073709551615)) z)
      = fiatScalarCmovznzU64 o c z nz := by
  rw [fiatScalarCmovznzU64]

/-- `fiatScalarCmovznzU64(&out, c, z, nz)` as the outermost call on a canonical heap; `out` is the one-cell block `bo` -/
theorem core_Cmovznz (h0 : Heap) (ovr ext) (bo o c z nz : Nat) (hbo : bo < h0.blocks.size) :
    run prog 8 ⟨mkH h0 ((bo, #[.int o]) :: ovr) ext,
        [⟨96, f96, #[], #[[.ptr bo 0], [.int c], [.int z], [.int nz]], 0, body96, none⟩]⟩
      = .done ⟨mkH h0 ((bo, #[.int (fiatScalarCmovznzU64 o c z nz)]) :: ovr) ext, []⟩ [] := by
  simp only [body96]
  fiat_exec [resultTys_96, mul_eq, and_eq, or_eq, not64_mul, cmov_fold o, read_hit, write_hit, hbo]

/-- **tie**: `fiatScalarCmovznzU64(&out, c, z, nz)` on any heap in which block `bo` is a `uint64` variable: afterwards the
    variable holds T1's value, nothing else changes. -/
theorem tie_fiatScalarCmovznzU64 (h : Heap) (bo o c z nz : Nat) (ho : h.blocks[bo]? = some #[.int o]) :
    ∃ h', runCall prog 8 h (nm! "fiatScalarCmovznzU64") [[.ptr bo 0], [.int c], [.int z], [.int nz]] = some (.done ⟨h', []⟩ [])
      ∧ Post1 h h' bo #[.int (fiatScalarCmovznzU64 o c z nz)] := by
  have core := core_Cmovznz h [] [] bo o c z nz (lt_of_get ho)
  rw [mkH_intro h [(bo, _)] (by simpa using ho)] at core
  refine ⟨_, ?_, post1_base _ [] (lt_of_get ho)⟩
  simp only [runCall, funcIdx_96, callState, funcs_96, mkFrame_96, Option.bind_some, Option.map_some, Option.pure_def,
    Option.bind_eq_bind]
  rw [core]

/-- call lemma: the callee's frame on top of any caller, the out-pointer being a freshly allocated (zero) variable `ext[k]` -/
theorem call_Cmovznz_ext (h0 : Heap) (ovr) (ext : List (Array Val)) (k c z nz d : Nat) (hk : ext[k]? = some #[.int 0])
    (cfi : Nat) (cf : Func) (cregs cparams : Array RVal) (cblk : Nat) (crest : List Instr) (cdest : Option Nat) (frs : List Frame) :
    steps prog 8 ⟨mkH h0 ovr ext,
        ⟨96, f96, #[], #[[.ptr (h0.blocks.size + k) 0], [.int c], [.int z], [.int nz]], 0, body96, some d⟩
          :: ⟨cfi, cf, cregs, cparams, cblk, crest, cdest⟩ :: frs⟩
      = some ⟨mkH h0 ovr (ext.set k #[.int (fiatScalarCmovznzU64 0 c z nz)]),
          ⟨cfi, cf, regSet cregs d [], cparams, cblk, crest, cdest⟩ :: frs⟩ := by
  simp only [body96]
  fiat_exec [resultTys_96, mul_eq, and_eq, or_eq, not64_mul, cmov_fold 0, hk]

derive_rules call_Cmovznz_ext run_Cmovznz_ext steps_Cmovznz_ext

/-! ## `fiatScalarNonzero` -/

def body100 : List Instr := body% f100
theorem funcs_100 : prog.funcs[100]? = some f100 := rfl
theorem mkFrame_100 (args : List RVal) (dest : Option Nat) :
    mkFrame 100 f100 args dest = some ⟨100, f100, #[], args.toArray, 0, body100, dest⟩ := rfl
theorem resultTys_100 : f100.resultTys = [] := rfl
theorem funcIdx_100 : prog.funcIdx? (nm! "fiatScalarNonzero") = some 100 := by decide +kernel

/-- `fiatScalarNonzero(&out, &a)`, distinct blocks -/
theorem core_Nonzero (h0 : Heap) (ovr ext) (bo ba o a0 a1 a2 a3 : Nat) (hbo : bo < h0.blocks.size) (hba : ba < h0.blocks.size)
    (hoa : bo ≠ ba) :
    run prog 13 ⟨mkH h0 ((bo, #[.int o]) :: (ba, #[.int a0, .int a1, .int a2, .int a3]) :: ovr) ext,
        [⟨100, f100, #[], #[[.ptr bo 0], [.ptr ba 0]], 0, body100, none⟩]⟩
      = .done ⟨mkH h0 ((bo, #[.int (fiatScalarNonzero o ⟨a0, a1, a2, a3⟩)]) :: (ba, #[.int a0, .int a1, .int a2, .int a3]) :: ovr) ext, []⟩ [] := by
  simp only [body100]
  fiat_exec [resultTys_100, or_eq, read_hit, read_miss, write_hit, hbo, hba, hoa, hoa.symm, ne_eq, not_false_eq_true]
  rfl

/-- **tie**: `fiatScalarNonzero(&out, &a)` -/
theorem tie_fiatScalarNonzero (h : Heap) (bo ba o : Nat) (a : W4)
    (ho : h.blocks[bo]? = some #[.int o]) (ha : h.blocks[ba]? = some (w4Cells a)) :
    ∃ h', runCall prog 13 h (nm! "fiatScalarNonzero") [[.ptr bo 0], [.ptr ba 0]] = some (.done ⟨h', []⟩ [])
      ∧ Post1 h h' bo #[.int (fiatScalarNonzero o a)] := by
  obtain ⟨a0, a1, a2, a3⟩ := a
  have hoa : bo ≠ ba := ne_of_cells ho ha (by simp [w4Cells])
  have core := core_Nonzero h [] [] bo ba o a0 a1 a2 a3 (lt_of_get ho) (lt_of_get ha) hoa
  have hall : ∀ kv ∈ [(ba, w4Cells ⟨a0, a1, a2, a3⟩)], h.blocks[kv.1]? = some kv.2 := by simp [ha]
  rw [show mkH h [(bo, #[.int o]), (ba, #[.int a0, .int a1, .int a2, .int a3])] [] = h from
      mkH_intro h _ (by simpa [w4Cells] using ⟨ho, ha⟩)] at core
  refine ⟨_, ?_, post1_mkH _ [] (lt_of_get ho) hall⟩
  simp only [runCall, funcIdx_100, callState, funcs_100, mkFrame_100, Option.bind_some, Option.map_some, Option.pure_def,
    Option.bind_eq_bind]
  rw [core]; first | done | rfl

end EdVerif.Ssa.Tie
