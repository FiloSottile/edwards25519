import EdVerif.Ssa.Tie.FiatSmall
/-!
# `fiatScalarToMontgomery`
-/
namespace EdVerif.Ssa.Tie
open EdVerif.Ssa EdVerif.Gen.Ssa EdVerif.Prims EdVerif.Gen.Fiat
set_option maxRecDepth 100000

def body104 : List Instr := body% f104
theorem funcs_104 : prog.funcs[104]? = some f104 := rfl
theorem mkFrame_104 (args : List RVal) (dest : Option Nat) :
    mkFrame 104 f104 args dest = some ⟨104, f104, #[], args.toArray, 0, body104, dest⟩ := rfl
theorem resultTys_104 : f104.resultTys = [] := rfl
theorem funcIdx_104 : prog.funcIdx? (nm! "fiatScalarToMontgomery") = some 104 := by decide +kernel

set_option maxHeartbeats 1000000 in
/-- Every instruction of `fiatScalarToMontgomery` but the final `Return`, whatever lies below its frame, on any heap in which the
    argument blocks hold four words each.  The blocks may coincide: the kernel loads its arguments before its first
    store to `out`, so this one run covers every aliasing of the pointers. -/
theorem pre_fiatScalarToMontgomery (H : Heap) (bo ba : Nat) (o a : W4) 
    (ho : H.blocks[bo]? = some (w4Cells o)) (ha : H.blocks[ba]? = some (w4Cells a)) (dest : Option Nat) (frs : List Frame) :
    ∃ ext regs, steps prog 422 ⟨H, ⟨104, f104, #[], #[[.ptr bo 0], [.ptr ba 0]], 0, body104, dest⟩ :: frs⟩
      = some ⟨mkH H [(bo, w4Cells (fiatScalarToMontgomery o a))] ext,
          ⟨104, f104, regs, #[[.ptr bo 0], [.ptr ba 0]], 0, List.drop 390 body104, dest⟩ :: frs⟩ := by
  obtain ⟨o0, o1, o2, o3⟩ := o
  obtain ⟨a0, a1, a2, a3⟩ := a
  have hbo := lt_of_get ho
  have hba := lt_of_get ha
  simp only [w4Cells] at ho ha
  apply Exists.intro
  apply Exists.intro
  apply steps_of_base
  simp only [body104]
  fiat_exec [resultTys_104, funcs_96, mkFrame_96, ↓steps_Cmovznz_ext, add_eq, read_base, write_base, write_hit, ho, ha, hbo, hba]
  refine state_eq ?_ rfl
  simp only [w4Cells, fiatScalarToMontgomery, Bits.Add64, Bits.Sub64, Bits.Mul64]
  rfl

/-- the call returns into any caller frame -/
theorem call_fiatScalarToMontgomery (H : Heap) (bo ba : Nat) (o a : W4) 
    (ho : H.blocks[bo]? = some (w4Cells o)) (ha : H.blocks[ba]? = some (w4Cells a)) (d : Nat) (cfi : Nat) (cf : Func) (cregs cparams : Array RVal) (cblk : Nat) (crest : List Instr) (cdest : Option Nat) (frs : List Frame) :
    ∃ ext, steps prog 423 ⟨H, ⟨104, f104, #[], #[[.ptr bo 0], [.ptr ba 0]], 0, body104, some d⟩ :: ⟨cfi, cf, cregs, cparams, cblk, crest, cdest⟩ :: frs⟩
      = some ⟨mkH H [(bo, w4Cells (fiatScalarToMontgomery o a))] ext, ⟨cfi, cf, regSet cregs d [], cparams, cblk, crest, cdest⟩ :: frs⟩ := by
  obtain ⟨ext, regs, hp⟩ := pre_fiatScalarToMontgomery H bo ba o a  ho ha (some d) (⟨cfi, cf, cregs, cparams, cblk, crest, cdest⟩ :: frs)
  refine ⟨ext, Eq.trans (steps_steps' hp 1) ?_⟩
  simp only [body104, List.drop_succ_cons, List.drop_zero]
  fiat_exec [resultTys_104]

/-- call lemma: the callee's frame on top of any caller -/
theorem call_fiatScalarToMontgomery_oa (h0 : Heap) (ovr) (bo : Nat) (o0 o1 o2 o3 : Nat)
    (hbo : bo < h0.blocks.size)  (d : Nat) (cfi : Nat) (cf : Func) (cregs cparams : Array RVal) (cblk : Nat) (crest : List Instr) (cdest : Option Nat) (frs : List Frame) :
    ∃ ext, steps prog 423 ⟨mkH h0 ((bo, #[.int o0, .int o1, .int o2, .int o3]) :: ovr) [],
        ⟨104, f104, #[], #[[.ptr bo 0], [.ptr bo 0]], 0, body104, some d⟩ :: ⟨cfi, cf, cregs, cparams, cblk, crest, cdest⟩ :: frs⟩
      = some ⟨mkH h0 ((bo, w4Cells (fiatScalarToMontgomery ⟨o0, o1, o2, o3⟩ ⟨o0, o1, o2, o3⟩)) :: ovr) ext, ⟨cfi, cf, regSet cregs d [], cparams, cblk, crest, cdest⟩ :: frs⟩ := by
  obtain ⟨ext, hc⟩ := call_fiatScalarToMontgomery (mkH h0 ((bo, #[.int o0, .int o1, .int o2, .int o3]) :: ovr) []) bo bo ⟨o0, o1, o2, o3⟩ ⟨o0, o1, o2, o3⟩
    (mkH_get_hit _ _ _ _ _ hbo) (mkH_get_hit _ _ _ _ _ hbo) d cfi cf cregs cparams cblk crest cdest frs
  exact ⟨ext, hc.trans (by rw [mkH_over_hit])⟩

/-- call lemma: the callee's frame on top of any caller -/
theorem call_fiatScalarToMontgomery_d (h0 : Heap) (ovr) (bo ba : Nat) (o0 o1 o2 o3 a0 a1 a2 a3 : Nat)
    (hbo : bo < h0.blocks.size) (hba : ba < h0.blocks.size) (hne_oa : bo ≠ ba) (d : Nat) (cfi : Nat) (cf : Func) (cregs cparams : Array RVal) (cblk : Nat) (crest : List Instr) (cdest : Option Nat) (frs : List Frame) :
    ∃ ext, steps prog 423 ⟨mkH h0 ((bo, #[.int o0, .int o1, .int o2, .int o3]) :: (ba, #[.int a0, .int a1, .int a2, .int a3]) :: ovr) [],
        ⟨104, f104, #[], #[[.ptr bo 0], [.ptr ba 0]], 0, body104, some d⟩ :: ⟨cfi, cf, cregs, cparams, cblk, crest, cdest⟩ :: frs⟩
      = some ⟨mkH h0 ((bo, w4Cells (fiatScalarToMontgomery ⟨o0, o1, o2, o3⟩ ⟨a0, a1, a2, a3⟩)) :: (ba, #[.int a0, .int a1, .int a2, .int a3]) :: ovr) ext, ⟨cfi, cf, regSet cregs d [], cparams, cblk, crest, cdest⟩ :: frs⟩ := by
  obtain ⟨ext, hc⟩ := call_fiatScalarToMontgomery (mkH h0 ((bo, #[.int o0, .int o1, .int o2, .int o3]) :: (ba, #[.int a0, .int a1, .int a2, .int a3]) :: ovr) []) bo ba ⟨o0, o1, o2, o3⟩ ⟨a0, a1, a2, a3⟩
    (mkH_get_hit _ _ _ _ _ hbo) (by rw [mkH_get_miss _ _ _ _ _ _ hne_oa.symm]; exact mkH_get_hit _ _ _ _ _ hba) d cfi cf cregs cparams cblk crest cdest frs
  exact ⟨ext, hc.trans (by rw [mkH_over_hit])⟩

/-- **tie** (any aliasing): `fiatScalarToMontgomery` on an arbitrary heap in which the argument blocks hold the words of the arguments
    (the blocks may coincide, in which case the arguments do). -/
theorem tie_fiatScalarToMontgomery (h : Heap) (bo ba : Nat) (o a : W4) 
    (ho : h.blocks[bo]? = some (w4Cells o)) (ha : h.blocks[ba]? = some (w4Cells a)) :
    ∃ h', runCall prog 423 h (nm! "fiatScalarToMontgomery") [[.ptr bo 0], [.ptr ba 0]] = some (.done ⟨h', []⟩ [])
      ∧ Post1 h h' bo (w4Cells (fiatScalarToMontgomery o a)) := by
  obtain ⟨ext, regs, hp⟩ := pre_fiatScalarToMontgomery h bo ba o a  ho ha none []
  refine ⟨_, ?_, post1_base _ ext (lt_of_get ho)⟩
  rw [runCall_eq funcIdx_104 funcs_104 (mkFrame_104 _ _), run_steps' hp 1]
  simp only [body104, List.drop_succ_cons, List.drop_zero]
  fiat_exec [resultTys_104]

end EdVerif.Ssa.Tie
