import EdVerif.Ssa.Tie.FeBytesRules
import EdVerif.Impl.Fe
/-!
# The bytes of a reduced element: the model `Fe.bytes` as an explicit 32-entry list, and `Fe.ctCompare` as an equality test
-/
namespace EdVerif.Ssa.Tie
open EdVerif.Ssa EdVerif.Gen.Ssa EdVerif.Prims EdVerif.Impl
set_option maxRecDepth 100000

/-- the 32 bytes written by `(*field.Element).bytes` for the reduced element `t`, exactly as the SSA computes them
    (`out[off] |= byte k of (t.l_i << (51 i % 8))`, `off = 51 i / 8 + k`) -/
def bytesL (t : Fe) : List Nat :=
  [0 ||| (U.shl 64 t.l0 0 >>> 0) % 256,
   0 ||| (U.shl 64 t.l0 0 >>> 8) % 256,
   0 ||| (U.shl 64 t.l0 0 >>> 16) % 256,
   0 ||| (U.shl 64 t.l0 0 >>> 24) % 256,
   0 ||| (U.shl 64 t.l0 0 >>> 32) % 256,
   0 ||| (U.shl 64 t.l0 0 >>> 40) % 256,
   0 ||| (U.shl 64 t.l0 0 >>> 48) % 256 ||| (U.shl 64 t.l1 3 >>> 0) % 256,
   0 ||| (U.shl 64 t.l0 0 >>> 56) % 256 ||| (U.shl 64 t.l1 3 >>> 8) % 256,
   0 ||| (U.shl 64 t.l1 3 >>> 16) % 256,
   0 ||| (U.shl 64 t.l1 3 >>> 24) % 256,
   0 ||| (U.shl 64 t.l1 3 >>> 32) % 256,
   0 ||| (U.shl 64 t.l1 3 >>> 40) % 256,
   0 ||| (U.shl 64 t.l1 3 >>> 48) % 256 ||| (U.shl 64 t.l2 6 >>> 0) % 256,
   0 ||| (U.shl 64 t.l1 3 >>> 56) % 256 ||| (U.shl 64 t.l2 6 >>> 8) % 256,
   0 ||| (U.shl 64 t.l2 6 >>> 16) % 256,
   0 ||| (U.shl 64 t.l2 6 >>> 24) % 256,
   0 ||| (U.shl 64 t.l2 6 >>> 32) % 256,
   0 ||| (U.shl 64 t.l2 6 >>> 40) % 256,
   0 ||| (U.shl 64 t.l2 6 >>> 48) % 256,
   0 ||| (U.shl 64 t.l2 6 >>> 56) % 256 ||| (U.shl 64 t.l3 1 >>> 0) % 256,
   0 ||| (U.shl 64 t.l3 1 >>> 8) % 256,
   0 ||| (U.shl 64 t.l3 1 >>> 16) % 256,
   0 ||| (U.shl 64 t.l3 1 >>> 24) % 256,
   0 ||| (U.shl 64 t.l3 1 >>> 32) % 256,
   0 ||| (U.shl 64 t.l3 1 >>> 40) % 256,
   0 ||| (U.shl 64 t.l3 1 >>> 48) % 256 ||| (U.shl 64 t.l4 4 >>> 0) % 256,
   0 ||| (U.shl 64 t.l3 1 >>> 56) % 256 ||| (U.shl 64 t.l4 4 >>> 8) % 256,
   0 ||| (U.shl 64 t.l4 4 >>> 16) % 256,
   0 ||| (U.shl 64 t.l4 4 >>> 24) % 256,
   0 ||| (U.shl 64 t.l4 4 >>> 32) % 256,
   0 ||| (U.shl 64 t.l4 4 >>> 40) % 256,
   0 ||| (U.shl 64 t.l4 4 >>> 48) % 256]

theorem bytesL_length (t : Fe) : (bytesL t).length = 32 := rfl

/-- the cells of the `[32]byte` result -/
def bytesV (t : Fe) : List Val := (bytesL t).map Val.int

/-- the last contents of the local `buf [8]byte` -/
def bufV (t : Fe) : List Val := [.int ((U.shl 64 t.l4 4 >>> 0) % 256), .int ((U.shl 64 t.l4 4 >>> 8) % 256), .int ((U.shl 64 t.l4 4 >>> 16) % 256), .int ((U.shl 64 t.l4 4 >>> 24) % 256), .int ((U.shl 64 t.l4 4 >>> 32) % 256), .int ((U.shl 64 t.l4 4 >>> 40) % 256), .int ((U.shl 64 t.l4 4 >>> 48) % 256), .int ((U.shl 64 t.l4 4 >>> 56) % 256)]

/-- the blocks allocated by `(*field.Element).Bytes` on an element whose reduction is `t`:
    the result array, the local copy `t`, the buffer, the array `[5]uint64` of the `range` statement -/
def extBytes (t : Fe) : List (Array Val) := [(bytesV t).toArray, (feL t).toArray, (bufV t).toArray, (feL t).toArray]

theorem extBytes_eq (t : Fe) : extBytes t = [(bytesV t).toArray, (feL t).toArray, (bufV t).toArray, (feL t).toArray] := by rw [extBytes]

/-! ## the model -/

/-- the inner loop of the model on lists -/
def orL (out : List Nat) (base : Nat) : Nat → List Nat → List Nat
  | _, [] => out
  | j, bb :: r => orL (if out.length ≤ base + j then out else out.set (base + j) (out[base + j]?.getD 0 ||| bb)) base (j + 1) r

theorem orFold (base : Nat) (buf : List Nat) : ∀ (out : List Nat) (n : Nat),
    (buf.zipIdx n).foldl (fun out (x : Nat × Nat) =>
      let off := base + x.2
      if off ≥ out.size then out else out.set! off (out[off]! ||| x.1)) out.toArray = (orL out base n buf).toArray := by
  induction buf with
  | nil => intro out n; rfl
  | cons b r ih =>
    intro out n
    simp only [List.zipIdx_cons, List.foldl_cons, orL]
    rw [← ih]
    congr 1
    by_cases h : out.length ≤ base + n
    · simp [h]
    · simp [h]

theorem orBytesAt_toArray (out : List Nat) (base : Nat) (buf : List Nat) :
    Fe.orBytesAt out.toArray base buf = (orL out base 0 buf).toArray := by
  unfold Fe.orBytesAt
  exact orFold base buf out 0

theorem range8 : List.range 8 = [0,1,2,3,4,5,6,7] := by decide
theorem zeros32 : Bin.zeros 32 = [0,0,0,0,0,0,0,0,0,0,0,0,0,0,0,0,0,0,0,0,0,0,0,0,0,0,0,0,0,0,0,0].toArray := by decide

/-! `orL` on a literal list, cell by cell: skip the cells in front of `base`, or the bytes into the next cells, stop at the end of
the buffer or of the list (each step leaves a shorter term; unfolding `orL` with `List.set` at an index is far dearer to check) -/

/-- a cell in front of the cells that `orL` touches is left alone -/
theorem orL_cons (a : Nat) : ∀ (buf out : List Nat) (base j base' j' : Nat), base + j = base' + j' + 1 →
    orL (a :: out) base j buf = a :: orL out base' j' buf
  | [], _, _, _, _, _, _ => rfl
  | bb :: r, out, base, j, base', j', h => by
    simp only [orL, List.length_cons]
    rw [h, List.getElem?_cons_succ]
    by_cases hl : out.length ≤ base' + j'
    · rw [if_pos hl, if_pos (by omega)]; exact orL_cons a r out base (j + 1) base' (j' + 1) (by omega)
    · rw [if_neg hl, if_neg (by omega), List.set_cons_succ]; exact orL_cons a r _ base (j + 1) base' (j' + 1) (by omega)

theorem orL_skip (a : Nat) (out : List Nat) (base : Nat) (buf : List Nat) : orL (a :: out) (base + 1) 0 buf = a :: orL out base 0 buf :=
  orL_cons a buf out (base + 1) 0 base 0 rfl

theorem orL_head (c : Nat) (out : List Nat) (b : Nat) (r : List Nat) : orL (c :: out) 0 0 (b :: r) = (c ||| b) :: orL out 0 0 r := by
  rw [orL, if_neg (by simp), List.set_cons_zero]
  exact orL_cons _ r out 0 1 0 0 rfl

theorem orL_done (out : List Nat) (base j : Nat) : orL out base j [] = out := by rw [orL]

theorem orL_nil : ∀ (buf : List Nat) (base j : Nat), orL [] base j buf = []
  | [], _, _ => rfl
  | _ :: r, base, j => by rw [orL, List.length_nil, if_pos (Nat.zero_le _)]; exact orL_nil r base (j + 1)

theorem bytes_eq (v : Fe) : Fe.bytes v = (bytesL (Fe.reduce v)).toArray := by
  unfold Fe.bytes
  generalize Fe.reduce v = t
  simp only [Fe.putLE64, range8, zeros32, List.zipIdx_cons, List.zipIdx_nil, List.foldl_cons, List.foldl_nil, List.map_cons, List.map_nil,
    Nat.reduceMul, Nat.reduceAdd, Nat.reduceMod, Nat.reduceDiv, Nat.zero_add]
  rw [orBytesAt_toArray, orBytesAt_toArray, orBytesAt_toArray, orBytesAt_toArray, orBytesAt_toArray]
  simp only [orL_skip, orL_head, orL_done, orL_nil]
  rfl

/-! ## `ConstantTimeCompare` -/

theorem foldl_or_eq_zero (f : Nat → Nat) : ∀ (l : List Nat) (init : Nat),
    (l.foldl (fun acc i => acc ||| f i) init = 0) ↔ (init = 0 ∧ ∀ i ∈ l, f i = 0)
  | [], init => by simp
  | a :: l, init => by
    simp only [List.foldl_cons, foldl_or_eq_zero f l, Nat.or_eq_zero_iff, List.mem_cons, forall_eq_or_imp]
    exact ⟨fun ⟨⟨h1, h2⟩, h3⟩ => ⟨h1, h2, h3⟩, fun ⟨h1, h2, h3⟩ => ⟨⟨h1, h2⟩, h3⟩⟩

theorem xor_eq_zero_iff' (a b : Nat) : a ^^^ b = 0 ↔ a = b := by
  constructor
  · intro h
    apply Nat.eq_of_testBit_eq
    intro i
    have := congrArg (fun x => x.testBit i) h
    simp only [Nat.testBit_xor, Nat.zero_testBit] at this
    cases ha : a.testBit i <;> cases hb : b.testBit i <;> simp [ha, hb] at this ⊢
  · rintro rfl; exact Nat.xor_self a

theorem ctCompare_list (a b : List Nat) (h : a.length = b.length) :
    Fe.ctCompare a.toArray b.toArray = if a = b then 1 else 0 := by
  unfold Fe.ctCompare
  have hs : (a.toArray.size != b.toArray.size) = false := by simp [h]
  simp only [hs, Bool.false_eq_true, if_false]
  have key : ((List.range a.toArray.size).foldl (fun acc i => acc ||| (a.toArray[i]! ^^^ b.toArray[i]!)) 0 = 0) ↔ a = b := by
    rw [foldl_or_eq_zero (fun i => a.toArray[i]! ^^^ b.toArray[i]!)]
    simp only [true_and, List.mem_range, xor_eq_zero_iff', List.size_toArray]
    constructor
    · intro hh
      apply List.ext_getElem h
      intro i h1 h2
      have := hh i h1
      simpa [h1, h2] using this
    · rintro rfl i hi; rfl
  by_cases e : a = b
  · simp only [e, if_true]
    have := key.mpr e
    subst e
    simp only [this, beq_self_eq_true, if_true]
  · simp only [e, if_false]
    have : ¬ ((List.range a.toArray.size).foldl (fun acc i => acc ||| (a.toArray[i]! ^^^ b.toArray[i]!)) 0 = 0) := fun hh => e (key.mp hh)
    rw [if_neg]
    simpa using this

theorem map_int_inj (a b : List Nat) : (a.map Val.int = b.map Val.int) ↔ a = b :=
  List.map_inj_right (fun x y h => by cases h; rfl)

/-- what `ConstantTimeCompare` returns on the byte blocks of `u` and `v` = the model's `Fe.equal v u` -/
theorem cmp_bytesV (v u : Fe) :
    (if bytesV (Fe.reduce u) = bytesV (Fe.reduce v) then 1 else 0) = Fe.equal v u := by
  unfold Fe.equal
  rw [bytes_eq, bytes_eq, ctCompare_list _ _ (by rw [bytesL_length, bytesL_length])]
  simp only [bytesV, map_int_inj]

theorem bytesV_data (t : Fe) : (bytesV t).all (·.cls = .data) = true := by
  simp [bytesV, Val.cls]

theorem readCells_full : ∀ (L : List Val) (pre : List Val), readCells (pre ++ L).toArray pre.length L.length = some L
  | [], pre => rfl
  | x :: L, pre => by
    simp only [readCells, List.length_cons]
    have e : (pre ++ x :: L).toArray[pre.length]? = some x := by simp
    rw [e]
    have := readCells_full L (pre ++ [x])
    simp only [List.append_assoc, List.singleton_append, List.length_append, List.length_cons, List.length_nil] at this
    rw [this]; rfl

theorem readCells_bytesV (t : Fe) : readCells (bytesV t).toArray 0 32 = some (bytesV t) := by
  have := readCells_full (bytesV t) []
  simpa [bytesV, bytesL_length] using this

end EdVerif.Ssa.Tie
