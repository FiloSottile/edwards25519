import EdVerif.Ssa.Tie.Misc
import EdVerif.Ssa.Tie.Arith
/-!
# `(*field.Element).SetBytes`
-/
namespace EdVerif.Ssa.Tie
open EdVerif.Ssa EdVerif.Gen.Ssa EdVerif.Prims
set_option maxRecDepth 100000

open Lean Elab Term Meta in
/-- `block% f n`: the instruction list of block `n` of the `Func` constant `f` -/
elab "block% " c:ident n:num : term => do
  let cn ← realizeGlobalConstNoOverloadWithInfo c
  let some (.defnInfo d) := (← getEnv).find? cn | throwError "not a definition"
  let args := d.value.getAppArgs
  let mut blocks := args[args.size - 1]!
  for _ in [0:n.getNat] do
    let some (_, _, tl) := blocks.app3? ``List.cons | throwError "no such block"
    blocks := tl
  let some (_, b, _) := blocks.app3? ``List.cons | throwError "no such block"
  unless b.isAppOf ``Block.mk do throwError "not a block literal"
  return b.getAppArgs[0]!

/-! ## more rewrite rules: `if`, `len`, slicing, `binary.LittleEndian.Uint64`, loads of zero-size values -/
section rules
variable (p : Program) (hp : Heap) (fi : Nat) (f : Func) (regs params : Array RVal) (blk : Nat) (rest : List Instr)
  (dest : Option Nat) (frs : List Frame) (id : Nat) (k : VK) (ln ty : Nat) (tys : List Nat)

/-- continuation of an `If` once the condition is evaluated -/
def ifK (p : Program) (hp : Heap) (fr : Frame) (frs : List Frame) (t e : Nat) : Option RVal → Step
  | some [.bool b] =>
    match jumpTo p fr (if b then t else e) with
    | some fr' => .cont ⟨hp, fr' :: frs⟩ [ev fr K.branch [.bool b]]
    | none => .fault "if: target"
  | _ => .fault "if: condition"

theorem step_if (c : Opnd) (t e : Nat) :
    step p ⟨hp, ⟨fi, f, regs, params, blk, ⟨id, k, ln, .if c t e, ty, tys⟩ :: rest, dest⟩ :: frs⟩
      = ifK p hp ⟨fi, f, regs, params, blk, rest, dest⟩ frs t e
          (evalOpnd p ⟨fi, f, regs, params, blk, rest, dest⟩ (tys.headD 0) c) := by
  rfl

theorem ifK_false (fr : Frame) (t e : Nat) (fr' : Frame) (h : jumpTo p fr e = some fr') :
    ifK p hp fr frs t e (some [.bool false]) = .cont ⟨hp, fr' :: frs⟩ [ev fr K.branch [.bool false]] := by
  simp [ifK, h]

theorem step_slice (xk : VK) (x : Opnd) (lo hi mx : Option Opnd) :
    step p ⟨hp, ⟨fi, f, regs, params, blk, ⟨id, k, ln, .slice xk x lo hi mx, ty, tys⟩ :: rest, dest⟩ :: frs⟩
      = stepSlice p hp ⟨fi, f, regs, params, blk, rest, dest⟩ frs ⟨id, k, ln, .slice xk x lo hi mx, ty, tys⟩ x lo hi mx := rfl

theorem step_indexAddr (xk : VK) (x ix : Opnd) :
    step p ⟨hp, ⟨fi, f, regs, params, blk, ⟨id, k, ln, .indexAddr xk x ix, ty, tys⟩ :: rest, dest⟩ :: frs⟩
      = stepIndexAddr p hp ⟨fi, f, regs, params, blk, rest, dest⟩ frs ⟨id, k, ln, .indexAddr xk x ix, ty, tys⟩ x ix := rfl

end rules

theorem checkIndex_lit (n len : Nat) (h1 : n < len) (h2 : n < 9223372036854775808) : checkIndex 64 true n len = some n := by
  have h : ¬ ((n : Int) < 0) := by omega
  have : n < 2 ^ (64 - 1) := by omega
  simp [checkIndex, asInt, toInt, this, h, h1]

theorem evalOpnd_nil_iface (p : Program) (fr : Frame) (ty : Nat) : evalOpnd p fr ty (.nil .iface) = some [.nil] := rfl

theorem builtin_len (hp : Heap) (fr : Frame) (frs : List Frame) (i : Instr) (b o l c : Nat) :
    stepBuiltin hp fr frs i N30 [[.slice b o l c]] = contReg fr frs i.id [.int l] hp [] := by
  have h1 : (N30 == Ext.len) = true := by decide
  simp only [stepBuiltin, h1, if_true]

/-- continuation of `binary.LittleEndian.Uint64` once the eight bytes are read -/
def leK (hp : Heap) (fr : Frame) (frs : List Frame) (id b o : Nat) : Option Nat → Step
  | some v => contReg fr frs id [.int v] hp [ev fr K.sliceBound [.int 8], ev fr EK.addr [.ptr b o, .int 8]]
  | none => .fault "Uint64: not bytes"

theorem extern_leUint64 (p : Program) (hp : Heap) (fr : Frame) (frs : List Frame) (i : Instr) (a : RVal) (b o c : Nat) :
    stepExtern p hp fr frs i N106 [a, [.slice b o 8 c]] = leK hp fr frs i.id b o ((hp.read b o 8).bind bytesToNat) := by
  have h1 : (N106 == Ext.mul64) = false := by decide
  have h2 : (N106 == Ext.add64) = false := by decide
  have h3 : (N106 == Ext.sub64) = false := by decide
  have h4 : (N106 == Ext.ctByteEq) = false := by decide
  have h5 : (N106 == Ext.ctCompare) = false := by decide
  have h6 : (N106 == Ext.leUint64) = true := by decide
  simp only [stepExtern, h1, h2, h3, h4, h5, h6, if_true, Bool.false_eq_true, if_false, Nat.lt_irrefl]
  cases (hp.read b o 8).bind bytesToNat <;> rfl

theorem leK_some (hp : Heap) (fr : Frame) (frs : List Frame) (id b o v : Nat) :
    leK hp fr frs id b o (some v) = contReg fr frs id [.int v] hp [ev fr K.sliceBound [.int 8], ev fr EK.addr [.ptr b o, .int 8]] := rfl

theorem tyOf_15 : prog.tyOf 15 = .int 8 false := rfl
theorem tyOf_16 : prog.tyOf 16 = .slice 15 := rfl
theorem tyOf_17 : prog.tyOf 17 = .arr 32 15 := rfl
theorem tyOf_18 : prog.tyOf 18 = .ptr 17 := rfl
theorem tyOf_52 : prog.tyOf 52 = .ptr 15 := rfl
theorem size_3 : prog.size 3 = some 1 := rfl
theorem size_15 : prog.size 15 = some 1 := rfl
theorem zeros_12 : prog.zeros 12 = some [] := rfl
theorem zeros_15 : prog.zeros 15 = some [.int 0] := rfl
theorem zeros_17 : prog.zeros 17 = some [.int 0, .int 0, .int 0, .int 0, .int 0, .int 0, .int 0, .int 0,
    .int 0, .int 0, .int 0, .int 0, .int 0, .int 0, .int 0, .int 0, .int 0, .int 0, .int 0, .int 0, .int 0, .int 0, .int 0, .int 0,
    .int 0, .int 0, .int 0, .int 0, .int 0, .int 0, .int 0, .int 0] := rfl
theorem intOfTy_15 : intOfTy prog 15 = some (8, false) := rfl
theorem cls0 : listEqClasses [] [] = true := rfl

/-- a constant bound of a slice expression -/
theorem evalBound_cint (fr : Frame) (d n : Nat) (k : VK) (hn : n < 9223372036854775808) :
    evalBound prog fr 10 d (some (.cint k n)) = some (some n, [.int n]) := by
  have h : ¬ ((n : Int) < 0) := by omega
  simp only [evalBound, evalOpnd, intOfTy_10, asInt, toInt, if_true]
  have : n < 2 ^ (64 - 1) := by omega
  simp [this, h]

theorem evalBound_none (p : Program) (fr : Frame) (ty d : Nat) : evalBound p fr ty d none = some (some d, []) := rfl

/-- a load of zero cells only needs the block to exist -/
theorem read_zero (h0 : Heap) (ovr ext) (b o : Nat) (hb : b < h0.blocks.size) : (mkH h0 ovr ext).read b o 0 = some [] := by
  have hlt : b < (mkH h0 ovr ext).blocks.size := by rw [mkH_size]; omega
  simp only [Heap.read, Array.getElem?_eq_getElem hlt]
  rfl

/-- the run reads eight bytes Horner-wise, `Bin.le64` as a sum of shifted bytes -/
theorem le_bridge (b0 b1 b2 b3 b4 b5 b6 b7 : Nat) :
    b0 + 256 * (b1 + 256 * (b2 + 256 * (b3 + 256 * (b4 + 256 * (b5 + 256 * (b6 + 256 * (b7 + 0)))))))
      = b0 + b1 * 2 ^ 8 + b2 * 2 ^ 16 + b3 * 2 ^ 24 + b4 * 2 ^ 32 + b5 * 2 ^ 40 + b6 * 2 ^ 48 + b7 * 2 ^ 56 := by omega

/-! ## `SetBytes` -/

def body75 : List Instr := body% f75
def blk75_2 : List Instr := block% f75 2
theorem funcs_75 : prog.funcs[75]? = some f75 := rfl
theorem mkFrame_75 (args : List RVal) (dest : Option Nat) :
    mkFrame 75 f75 args dest = some ⟨75, f75, #[], args.toArray, 0, body75, dest⟩ := rfl
theorem resultTys_75 : f75.resultTys = [19, 32] := rfl
theorem funcIdx_75 : prog.funcIdx? (nm! "(*field.Element).SetBytes") = some 75 := by decide +kernel
theorem jumpTo_75_2 (regs params : Array RVal) (rest : List Instr) (dest : Option Nat) :
    jumpTo prog ⟨75, f75, regs, params, 0, rest, dest⟩ 2 = some ⟨75, f75, regs, params, 2, blk75_2, dest⟩ := rfl

theorem core_SetBytes (h0 : Heap) (ovr ext) (bv bx : Nat) (v0 v1 v2 v3 v4 x0 x1 x2 x3 x4 x5 x6 x7 x8 x9 x10 x11 x12 x13 x14 x15 x16 x17 x18 x19 x20 x21 x22 x23 x24 x25 x26 x27 x28 x29 x30 x31 : Nat)
    (hbv : bv < h0.blocks.size) (hbx : bx < h0.blocks.size) (h16 : 16 < h0.blocks.size) (hvx : bv ≠ bx) :
    run prog 60 ⟨mkH h0 ((bv, #[.int v0, .int v1, .int v2, .int v3, .int v4]) :: (bx, #[.int x0, .int x1, .int x2, .int x3, .int x4, .int x5, .int x6, .int x7, .int x8, .int x9, .int x10, .int x11, .int x12, .int x13, .int x14, .int x15, .int x16, .int x17, .int x18, .int x19, .int x20, .int x21, .int x22, .int x23, .int x24, .int x25, .int x26, .int x27, .int x28, .int x29, .int x30, .int x31]) :: ovr) ext,
        [⟨75, f75, #[], #[[.ptr bv 0], [.slice bx 0 32 32]], 0, body75, none⟩]⟩
      = .done ⟨mkH h0 ((bv, feCells (EdVerif.Gen.Field.SetBytes ⟨v0, v1, v2, v3, v4⟩ #[x0, x1, x2, x3, x4, x5, x6, x7, x8, x9, x10, x11, x12, x13, x14, x15, x16, x17, x18, x19, x20, x21, x22, x23, x24, x25, x26, x27, x28, x29, x30, x31])) :: (bx, #[.int x0, .int x1, .int x2, .int x3, .int x4, .int x5, .int x6, .int x7, .int x8, .int x9, .int x10, .int x11, .int x12, .int x13, .int x14, .int x15, .int x16, .int x17, .int x18, .int x19, .int x20, .int x21, .int x22, .int x23, .int x24, .int x25, .int x26, .int x27, .int x28, .int x29, .int x30, .int x31]) :: ovr) ext, []⟩
          [[.ptr bv 0], [.nil]] := by
  simp only [body75]
  ssa_exec [resultTys_75, step_if, step_slice, ifK, jumpTo_75_2, blk75_2, builtin_len, extern_leUint64, leK_some, stepSlice,
    tyOf_16, size_15, zeros_12, cls0, evalBound_cint, evalBound_none, read_zero, evalOpnd_nil_iface, bytesToNat,
    bne_self_eq_false, Option.isSome_some, Option.isSome_none, Nat.reduceLeDiff, decide_true, decide_false, Bool.and_true, Bool.true_and,
    Bool.and_self, Nat.zero_le, Nat.le_refl, and_eq, shr_eq,
    read_hit, read_miss, write_hit, hbv, hbx, h16, hvx, hvx.symm, ne_eq, not_false_eq_true]
  simp only [le_bridge]
  simp only [feCells, EdVerif.Gen.Field.SetBytes, Bin.le64]
  rfl


/-- **tie**: `v.SetBytes(x)` for a 32-byte slice `x` = the whole of block `bx` (offset 0, length and capacity 32), on any heap
    that has the block of the package variable `binary.LittleEndian` (global 15 = block 16, a zero-size struct):
    returns `(v, nil)`; block `bv` then holds the limbs of T1's `SetBytes v x`; nothing else changes.
    (The bytes are arbitrary naturals: nothing in the run depends on them being `< 256`.) -/
theorem tie_SetBytes (h : Heap) (bv bx : Nat) (v : Fe) (x0 x1 x2 x3 x4 x5 x6 x7 x8 x9 x10 x11 x12 x13 x14 x15 x16 x17 x18 x19 x20 x21 x22 x23 x24 x25 x26 x27 x28 x29 x30 x31 : Nat)
    (hv : h.blocks[bv]? = some (feCells v)) (hx : h.blocks[bx]? = some #[.int x0, .int x1, .int x2, .int x3, .int x4, .int x5, .int x6, .int x7, .int x8, .int x9, .int x10, .int x11, .int x12, .int x13, .int x14, .int x15, .int x16, .int x17, .int x18, .int x19, .int x20, .int x21, .int x22, .int x23, .int x24, .int x25, .int x26, .int x27, .int x28, .int x29, .int x30, .int x31]) (h16 : 16 < h.blocks.size) :
    ∃ h', runCall prog 60 h (nm! "(*field.Element).SetBytes") [[.ptr bv 0], [.slice bx 0 32 32]]
            = some (.done ⟨h', []⟩ [[.ptr bv 0], [.nil]])
      ∧ Post1 h h' bv (feCells (EdVerif.Gen.Field.SetBytes v #[x0, x1, x2, x3, x4, x5, x6, x7, x8, x9, x10, x11, x12, x13, x14, x15, x16, x17, x18, x19, x20, x21, x22, x23, x24, x25, x26, x27, x28, x29, x30, x31])) := by
  obtain ⟨v0, v1, v2, v3, v4⟩ := v
  have hvx : bv ≠ bx := ne_of_cells hv hx (by simp [feCells])
  have core := core_SetBytes h [] [] bv bx v0 v1 v2 v3 v4 x0 x1 x2 x3 x4 x5 x6 x7 x8 x9 x10 x11 x12 x13 x14 x15 x16 x17 x18 x19 x20 x21 x22 x23 x24 x25 x26 x27 x28 x29 x30 x31 (lt_of_get hv) (lt_of_get hx) h16 hvx
  have hall : ∀ kv ∈ [(bx, #[.int x0, .int x1, .int x2, .int x3, .int x4, .int x5, .int x6, .int x7, .int x8, .int x9, .int x10, .int x11, .int x12, .int x13, .int x14, .int x15, .int x16, .int x17, .int x18, .int x19, .int x20, .int x21, .int x22, .int x23, .int x24, .int x25, .int x26, .int x27, .int x28, .int x29, .int x30, .int x31])], h.blocks[kv.1]? = some kv.2 := by simp [hx]
  rw [show mkH h [(bv, #[.int v0, .int v1, .int v2, .int v3, .int v4]), (bx, #[.int x0, .int x1, .int x2, .int x3, .int x4, .int x5, .int x6, .int x7, .int x8, .int x9, .int x10, .int x11, .int x12, .int x13, .int x14, .int x15, .int x16, .int x17, .int x18, .int x19, .int x20, .int x21, .int x22, .int x23, .int x24, .int x25, .int x26, .int x27, .int x28, .int x29, .int x30, .int x31])] [] = h from
      mkH_intro h _ (by simpa [feCells] using ⟨hv, hx⟩)] at core
  refine ⟨_, ?_, post1_mkH _ [] (lt_of_get hv) hall⟩
  simp only [runCall, funcIdx_75, callState, funcs_75, mkFrame_75, Option.bind_some, Option.map_some, Option.pure_def,
    Option.bind_eq_bind]
  rw [core]

end EdVerif.Ssa.Tie
