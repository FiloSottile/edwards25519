import EdVerif.Ssa.Tie.FeInvert
/-!
# `(*field.Element).Invert` on element slots `(block, offset)`: `preE_Invert`, all steps but the final `Return`, whatever lies below the frame
-/
namespace EdVerif.Ssa.Tie
open EdVerif.Ssa EdVerif.Gen.Ssa EdVerif.Prims EdVerif.Impl EdVerif.Gen
set_option maxRecDepth 100000
set_option linter.unusedVariables false

/-- all the steps of `v.Invert(z)` but its final `Return` (130744 steps), for any stack below its frame; the appended blocks `E` depend on
    the values only.  Each loop: first trip with the code before it, the other trips by `loop66_*`. -/
theorem preE_Invert (v z : Fe) : ∃ E : List (Array Val), ∀ (H : Heap) (bv ov bz oz : Nat) (hfv : Fits H bv ov 5) (hfz : Fits H bz oz 5)
    (hs : SepE bv ov bz oz) (dest : Option Nat) (tail : List Frame), ∃ regs : Array RVal,
    steps prog 130744 ⟨mkE H [(bv, ov, feL v), (bz, oz, feL z)] [], ⟨66, f66, #[], #[[.ptr bv ov], [.ptr bz oz]], 0, body66, dest⟩ :: tail⟩
      = some ⟨mkE H [(bv, ov, feL (Formulas.field_Element_Invert v z)), (bz, oz, feL z)] E,
          ⟨66, f66, regs, #[[.ptr bv ov], [.ptr bz oz]], 20, [⟨82, .none, 181, .ret [(.reg 81)], 0, [19]⟩], dest⟩ :: tail⟩
    ∧ regs[81]? = some [.ptr bv ov] := by
  apply Exists.intro
  intro H bv ov bz oz hfv hfz hs dest tail
  have hs1 : (bz ≠ bv ∨ ov + 5 ≤ oz ∨ oz + 5 ≤ ov) = True := eq_true hs
  have hs2 : (bv ≠ bz ∨ oz + 5 ≤ ov ∨ ov + 5 ≤ oz) = True := eq_true hs.symm
  have hs3 : (¬ bz = bv ∨ ov + 5 ≤ oz ∨ oz + 5 ≤ ov) = True := eq_true hs
  have hs4 : (¬ bv = bz ∨ oz + 5 ≤ ov ∨ ov + 5 ≤ oz) = True := eq_true hs.symm
  refine ⟨?regs, ?run, ?reg⟩
  case run =>
    show steps prog (5096 + (3 * 483 + (1701 + (8 * 483 + (1701 + (18 * 483 + (1701 + (8 * 483 + (1701 + (48 * 483 + (1701 + (98 * 483 + (1701 + (48 * 483 + (3869))))))))))))))) _ = _
    refine steps_chain ⟨_, by (simp only [body66]; ssa_execI [↓stepsA_Square, ↓stepsA_Multiply, hfv, hfv.1, hfz, hfz.1, hs, hs.symm, hs1, hs2, hs3, hs4]; rfl), ?_⟩
    refine steps_chain ⟨_, loop66_1 (by rfl) (by rfl) 3 (by decide), ?_⟩
    refine steps_chain ⟨_, by (ssa_execI [↓stepsA_Square, ↓stepsA_Multiply, sqLoopSt, hfv, hfv.1, hfz, hfz.1, hs, hs.symm, hs1, hs2, hs3, hs4]; rfl), ?_⟩
    refine steps_chain ⟨_, loop66_2 (by rfl) (by rfl) 8 (by decide), ?_⟩
    refine steps_chain ⟨_, by (ssa_execI [↓stepsA_Square, ↓stepsA_Multiply, sqLoopSt, hfv, hfv.1, hfz, hfz.1, hs, hs.symm, hs1, hs2, hs3, hs4]; rfl), ?_⟩
    refine steps_chain ⟨_, loop66_3 (by rfl) (by rfl) 18 (by decide), ?_⟩
    refine steps_chain ⟨_, by (ssa_execI [↓stepsA_Square, ↓stepsA_Multiply, sqLoopSt, hfv, hfv.1, hfz, hfz.1, hs, hs.symm, hs1, hs2, hs3, hs4]; rfl), ?_⟩
    refine steps_chain ⟨_, loop66_4 (by rfl) (by rfl) 8 (by decide), ?_⟩
    refine steps_chain ⟨_, by (ssa_execI [↓stepsA_Square, ↓stepsA_Multiply, sqLoopSt, hfv, hfv.1, hfz, hfz.1, hs, hs.symm, hs1, hs2, hs3, hs4]; rfl), ?_⟩
    refine steps_chain ⟨_, loop66_5 (by rfl) (by rfl) 48 (by decide), ?_⟩
    refine steps_chain ⟨_, by (ssa_execI [↓stepsA_Square, ↓stepsA_Multiply, sqLoopSt, hfv, hfv.1, hfz, hfz.1, hs, hs.symm, hs1, hs2, hs3, hs4]; rfl), ?_⟩
    refine steps_chain ⟨_, loop66_6 (by rfl) (by rfl) 98 (by decide), ?_⟩
    refine steps_chain ⟨_, by (ssa_execI [↓stepsA_Square, ↓stepsA_Multiply, sqLoopSt, hfv, hfv.1, hfz, hfz.1, hs, hs.symm, hs1, hs2, hs3, hs4]; rfl), ?_⟩
    refine steps_chain ⟨_, loop66_7 (by rfl) (by rfl) 48 (by decide), ?_⟩
    ssa_execI [↓stepsA_Square, ↓stepsA_Multiply, sqLoopSt, hfv, hfv.1, hfz, hfz.1, hs, hs.symm, hs1, hs2, hs3, hs4]
    rfl
  case reg => rfl

end EdVerif.Ssa.Tie
