import EdVerif.Ssa.Sem
/-!
# What the operations of the small-step semantics do

Facts about `Sem.lean` alone, used by all five soundness proofs: bounds from lookups; `regSet` / `assignAll` (the
normal form is `regSet_getElem?`); heap cells, `Heap.write` (characterised by `Heap.write_eq_some`), `Heap.alloc`;
operand lists and leading phis; inversion of the partial operations `jumpTo`, `mkFrame`, `callState` (when they
succeed, the result is the literal frame / state); `run_invariant`.
-/
namespace EdVerif.Ssa

/-! ## a successful lookup is in bounds -/

theorem lt_length_of_getElem? {α} {l : List α} {i : Nat} {a : α} (h : l[i]? = some a) : i < l.length :=
  let ⟨h', _⟩ := List.getElem?_eq_some_iff.1 h; h'

theorem lt_size_of_getElem? {α} {xs : Array α} {i : Nat} {a : α} (h : xs[i]? = some a) : i < xs.size :=
  let ⟨h', _⟩ := Array.getElem?_eq_some_iff.1 h; h'

/-! ## `regSet`, `assignAll` -/

theorem regSet_getElem? (a : Array RVal) (id : Nat) (v : RVal) (k : Nat) :
    (regSet a id v)[k]? =
      if k = id then some v else if k < a.size then a[k]? else if k < id then some [] else none := by
  unfold regSet
  by_cases h : id < a.size
  · simp only [h, if_true]
    rw [Array.getElem?_setIfInBounds]
    by_cases hk : k = id
    · subst hk; simp [h]
    · have : ¬ id = k := fun e => hk e.symm
      simp only [this, hk, if_false]
      by_cases hk2 : k < a.size
      · simp [hk2]
      · simp only [hk2, if_false]
        have : ¬ k < id := by omega
        simp only [this, if_false]
        exact Array.getElem?_eq_none (by omega)
  · simp only [h, if_false]
    have hsz : (a ++ Array.replicate (id - a.size) ([] : RVal)).size = id := by
      simp; omega
    rw [Array.getElem?_push, hsz]
    by_cases hk : k = id
    · simp [hk]
    · simp only [hk, if_false]
      rw [Array.getElem?_append]
      by_cases hk2 : k < a.size
      · simp [hk2]
      · simp only [hk2, if_false]
        rw [Array.getElem?_replicate]
        by_cases hk3 : k < id
        · have : k - a.size < id - a.size := by omega
          simp [hk3, this]
        · have : ¬ k - a.size < id - a.size := by omega
          simp [hk3, this]

theorem regSet_self (a : Array RVal) (id : Nat) (v : RVal) : (regSet a id v)[id]? = some v := by
  rw [regSet_getElem?]; simp

theorem regSet_other {a : Array RVal} {id : Nat} {v : RVal} {k : Nat} {w : RVal}
    (hk : k ≠ id) (h : a[k]? = some w) : (regSet a id v)[k]? = some w := by
  rw [regSet_getElem?]
  have : k < a.size := lt_size_of_getElem? h
  simp only [hk, this, if_false, if_true]
  exact h

/-- a property of all registers that holds for `[]` is preserved by `regSet` -/
theorem regSet_forall {P : Nat → RVal → Prop} {a : Array RVal} {id : Nat} {v : RVal}
    (ha : ∀ k w, a[k]? = some w → P k w) (hv : P id v) (hnil : ∀ k, P k []) :
    ∀ k w, (regSet a id v)[k]? = some w → P k w := by
  intro k w h
  rw [regSet_getElem?] at h
  by_cases hk : k = id
  · subst hk; simp at h; subst h; exact hv
  · simp only [hk, if_false] at h
    by_cases hk2 : k < a.size
    · simp only [hk2, if_true] at h; exact ha k w h
    · simp only [hk2, if_false] at h
      by_cases hk3 : k < id
      · simp only [hk3, if_true] at h
        cases h; exact hnil k
      · simp [hk3] at h

theorem regSet_size (a : Array RVal) (id : Nat) (v : RVal) : (regSet a id v).size = max a.size (id + 1) := by
  unfold regSet
  split
  · rw [Array.size_setIfInBounds]; omega
  · rw [Array.size_push, Array.size_append, Array.size_replicate]; omega

theorem regSet_size_gt (a : Array RVal) (id : Nat) (v : RVal) : id < (regSet a id v).size := by
  rw [regSet_size]; omega

theorem regSet_size_ge (a : Array RVal) (id : Nat) (v : RVal) : a.size ≤ (regSet a id v).size := by
  rw [regSet_size]; omega

theorem regSet_getD (a : Array RVal) (id : Nat) (v : RVal) (j : Nat) :
    ((regSet a id v)[j]?).getD [] = if j = id then v else (a[j]?).getD [] := by
  rw [regSet_getElem?]
  by_cases hj : j = id
  · simp [hj]
  · simp only [hj, if_false]
    by_cases hj2 : j < a.size
    · simp [hj2]
    · rw [Array.getElem?_eq_none (by omega)]
      by_cases hj3 : j < id <;> simp [hj2, hj3]

theorem assignAll_forall {P : Nat → RVal → Prop} (hnil : ∀ k, P k []) :
    ∀ (vals : List (Nat × RVal)) (a : Array RVal),
      (∀ k w, a[k]? = some w → P k w) → (∀ e ∈ vals, P e.1 e.2) →
      ∀ k w, (assignAll a vals)[k]? = some w → P k w := by
  intro vals
  induction vals with
  | nil => intro a ha _; simpa [assignAll] using ha
  | cons e es ih =>
    intro a ha hv
    obtain ⟨id, v⟩ := e
    simp only [assignAll]
    apply ih
    · exact regSet_forall ha (hv (id, v) (by simp)) hnil
    · intro e he; exact hv e (by simp [he])

/-- registers not assigned keep their value -/
theorem assignAll_other :
    ∀ (vals : List (Nat × RVal)) (a : Array RVal) (k : Nat) (w : RVal),
      (∀ e ∈ vals, e.1 ≠ k) → a[k]? = some w → (assignAll a vals)[k]? = some w := by
  intro vals
  induction vals with
  | nil => intro a k w _ h; simpa [assignAll] using h
  | cons e es ih =>
    intro a k w hne h
    obtain ⟨id, v⟩ := e
    simp only [assignAll]
    apply ih
    · intro e he; exact hne e (by simp [he])
    · exact regSet_other (fun e => hne (id, v) (by simp) e.symm) h

/-- an assigned register holds one of the assigned values -/
theorem assignAll_mem :
    ∀ (vals : List (Nat × RVal)) (a : Array RVal) (k : Nat),
      (∃ e ∈ vals, e.1 = k) → ∃ e ∈ vals, e.1 = k ∧ (assignAll a vals)[k]? = some e.2 := by
  intro vals
  induction vals with
  | nil => intro a k h; obtain ⟨e, he, _⟩ := h; cases he
  | cons e es ih =>
    intro a k h
    obtain ⟨id, v⟩ := e
    simp only [assignAll]
    by_cases hlater : ∃ e ∈ es, e.1 = k
    · obtain ⟨e', he', hk, hval⟩ := ih (regSet a id v) k hlater
      exact ⟨e', by simp [he'], hk, hval⟩
    · have hid : id = k := by
        obtain ⟨e', he', hk⟩ := h
        rcases List.mem_cons.1 he' with h1 | h1
        · subst h1; exact hk
        · exact absurd ⟨e', h1, hk⟩ hlater
      refine ⟨(id, v), by simp, hid, ?_⟩
      apply assignAll_other
      · intro e' he' hk; exact hlater ⟨e', he', hk⟩
      · subst hid; exact regSet_self a id v

/-! ## heap -/

theorem readCells_length (b : Array Val) : ∀ (n off : Nat) (vs : List Val), readCells b off n = some vs → vs.length = n := by
  intro n
  induction n with
  | zero => intro off vs h; simp [readCells] at h; subst h; rfl
  | succ n ih =>
    intro off vs h
    simp only [readCells] at h
    cases hb : b[off]? with
    | none => simp [hb] at h
    | some v =>
      cases hr : readCells b (off + 1) n with
      | none => simp [hb, hr] at h
      | some r =>
        simp [hb, hr] at h
        subst h
        simp [ih (off + 1) r hr]

theorem Heap.read_length {h : Heap} {blk off n : Nat} {vs : List Val} (hr : h.read blk off n = some vs) :
    vs.length = n := by
  unfold Heap.read at hr
  cases hb : h.blocks[blk]? with
  | none => simp [hb] at hr
  | some b => simp [hb] at hr; exact readCells_length b n off vs hr

theorem writeCells_spec : ∀ (vs : List Val) (b : Array Val) (off : Nat) (b' : Array Val), writeCells b off vs = some b' →
    b'.size = b.size ∧ ∀ c, c < off → b'[c]? = b[c]? := by
  intro vs
  induction vs with
  | nil => intro b off b' h; simp only [writeCells, Option.some.injEq] at h; subst h; exact ⟨rfl, fun _ _ => rfl⟩
  | cons v vs ih =>
    intro b off b' h
    simp only [writeCells] at h
    cases hb : b[off]? with
    | none => simp [hb] at h
    | some old =>
      simp only [hb] at h
      split at h
      · obtain ⟨h1, h2⟩ := ih _ _ _ h
        refine ⟨by simpa using h1, ?_⟩
        intro c hc
        rw [h2 c (by omega), Array.getElem?_setIfInBounds]
        have : ¬ off = c := by omega
        simp [this]
      · cases h

theorem writeCells_head {v : Val} {vs : List Val} {b b' : Array Val} {off : Nat}
    (h : writeCells b off (v :: vs) = some b') : b'[off]? = some v := by
  simp only [writeCells] at h
  cases hb : b[off]? with
  | none => simp [hb] at h
  | some old =>
    simp only [hb] at h
    split at h
    · obtain ⟨_, h2⟩ := writeCells_spec _ _ _ _ h
      rw [h2 off (by omega), Array.getElem?_setIfInBounds]
      have : off < b.size := lt_size_of_getElem? hb
      simp [this]
    · cases h

/-- a successful write replaces block `blk` by the result of `writeCells` -/
theorem Heap.write_eq_some {h h' : Heap} {blk off : Nat} {vs : List Val} (hw : h.write blk off vs = some h') :
    ∃ bl b', h.blocks[blk]? = some bl ∧ writeCells bl off vs = some b' ∧ h'.blocks = h.blocks.setIfInBounds blk b' := by
  unfold Heap.write at hw
  cases hb : h.blocks[blk]? with
  | none => simp [hb] at hw
  | some bl =>
    simp only [hb] at hw
    cases hc : writeCells bl off vs with
    | none => simp [hc] at hw
    | some b' =>
      simp only [hc, Option.some.injEq] at hw
      subst hw
      exact ⟨bl, b', rfl, hc, Array.setIfInBounds_setIfInBounds ..⟩

theorem Heap.write_spec {h h' : Heap} {blk off : Nat} {vs : List Val} (hw : h.write blk off vs = some h') :
    blk < h.blocks.size ∧ h'.blocks.size = h.blocks.size ∧ ∀ b, b ≠ blk → h'.blocks[b]? = h.blocks[b]? := by
  obtain ⟨bl, b', hb, _, e⟩ := Heap.write_eq_some hw
  refine ⟨lt_size_of_getElem? hb, by rw [e, Array.size_setIfInBounds], ?_⟩
  intro b hne
  rw [e, Array.getElem?_setIfInBounds_ne (Ne.symm hne)]

/-- the written block afterwards -/
theorem Heap.write_block {h h' : Heap} {blk off : Nat} {vs : List Val} (hw : h.write blk off vs = some h') :
    ∃ bl b', h.blocks[blk]? = some bl ∧ writeCells bl off vs = some b' ∧ h'.blocks[blk]? = some b' := by
  obtain ⟨bl, b', hb, hc, e⟩ := Heap.write_eq_some hw
  exact ⟨bl, b', hb, hc, by rw [e, Array.getElem?_setIfInBounds_self_of_lt (lt_size_of_getElem? hb)]⟩

theorem Heap.write_nil {h h' : Heap} {blk off : Nat} (hw : h.write blk off [] = some h') :
    ∀ b : Nat, h'.blocks[b]? = h.blocks[b]? := by
  intro b
  by_cases hb : b = blk
  · obtain ⟨bl, b', h1, h2, h3⟩ := Heap.write_block hw
    simp only [writeCells, Option.some.injEq] at h2
    rw [hb, h3, h1, h2]
  · exact (Heap.write_spec hw).2.2 b hb

theorem Heap.alloc_spec (h : Heap) (vs : List Val) :
    (h.alloc vs).2 = h.blocks.size ∧ (h.alloc vs).1.blocks.size = h.blocks.size + 1 ∧
    ∀ b, b < h.blocks.size → (h.alloc vs).1.blocks[b]? = h.blocks[b]? := by
  refine ⟨rfl, by simp [Heap.alloc], ?_⟩
  intro b hb
  simp [Heap.alloc, Array.getElem?_push, hb, Nat.ne_of_lt hb]

/-! ## operands, phis -/

theorem evalOpnds_cons_some {p : Program} {fr : Frame} {o : Opnd} {os : List Opnd} {tys : List Nat} {vs : List RVal}
    (h : evalOpnds p fr (o :: os) tys = some vs) :
    ∃ v ws, evalOpnd p fr (tys.headD 0) o = some v ∧ evalOpnds p fr os tys.tail = some ws ∧ vs = v :: ws := by
  unfold evalOpnds at h
  cases hv : evalOpnd p fr (tys.headD 0) o with
  | none => rw [hv] at h; simp at h
  | some v =>
    cases hvs : evalOpnds p fr os tys.tail with
    | none => rw [hv, hvs] at h; simp at h
    | some ws =>
      rw [hv, hvs] at h
      simp at h
      exact ⟨v, ws, rfl, rfl, h.symm⟩

/-- operand `j` is evaluated at type `tys[j]` (or `0`) and gives the `j`-th value -/
theorem evalOpnds_spec (p : Program) (fr : Frame) : ∀ (os : List Opnd) (tys : List Nat) (vs : List RVal),
    evalOpnds p fr os tys = some vs →
    vs.length = os.length ∧
    ∀ (j : Nat) (o : Opnd), os[j]? = some o → ∃ v, vs[j]? = some v ∧ evalOpnd p fr ((tys.drop j).headD 0) o = some v := by
  intro os
  induction os with
  | nil => intro tys vs h; simp [evalOpnds] at h; subst h; exact ⟨rfl, fun j o ho => by simp at ho⟩
  | cons o os ih =>
    intro tys vs h
    obtain ⟨v, ws, ho, hos, rfl⟩ := evalOpnds_cons_some h
    obtain ⟨hl, hj⟩ := ih tys.tail ws hos
    refine ⟨by simp [hl], ?_⟩
    intro j o' ho'
    cases j with
    | zero => simp at ho'; subst ho'; exact ⟨v, by simp, by simpa using ho⟩
    | succ j =>
      simp at ho'
      obtain ⟨v', hv1, hv2⟩ := hj j o' ho'
      refine ⟨v', by simpa using hv1, ?_⟩
      rw [List.drop_tail] at hv2
      exact hv2

theorem splitPhis_spec : ∀ (is : List Instr),
    is = (splitPhis is).1 ++ (splitPhis is).2 ∧ ∀ j ∈ (splitPhis is).1, ∃ es, j.op = .phi es := by
  intro is
  induction is with
  | nil => simp [splitPhis]
  | cons i is ih =>
    unfold splitPhis
    split
    · rename_i es hop
      simp only [List.cons_append, List.mem_cons]
      refine ⟨by rw [← ih.1], ?_⟩
      intro j hj
      rcases hj with e | e
      · subst e; exact ⟨es, hop⟩
      · exact ih.2 j e
    · simp

/-! ## frames -/

theorem jumpTo_eq_some {p : Program} {fr fr' : Frame} {t : Nat} (h : jumpTo p fr t = some fr') :
    ∃ tb vals, fr.f.blocks[t]? = some tb ∧ evalPhis p fr fr.blk (splitPhis tb.instrs).1 = some vals ∧
      fr' = { fr with regs := assignAll fr.regs vals, blk := t, rest := (splitPhis tb.instrs).2 } := by
  unfold jumpTo at h
  cases hb : fr.f.blocks[t]? with
  | none => simp [hb] at h
  | some tb =>
    simp only [hb, Option.bind_eq_bind, Option.bind_some] at h
    cases hv : evalPhis p fr fr.blk (splitPhis tb.instrs).1 with
    | none => simp [hv] at h
    | some vals =>
      simp only [hv, Option.bind_some] at h
      cases h
      exact ⟨tb, vals, rfl, hv, rfl⟩

theorem mkFrame_eq_some {fi : Nat} {f : Func} {args : List RVal} {dest : Option Nat} {fr : Frame}
    (h : mkFrame fi f args dest = some fr) :
    ∃ b0, f.blocks[0]? = some b0 ∧
      fr = { fi := fi, f := f, regs := #[], params := args.toArray, blk := 0, rest := b0.instrs, dest := dest } := by
  unfold mkFrame at h
  cases hb : f.blocks[0]? with
  | none => simp [hb] at h
  | some b0 =>
    simp only [hb, Option.bind_eq_bind, Option.bind_some] at h
    cases h
    exact ⟨b0, rfl, rfl⟩

theorem callState_eq_some {p : Program} {heap : Heap} {fi : Nat} {f : Func} {args : List RVal} {s : State}
    (hf : p.funcs[fi]? = some f) (h : callState p heap fi args = some s) :
    ∃ fr, mkFrame fi f args none = some fr ∧ s = ⟨heap, [fr]⟩ := by
  unfold callState at h
  simp only [hf, Option.bind_eq_bind, Option.bind_some] at h
  cases hm : mkFrame fi f args none with
  | none => simp [hm] at h
  | some fr =>
    simp only [hm, Option.bind_some] at h
    cases h
    exact ⟨fr, rfl, rfl⟩

/-! ## `run` -/

/-- an invariant of `step` holds of whatever `run` ends in -/
theorem run_invariant {p : Program} {Inv : State → Prop} {Post : Outcome → Prop}
    (hstep : ∀ s, Inv s → match step p s with
      | .cont s' _ => Inv s'
      | .done s' rets _ => Post (.done s' rets)
      | .panic s' c _ => Post (.panic s' c)
      | .fault w => Post (.fault w))
    (hfuel : ∀ s, Inv s → Post (.outOfFuel s)) : ∀ (fuel : Nat) (s : State), Inv s → Post (run p fuel s) := by
  intro fuel
  induction fuel with
  | zero => exact hfuel
  | succ fuel ih =>
    intro s hs
    have h := hstep s hs
    unfold run
    generalize step p s = r at h ⊢
    cases r with
    | cont s' _ => exact ih s' h
    | done _ _ _ => exact h
    | panic _ _ _ => exact h
    | fault _ => exact h

end EdVerif.Ssa
