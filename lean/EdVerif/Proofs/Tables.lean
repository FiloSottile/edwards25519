import EdVerif.Impl.Point
import Mathlib.Algebra.Group.Basic
/-!
Small lemmas about the lookup-table selection helpers of the model
(`xmaskOf`, `xabsOf`, `ctByteEq`, `projSelect`, `affineSelect`, `nafSelect`, `Scalar.wrap8`),
plus the abstract group-level statements used to connect table selection with `x • Q`.
-/
namespace EdVerif.Proofs
open EdVerif.Impl EdVerif.Impl.Point

/-! ## 1. `xabsOf` -/

theorem xabsOf_fin : ∀ n : Fin 255, xabsOf ((n.val : Int) - 127) = ((n.val : Int) - 127).natAbs := by
  decide +kernel

theorem xabsOf_eq (x : Int) (h : -128 < x ∧ x < 128) : xabsOf x = x.natAbs := by
  have hlt : (x + 127).toNat < 255 := by omega
  have hx : x = (((⟨(x + 127).toNat, hlt⟩ : Fin 255).val : Int)) - 127 := by
    show x = (((x + 127).toNat : Nat) : Int) - 127
    omega
  have := xabsOf_fin ⟨(x + 127).toNat, hlt⟩
  rw [← hx] at this
  exact this

/-! ## 2. `xmaskOf` -/

theorem xmaskOf_and_one (x : Int) : xmaskOf x &&& 1 = if x < 0 then 1 else 0 := by
  unfold xmaskOf
  split <;> rfl

/-! ## 3. `ctByteEq` -/

theorem ctByteEq_eq (a b : Nat) : ctByteEq a b = if a = b then 1 else 0 := by
  unfold ctByteEq
  by_cases h : a = b <;> simp [h]

/-! ## 4. Generic select-fold -/

/-- the select laws are only required for entries satisfying `Pr` (`Fe.select` is only specified on limbs
satisfying the invariant) -/
theorem select_fold_range_inv {α : Type _} (Pr : α → Prop) (sel : α → α → Nat → α)
    (hsel1 : ∀ a b, Pr a → Pr b → sel a b 1 = a) (hsel0 : ∀ a b, Pr a → Pr b → sel a b 0 = b)
    (t : Nat → α) (zero : α) (xabs : Nat) (n : Nat) (hz : Pr zero) (ht : ∀ j < n, Pr (t j)) :
    (List.range n).foldl (fun dest j => sel (t j) dest (ctByteEq xabs (j + 1))) zero
      = if 1 ≤ xabs ∧ xabs ≤ n then t (xabs - 1) else zero := by
  induction n with
  | zero =>
    have : ¬ (1 ≤ xabs ∧ xabs ≤ 0) := by omega
    rw [if_neg this]
    rfl
  | succ n ih =>
    have ih := ih (fun j hj => ht j (by omega))
    rw [List.range_succ, List.foldl_append, ih]
    simp only [List.foldl_cons, List.foldl_nil]
    rw [ctByteEq_eq]
    have hprev : Pr (if 1 ≤ xabs ∧ xabs ≤ n then t (xabs - 1) else zero) := by
      split
      · exact ht _ (by omega)
      · exact hz
    by_cases he : xabs = n + 1
    · have h1 : 1 ≤ xabs ∧ xabs ≤ n + 1 := by omega
      rw [if_pos he, hsel1 _ _ (ht n (by omega)) hprev, if_pos h1]
      have : xabs - 1 = n := by omega
      rw [this]
    · rw [if_neg he, hsel0 _ _ (ht n (by omega)) hprev]
      by_cases h2 : 1 ≤ xabs ∧ xabs ≤ n
      · have h3 : 1 ≤ xabs ∧ xabs ≤ n + 1 := by omega
        rw [if_pos h2, if_pos h3]
      · have h3 : ¬ (1 ≤ xabs ∧ xabs ≤ n + 1) := by omega
        rw [if_neg h2, if_neg h3]

/-! ## 5. `projSelect` / `affineSelect` -/

theorem projSelect_eq
    (hsel1 : ∀ a b : Cached, Cached.select a b 1 = a)
    (hsel0 : ∀ a b : Cached, Cached.select a b 0 = b)
    (t : Array Cached) (x : Int) (h : -128 < x ∧ x < 128) :
    projSelect t x =
      Cached.condNeg
        (if 1 ≤ x.natAbs ∧ x.natAbs ≤ 8 then t[x.natAbs - 1]! else Cached.zero)
        (if x < 0 then 1 else 0) := by
  unfold projSelect
  simp only []
  rw [xmaskOf_and_one, xabsOf_eq x h]
  rw [select_fold_range_inv (fun _ => True) Cached.select (fun a b _ _ => hsel1 a b) (fun a b _ _ => hsel0 a b)
    (fun j => t[j]!) Cached.zero x.natAbs 8 trivial (fun _ _ => trivial)]

theorem affineSelect_eq
    (hsel1 : ∀ a b : AffineCached, AffineCached.select a b 1 = a)
    (hsel0 : ∀ a b : AffineCached, AffineCached.select a b 0 = b)
    (t : Array AffineCached) (x : Int) (h : -128 < x ∧ x < 128) :
    affineSelect t x =
      AffineCached.condNeg
        (if 1 ≤ x.natAbs ∧ x.natAbs ≤ 8 then t[x.natAbs - 1]! else AffineCached.zero)
        (if x < 0 then 1 else 0) := by
  unfold affineSelect
  simp only []
  rw [xmaskOf_and_one, xabsOf_eq x h]
  rw [select_fold_range_inv (fun _ => True) AffineCached.select (fun a b _ _ => hsel1 a b)
    (fun a b _ _ => hsel0 a b) (fun j => t[j]!) AffineCached.zero x.natAbs 8 trivial (fun _ _ => trivial)]

/-! ## 6. `nafSelect`, `wrap8` -/

theorem tdiv_two_odd (k : Nat) : (Int.tdiv (2 * (k : Int) + 1) 2).toNat = k := by
  have h0 : (0 : Int) ≤ 2 * (k : Int) + 1 := by omega
  rw [Int.tdiv_eq_ediv_of_nonneg h0]
  omega

theorem nafSelect_odd_pos {α} [Inhabited α] (t : Array α) (x : Int) (k : Nat)
    (h : x = 2 * k + 1) : nafSelect t x = t[k]! := by
  unfold nafSelect
  rw [h, tdiv_two_odd]

theorem wrap8_of_range (x : Int) (h : -128 ≤ x ∧ x < 128) : Scalar.wrap8 x = x := by
  unfold Scalar.wrap8
  omega

theorem wrap8_neg (x : Int) (h : -128 < x ∧ x < 0) : Scalar.wrap8 (-x) = -x := by
  unfold Scalar.wrap8
  omega

theorem nafSelect_odd_neg {α} [Inhabited α] (t : Array α) (x : Int) (k : Nat)
    (h : x = -(2 * (k : Int) + 1)) (hr : -128 < x) :
    nafSelect t (Scalar.wrap8 (-x)) = t[k]! := by
  have hx0 : x < 0 := by omega
  rw [wrap8_neg x ⟨hr, hx0⟩]
  apply nafSelect_odd_pos
  omega

/-! ## 7. Abstract group-level statements -/

theorem signed_select_smul {G : Type _} [AddCommGroup G] (Q : G) (T : Nat → G)
    (hT : ∀ j < 8, T j = ((j : ℤ) + 1) • Q) (x : ℤ) (hx : -8 ≤ x ∧ x ≤ 8) :
    (if x < 0 then -(if 1 ≤ x.natAbs ∧ x.natAbs ≤ 8 then T (x.natAbs - 1) else 0)
      else (if 1 ≤ x.natAbs ∧ x.natAbs ≤ 8 then T (x.natAbs - 1) else 0)) = x • Q := by
  by_cases hneg : x < 0
  · have h1 : 1 ≤ x.natAbs ∧ x.natAbs ≤ 8 := by omega
    have hj : x.natAbs - 1 < 8 := by omega
    rw [if_pos hneg, if_pos h1, hT _ hj, ← neg_zsmul]
    congr 1
    omega
  · rw [if_neg hneg]
    by_cases hz : x = 0
    · have h1 : ¬ (1 ≤ x.natAbs ∧ x.natAbs ≤ 8) := by omega
      rw [if_neg h1, hz, zero_zsmul]
    · have h1 : 1 ≤ x.natAbs ∧ x.natAbs ≤ 8 := by omega
      have hj : x.natAbs - 1 < 8 := by omega
      rw [if_pos h1, hT _ hj]
      congr 1
      omega

theorem naf_select_pos_smul {G : Type _} [AddCommGroup G] (Q : G) (T : Nat → G) (n : Nat)
    (hT : ∀ k < n, T k = (2 * (k : ℤ) + 1) • Q) (x : ℤ)
    (hodd : x % 2 = 1) (hlt : x.natAbs < 2 * n) (hpos : 0 < x) :
    T (x.toNat / 2) = x • Q := by
  have hk : x.toNat / 2 < n := by omega
  rw [hT _ hk]
  congr 1
  omega

theorem naf_select_neg_smul {G : Type _} [AddCommGroup G] (Q : G) (T : Nat → G) (n : Nat)
    (hT : ∀ k < n, T k = (2 * (k : ℤ) + 1) • Q) (x : ℤ)
    (hodd : x % 2 = 1) (hlt : x.natAbs < 2 * n) (hneg : x < 0) :
    -(T ((-x).toNat / 2)) = x • Q := by
  have hk : (-x).toNat / 2 < n := by omega
  rw [hT _ hk, ← neg_zsmul]
  congr 1
  omega

end EdVerif.Proofs
