import EdVerif.Proofs.FieldFacts
import EdVerif.Proofs.FeKernels5
/-!
The kernel layer closes the interface `KernelFacts` of `Proofs/FieldFacts.lean`:
`kernelFacts : KernelFacts`, no hypotheses.
-/
namespace EdVerif.Proofs
open EdVerif EdVerif.Prims EdVerif.Gen EdVerif.Impl

theorem u64_iff (e : Prims.Fe) : Fe.U64 e ↔ U64 e := Iff.rfl

theorem kernelFacts : KernelFacts where
  tight_inv := fun _ h => tight_inv h
  carry := fun v h => carry_spec v h
  add := fun _ _ ha hb => add_spec ha hb
  sub := fun _ _ ha hb => sub_spec ha hb
  neg := fun _ ha => neg_spec ha
  mul := fun _ _ ha hb => mul_spec ha hb
  square := fun _ ha => square_spec ha
  mult32 := fun _ _ ha hy => mult32_spec ha hy
  reduce := fun a ha => by
    obtain ⟨⟨h0, h1, h2, h3, h4⟩, hv⟩ := reduce_spec ha
    exact ⟨h0, h1, h2, h3, h4, hv⟩
  select := fun _ _ ha hb => select_spec ha hb
  swap := fun _ _ ha hb => swap_spec ha hb
  zero := rfl
  one := rfl
  setBytes := fun x hx hb => by
    obtain ⟨e, he, ⟨h0, h1, h2, h3, h4⟩, hv⟩ := setBytes_spec x hx (fun i hi => hb i (by omega))
    exact ⟨e, he, h0, h1, h2, h3, h4, hv⟩
  setBytes_len := fun x hx => fe_setBytes_none x hx
  setWideBytes := fun x hx hb => by
    obtain ⟨e, he, ht, hv⟩ := setWideBytes_spec x hx (fun i hi => hb i (by omega))
    exact ⟨e, he, ht, hv⟩
  setWideBytes_len := fun x hx => fe_setWideBytes_none x hx
  bytes := fun a ha => by
    obtain ⟨hs, hg⟩ := bytes_spec ha
    exact eq_LEbytes _ _ 32 hs hg

end EdVerif.Proofs
