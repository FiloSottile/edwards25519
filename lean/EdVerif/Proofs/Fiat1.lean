import Lean
import Mathlib.Tactic.Ring
import Mathlib.Tactic.Linarith
import Mathlib.Tactic.NormNum
import Mathlib.Tactic.IntervalCases
import Mathlib.Algebra.BigOperators.Group.Finset.Basic
import Mathlib.Algebra.BigOperators.Ring.Finset
import EdVerif.Impl.Scalar
import EdVerif.Proofs.LittleEndian
/-!
C07/C08 kernel layer, part 1: the "easy" fiat kernels (`add sub opp cmovznz nonzero to_bytes
from_bytes`), receiver independence, and `Scalar.equal`.

All statements are about the GENERATED kernels (`EdVerif.Gen.Fiat`). Each kernel is first tied, by a
kernel-checked `rfl` (`kernel_rfl`), to a composition of small structured blocks (`addChain`,
`csub`, `put64`, …) whose contracts are then proved from the one-step facts `add64_spec`, `sub64_spec`.
-/
namespace EdVerif.Proofs
open EdVerif EdVerif.Prims EdVerif.Gen EdVerif.Impl
open EdVerif.Impl.Scalar (eval Inv)

open Lean Elab Tactic Meta in
/-- close a goal `a = b` by `Eq.refl a`, leaving the definitional check to the kernel
(the elaborator's `isDefEq` has no sharing-aware cache and times out on 280-`let` kernels) -/
elab "kernel_rfl" : tactic => do
  let g ← getMainGoal
  let t ← instantiateMVars (← g.getType)
  let some (_, lhs, _) := t.eq? | throwError "kernel_rfl: not an equality"
  g.assign (← mkEqRefl lhs)

/-- five words (a 4-word value plus a carry/overflow word) -/
structure Scalar.W5 where
  v0 : Nat
  v1 : Nat
  v2 : Nat
  v3 : Nat
  v4 : Nat

def Scalar.eval5 (t : Scalar.W5) : Nat := t.v0 + t.v1 * 2^64 + t.v2 * 2^128 + t.v3 * 2^192 + t.v4 * 2^256

def Scalar.Words (s : W4) : Prop := s.w0 < 2^64 ∧ s.w1 < 2^64 ∧ s.w2 < 2^64 ∧ s.w3 < 2^64
def Scalar.Words5 (t : Scalar.W5) : Prop := t.v0 < 2^64 ∧ t.v1 < 2^64 ∧ t.v2 < 2^64 ∧ t.v3 < 2^64 ∧ t.v4 < 2^64

theorem Scalar.inv_words {s : W4} (h : Inv s) : Scalar.Words s := ⟨h.1, h.2.1, h.2.2.1, h.2.2.2.1⟩
theorem Scalar.inv_lt {s : W4} (h : Inv s) : eval s < L := h.2.2.2.2

theorem Scalar.L_words : L = 6346243789798364141 + 1503914060200516822 * 2^64 + 0 * 2^128 + 1152921504606846976 * 2^192 := by
  decide

theorem cmovznz_spec (o c a b : Nat) (hc : c ≤ 1) (ha : a < 2^64) (hb : b < 2^64) :
    Fiat.fiatScalarCmovznzU64 o c a b = if c = 0 then a else b := by
  have hc' : c = 0 ∨ c = 1 := by omega
  rcases hc' with rfl | rfl
  · show (U.mul 64 0 18446744073709551615 &&& b) |||
      (U.not 64 (U.mul 64 0 18446744073709551615) &&& a) = _
    have e1 : U.mul 64 0 18446744073709551615 = 0 := by decide
    have e2 : U.not 64 0 = 2^64 - 1 := by decide
    rw [e1, e2, Nat.zero_and, Nat.zero_or, Nat.and_comm, Nat.and_two_pow_sub_one_eq_mod,
      Nat.mod_eq_of_lt ha, if_pos rfl]
  · show (U.mul 64 1 18446744073709551615 &&& b) |||
      (U.not 64 (U.mul 64 1 18446744073709551615) &&& a) = _
    have e1 : U.mul 64 1 18446744073709551615 = 2^64 - 1 := by decide
    have e2 : U.not 64 (2^64 - 1) = 0 := by decide
    rw [e1, e2, Nat.zero_and, Nat.or_zero, Nat.and_comm, Nat.and_two_pow_sub_one_eq_mod,
      Nat.mod_eq_of_lt hb, if_neg (by decide)]

theorem cmovznz_receiver (o o' c a b : Nat) :
    Fiat.fiatScalarCmovznzU64 o c a b = Fiat.fiatScalarCmovznzU64 o' c a b := rfl


theorem sub64_spec (x y b : Nat) (hx : x < 2^64) (hy : y < 2^64) (hb : b ≤ 1) :
    (Bits.Sub64 x y b).1 + y + b = x + (Bits.Sub64 x y b).2 * 2^64 ∧
      (Bits.Sub64 x y b).1 < 2^64 ∧ (Bits.Sub64 x y b).2 ≤ 1 := by
  simp only [Bits.Sub64]
  split <;> omega

theorem add64_spec (x y c : Nat) (hx : x < 2^64) (hy : y < 2^64) (hc : c ≤ 1) :
    (Bits.Add64 x y c).1 + (Bits.Add64 x y c).2 * 2^64 = x + y + c ∧
      (Bits.Add64 x y c).1 < 2^64 ∧ (Bits.Add64 x y c).2 ≤ 1 := by
  simp only [Bits.Add64]
  omega

/-! ### the final conditional subtraction of `l` (shared by add, mul, to/from_montgomery) -/

def csub (t : Scalar.W5) : W4 :=
  let s0 := Bits.Sub64 t.v0 6346243789798364141 0
  let s1 := Bits.Sub64 t.v1 1503914060200516822 s0.2
  let s2 := Bits.Sub64 t.v2 0 s1.2
  let s3 := Bits.Sub64 t.v3 1152921504606846976 s2.2
  let s4 := Bits.Sub64 t.v4 0 s3.2
  ⟨Fiat.fiatScalarCmovznzU64 0 s4.2 s0.1 t.v0, Fiat.fiatScalarCmovznzU64 0 s4.2 s1.1 t.v1,
   Fiat.fiatScalarCmovznzU64 0 s4.2 s2.1 t.v2, Fiat.fiatScalarCmovznzU64 0 s4.2 s3.1 t.v3⟩

/-- arithmetic core of `csub` on atoms: `T` is the five-word input, `l` the group order in words -/
theorem csub_core (t0 t1 t2 t3 t4 d0 d1 d2 d3 d4 b0 b1 b2 b3 b4 T l : Nat)
    (hT : T = t0 + t1 * 2^(64:ℕ) + t2 * 2^(128:ℕ) + t3 * 2^(192:ℕ) + t4 * 2^(256:ℕ))
    (hl : l = 6346243789798364141 + 1503914060200516822 * 2^(64:ℕ) + 0 * 2^(128:ℕ) + 1152921504606846976 * 2^(192:ℕ))
    (h0 : t0 < 2^(64:ℕ)) (h1 : t1 < 2^(64:ℕ)) (h2 : t2 < 2^(64:ℕ)) (h3 : t3 < 2^(64:ℕ)) (hlt : T < 2 * l)
    (e0 : d0 + 6346243789798364141 + 0 = t0 + b0 * 2^(64:ℕ)) (l0 : d0 < 2^(64:ℕ))
    (e1 : d1 + 1503914060200516822 + b0 = t1 + b1 * 2^(64:ℕ)) (l1 : d1 < 2^(64:ℕ))
    (e2 : d2 + 0 + b1 = t2 + b2 * 2^(64:ℕ)) (l2 : d2 < 2^(64:ℕ))
    (e3 : d3 + 1152921504606846976 + b2 = t3 + b3 * 2^(64:ℕ)) (l3 : d3 < 2^(64:ℕ))
    (e4 : d4 + 0 + b3 = t4 + b4 * 2^(64:ℕ)) (l4 : d4 < 2^(64:ℕ)) (c4 : b4 ≤ 1) :
    (b4 = 0 → d0 + d1 * 2^(64:ℕ) + d2 * 2^(128:ℕ) + d3 * 2^(192:ℕ) + l = T) ∧ (b4 ≠ 0 → T < l ∧ t4 = 0) := by
  subst hT hl
  constructor
  · intro hb; subst hb; omega
  · intro hb
    have : b4 = 1 := by omega
    subst this; omega

theorem sc_mod_of_sub (T d m : Nat) (h : d + m = T) (hd : d < m) : T % m = d := by
  subst h
  rw [Nat.add_mod_right, Nat.mod_eq_of_lt hd]

theorem csub_spec (t : Scalar.W5) (hw : Scalar.Words5 t) (hlt : Scalar.eval5 t < 2 * L) :
    Inv (csub t) ∧ eval (csub t) = Scalar.eval5 t % L := by
  obtain ⟨t0, t1, t2, t3, t4⟩ := t
  obtain ⟨h0, h1, h2, h3, h4⟩ := hw
  simp only at h0 h1 h2 h3 h4
  simp only [Scalar.eval5, csub, Scalar.Inv, Scalar.eval] at hlt ⊢
  rw [Scalar.L_words] at hlt ⊢
  obtain ⟨e0, l0, c0⟩ := sub64_spec t0 6346243789798364141 0 h0 (by norm_num) (by norm_num)
  obtain ⟨e1, l1, c1⟩ := sub64_spec t1 1503914060200516822 _ h1 (by norm_num) c0
  obtain ⟨e2, l2, c2⟩ := sub64_spec t2 0 _ h2 (by norm_num) c1
  obtain ⟨e3, l3, c3⟩ := sub64_spec t3 1152921504606846976 _ h3 (by norm_num) c2
  obtain ⟨e4, l4, c4⟩ := sub64_spec t4 0 _ h4 (by norm_num) c3
  obtain ⟨k0, k1⟩ := csub_core t0 t1 t2 t3 t4 _ _ _ _ _ _ _ _ _ _ _ _ rfl rfl h0 h1 h2 h3 hlt e0 l0 e1 l1 e2 l2 e3 l3
    e4 l4 c4
  rw [cmovznz_spec _ _ _ _ c4 l0 h0, cmovznz_spec _ _ _ _ c4 l1 h1, cmovznz_spec _ _ _ _ c4 l2 h2,
    cmovznz_spec _ _ _ _ c4 l3 h3]
  by_cases hb : (Bits.Sub64 t4 0 (Bits.Sub64 t3 1152921504606846976 (Bits.Sub64 t2 0 (Bits.Sub64 t1 1503914060200516822 (Bits.Sub64 t0 6346243789798364141 0).2).2).2).2).2 = 0
  · have k := k0 hb
    simp only [if_pos hb]
    clear k0 k1 e0 e1 e2 e3 e4 c0 c1 c2 c3 c4 hb
    generalize (Bits.Sub64 t0 6346243789798364141 0).1 = d0 at *
    generalize (Bits.Sub64 t1 1503914060200516822 _).1 = d1 at *
    generalize (Bits.Sub64 t2 0 _).1 = d2 at *
    generalize (Bits.Sub64 t3 1152921504606846976 _).1 = d3 at *
    have hd : d0 + d1 * 2^64 + d2 * 2^128 + d3 * 2^192 <
        6346243789798364141 + 1503914060200516822 * 2^64 + 0 * 2^128 + 1152921504606846976 * 2^192 := by
      omega
    exact ⟨⟨l0, l1, l2, l3, hd⟩, (sc_mod_of_sub _ _ _ k hd).symm⟩
  · obtain ⟨k, k4⟩ := k1 hb
    simp only [if_neg hb]
    clear k0 k1 e0 e1 e2 e3 e4 c0 c1 c2 c3 c4 hb l0 l1 l2 l3 l4
    have hd : t0 + t1 * 2^64 + t2 * 2^128 + t3 * 2^192 <
        6346243789798364141 + 1503914060200516822 * 2^64 + 0 * 2^128 + 1152921504606846976 * 2^192 := by
      omega
    refine ⟨⟨h0, h1, h2, h3, hd⟩, ?_⟩
    rw [Nat.mod_eq_of_lt k, k4, Nat.zero_mul, Nat.add_zero]

def addChain (x y : W4) : Scalar.W5 :=
  let a0 := Bits.Add64 x.w0 y.w0 0
  let a1 := Bits.Add64 x.w1 y.w1 a0.2
  let a2 := Bits.Add64 x.w2 y.w2 a1.2
  let a3 := Bits.Add64 x.w3 y.w3 a2.2
  ⟨a0.1, a1.1, a2.1, a3.1, a3.2⟩

theorem fiatScalarAdd_eq (o x y : W4) : Fiat.fiatScalarAdd o x y = csub (addChain x y) := by
  kernel_rfl

theorem addChain_spec (x y : W4) (hx : Scalar.Words x) (hy : Scalar.Words y) :
    Scalar.Words5 (addChain x y) ∧ (addChain x y).v4 ≤ 1 ∧ Scalar.eval5 (addChain x y) = eval x + eval y := by
  obtain ⟨x0, x1, x2, x3⟩ := x
  obtain ⟨y0, y1, y2, y3⟩ := y
  obtain ⟨hx0, hx1, hx2, hx3⟩ := hx
  obtain ⟨hy0, hy1, hy2, hy3⟩ := hy
  simp only at hx0 hx1 hx2 hx3 hy0 hy1 hy2 hy3
  obtain ⟨e0, l0, c0⟩ := add64_spec x0 y0 0 hx0 hy0 (by norm_num)
  obtain ⟨e1, l1, c1⟩ := add64_spec x1 y1 _ hx1 hy1 c0
  obtain ⟨e2, l2, c2⟩ := add64_spec x2 y2 _ hx2 hy2 c1
  obtain ⟨e3, l3, c3⟩ := add64_spec x3 y3 _ hx3 hy3 c2
  simp only [addChain, Scalar.Words5, Scalar.eval5, Scalar.eval]
  generalize Bits.Add64 x3 y3 _ = a3 at *
  generalize Bits.Add64 x2 y2 _ = a2 at *
  generalize Bits.Add64 x1 y1 _ = a1 at *
  generalize Bits.Add64 x0 y0 0 = a0 at *
  refine ⟨⟨l0, l1, l2, l3, by omega⟩, c3, ?_⟩
  omega

theorem fiatAdd_spec (o x y : W4) (hx : Inv x) (hy : Inv y) :
    Inv (Fiat.fiatScalarAdd o x y) ∧ eval (Fiat.fiatScalarAdd o x y) = (eval x + eval y) % L := by
  rw [fiatScalarAdd_eq]
  obtain ⟨hw, _, he⟩ := addChain_spec x y (Scalar.inv_words hx) (Scalar.inv_words hy)
  have := csub_spec (addChain x y) hw (by rw [he]; have := Scalar.inv_lt hx; have := Scalar.inv_lt hy; omega)
  rwa [he] at this

theorem fiatAdd_receiver (o o' x y : W4) : Fiat.fiatScalarAdd o x y = Fiat.fiatScalarAdd o' x y := by
  rw [fiatScalarAdd_eq, fiatScalarAdd_eq]

def subChain (x y : W4) : Scalar.W5 :=
  let s0 := Bits.Sub64 x.w0 y.w0 0
  let s1 := Bits.Sub64 x.w1 y.w1 s0.2
  let s2 := Bits.Sub64 x.w2 y.w2 s1.2
  let s3 := Bits.Sub64 x.w3 y.w3 s2.2
  ⟨s0.1, s1.1, s2.1, s3.1, s3.2⟩

/-- add `l` back if the borrow `t.v4` is set -/
def maskAdd (t : Scalar.W5) : W4 :=
  let x9 := Fiat.fiatScalarCmovznzU64 0 t.v4 0 18446744073709551615
  let a0 := Bits.Add64 t.v0 (U.and 64 x9 6346243789798364141) 0
  let a1 := Bits.Add64 t.v1 (U.and 64 x9 1503914060200516822) a0.2
  let a2 := Bits.Add64 t.v2 0 a1.2
  let a3 := Bits.Add64 t.v3 (U.and 64 x9 1152921504606846976) a2.2
  ⟨a0.1, a1.1, a2.1, a3.1⟩

theorem fiatScalarSub_eq (o x y : W4) : Fiat.fiatScalarSub o x y = maskAdd (subChain x y) := by
  kernel_rfl

theorem fiatScalarOpp_eq (o x : W4) : Fiat.fiatScalarOpp o x = Fiat.fiatScalarSub o ⟨0, 0, 0, 0⟩ x := by
  kernel_rfl

theorem subChain_spec (x y : W4) (hx : Scalar.Words x) (hy : Scalar.Words y) :
    Scalar.Words5 (subChain x y) ∧ (subChain x y).v4 ≤ 1 ∧
      (subChain x y).v0 + (subChain x y).v1 * 2^64 + (subChain x y).v2 * 2^128 + (subChain x y).v3 * 2^192
        + eval y = eval x + (subChain x y).v4 * 2^256 := by
  obtain ⟨x0, x1, x2, x3⟩ := x
  obtain ⟨y0, y1, y2, y3⟩ := y
  obtain ⟨hx0, hx1, hx2, hx3⟩ := hx
  obtain ⟨hy0, hy1, hy2, hy3⟩ := hy
  simp only at hx0 hx1 hx2 hx3 hy0 hy1 hy2 hy3
  obtain ⟨e0, l0, c0⟩ := sub64_spec x0 y0 0 hx0 hy0 (by norm_num)
  obtain ⟨e1, l1, c1⟩ := sub64_spec x1 y1 _ hx1 hy1 c0
  obtain ⟨e2, l2, c2⟩ := sub64_spec x2 y2 _ hx2 hy2 c1
  obtain ⟨e3, l3, c3⟩ := sub64_spec x3 y3 _ hx3 hy3 c2
  simp only [subChain, Scalar.Words5, Scalar.eval]
  generalize Bits.Sub64 x3 y3 _ = a3 at *
  generalize Bits.Sub64 x2 y2 _ = a2 at *
  generalize Bits.Sub64 x1 y1 _ = a1 at *
  generalize Bits.Sub64 x0 y0 0 = a0 at *
  refine ⟨⟨l0, l1, l2, l3, by omega⟩, c3, ?_⟩
  omega

theorem maskAdd_spec (t : Scalar.W5) (hw : Scalar.Words5 t) (hb : t.v4 ≤ 1) :
    Scalar.Words (maskAdd t) ∧
      eval (maskAdd t) = (t.v0 + t.v1 * 2^64 + t.v2 * 2^128 + t.v3 * 2^192 + t.v4 * L) % 2^256 := by
  obtain ⟨t0, t1, t2, t3, t4⟩ := t
  obtain ⟨h0, h1, h2, h3, h4⟩ := hw
  simp only at h0 h1 h2 h3 h4 hb
  simp only [maskAdd, Scalar.Words, Scalar.eval]
  rw [cmovznz_spec _ _ _ _ hb (by norm_num) (by norm_num), Scalar.L_words]
  have hb' : t4 = 0 ∨ t4 = 1 := by omega
  rcases hb' with rfl | rfl
  · have z0 : U.and 64 0 6346243789798364141 = 0 := by decide
    have z1 : U.and 64 0 1503914060200516822 = 0 := by decide
    have z3 : U.and 64 0 1152921504606846976 = 0 := by decide
    simp only [if_pos, z0, z1, z3, Bits.Add64]
    omega
  · have z0 : U.and 64 18446744073709551615 6346243789798364141 = 6346243789798364141 := by decide
    have z1 : U.and 64 18446744073709551615 1503914060200516822 = 1503914060200516822 := by decide
    have z3 : U.and 64 18446744073709551615 1152921504606846976 = 1152921504606846976 := by decide
    have ne : ¬ (1 = 0) := by decide
    simp only [if_neg ne, z0, z1, z3, Bits.Add64]
    omega

theorem fiatSub_spec (o x y : W4) (hx : Inv x) (hy : Inv y) :
    Inv (Fiat.fiatScalarSub o x y) ∧ eval (Fiat.fiatScalarSub o x y) = (eval x + L - eval y) % L := by
  rw [fiatScalarSub_eq]
  obtain ⟨hw, hb, he⟩ := subChain_spec x y (Scalar.inv_words hx) (Scalar.inv_words hy)
  obtain ⟨mw, me⟩ := maskAdd_spec _ hw hb
  have hxl := Scalar.inv_lt hx
  have hyl := Scalar.inv_lt hy
  have hL : L = 2^252 + 27742317777372353535851937790883648493 := rfl
  have hDlt : (subChain x y).v0 + (subChain x y).v1 * 2^64 + (subChain x y).v2 * 2^128 +
      (subChain x y).v3 * 2^192 < 2^256 := by
    obtain ⟨a0, a1, a2, a3, _⟩ := hw
    omega
  simp only [Scalar.Inv]
  generalize eval x = X at *
  generalize eval y = Y at *
  generalize L = l at *
  generalize eval (maskAdd (subChain x y)) = Z at *
  have key : Z < l ∧ Z = (X + l - Y) % l := by
    clear mw hw
    generalize (subChain x y).v0 + (subChain x y).v1 * 2^64 + (subChain x y).v2 * 2^128 +
      (subChain x y).v3 * 2^192 = D at *
    generalize (subChain x y).v4 = b at *
    have hb' : b = 0 ∨ b = 1 := by omega
    rcases hb' with rfl | rfl
    · have hD : D = X - Y := by omega
      have hle : Y ≤ X := by omega
      have e : X + l - Y = (X - Y) + l := by omega
      rw [e, Nat.add_mod_right, Nat.mod_eq_of_lt (by omega)]
      subst hD
      rw [me]
      constructor
      · rw [Nat.mod_eq_of_lt (by omega)]; omega
      · rw [Nat.mod_eq_of_lt (by omega)]; omega
    · have hlt : X < Y := by omega
      have hD : D + 1 * l = (X + l - Y) + 2^256 := by omega
      have hlt2 : X + l - Y < l := by omega
      have hlt3 : X + l - Y < 2^256 := by omega
      rw [hD, Nat.add_mod_right, Nat.mod_eq_of_lt hlt3] at me
      rw [Nat.mod_eq_of_lt hlt2, me]
      exact ⟨hlt2, rfl⟩
  exact ⟨⟨mw.1, mw.2.1, mw.2.2.1, mw.2.2.2, key.1⟩, key.2⟩

theorem fiatOpp_spec (o x : W4) (hx : Inv x) :
    Inv (Fiat.fiatScalarOpp o x) ∧ eval (Fiat.fiatScalarOpp o x) = (L - eval x) % L := by
  rw [fiatScalarOpp_eq]
  have h0 : Inv (⟨0, 0, 0, 0⟩ : W4) := by
    refine ⟨by norm_num, by norm_num, by norm_num, by norm_num, ?_⟩
    show 0 + 0 * 2^64 + 0 * 2^128 + 0 * 2^192 < L
    decide
  have := fiatSub_spec o ⟨0, 0, 0, 0⟩ x h0 hx
  have e : eval (⟨0, 0, 0, 0⟩ : W4) = 0 := by decide
  rwa [e, Nat.zero_add] at this

theorem fiatSub_receiver (o o' x y : W4) : Fiat.fiatScalarSub o x y = Fiat.fiatScalarSub o' x y := by
  rw [fiatScalarSub_eq, fiatScalarSub_eq]

theorem fiatOpp_receiver (o o' x : W4) : Fiat.fiatScalarOpp o x = Fiat.fiatScalarOpp o' x := by
  rw [fiatScalarOpp_eq, fiatScalarOpp_eq, fiatSub_receiver]

theorem fiatScalarNonzero_eq (o : Nat) (x : W4) :
    Fiat.fiatScalarNonzero o x = x.w0 ||| (x.w1 ||| (x.w2 ||| x.w3)) := rfl

theorem fiatNonzero_receiver (o o' : Nat) (x : W4) :
    Fiat.fiatScalarNonzero o x = Fiat.fiatScalarNonzero o' x := rfl

theorem fiatNonzero_lt (o : Nat) (x : W4) (hx : Scalar.Words x) : Fiat.fiatScalarNonzero o x < 2^64 := by
  rw [fiatScalarNonzero_eq]
  exact Nat.or_lt_two_pow hx.1 (Nat.or_lt_two_pow hx.2.1 (Nat.or_lt_two_pow hx.2.2.1 hx.2.2.2))

theorem fiatNonzero_spec (o : Nat) (x : W4) : Fiat.fiatScalarNonzero o x = 0 ↔ eval x = 0 := by
  rw [fiatScalarNonzero_eq]
  simp only [Nat.or_eq_zero_iff, Scalar.eval]
  constructor
  · rintro ⟨h0, h1, h2, h3⟩; rw [h0, h1, h2, h3]
  · intro h; omega

/-- one folding step: a set bit below `2*s` moves below `s` -/
theorem fold_step (x s i : Nat) (hi : i < 2 * s) (h : x.testBit i = true) :
    ∃ j, j < s ∧ (x ||| x >>> s).testBit j = true := by
  by_cases hs : i < s
  · exact ⟨i, hs, by rw [Nat.testBit_or, h]; rfl⟩
  · refine ⟨i - s, by omega, ?_⟩
    rw [Nat.testBit_or, Nat.testBit_shiftRight]
    have : s + (i - s) = i := by omega
    rw [this, h]; simp

/-- the `nonzero |= nonzero >> k` cascade of `Scalar.Equal` -/
theorem fold_or (x : Nat) (hx : x < 2^64) :
    (let x := U.or 64 x (U.shr 64 x 32)
     let x := U.or 64 x (U.shr 64 x 16)
     let x := U.or 64 x (U.shr 64 x 8)
     let x := U.or 64 x (U.shr 64 x 4)
     let x := U.or 64 x (U.shr 64 x 2)
     let x := U.or 64 x (U.shr 64 x 1)
     U.and 64 (U.not 64 x) 1) = if x = 0 then 1 else 0 := by
  simp only [U.or, U.shr, U.and, U.not]
  by_cases h0 : x = 0
  · subst h0; decide
  · rw [if_neg h0]
    obtain ⟨i, hi⟩ := Nat.exists_testBit_of_ne_zero h0
    have hi64 : i < 2 * 32 := by
      by_contra hge
      have : x < 2^i := Nat.lt_of_lt_of_le hx (Nat.pow_le_pow_right (by norm_num) (by omega))
      rw [Nat.testBit_lt_two_pow this] at hi
      exact Bool.noConfusion hi
    obtain ⟨i1, h1, b1⟩ := fold_step x 32 i hi64 hi
    obtain ⟨i2, h2, b2⟩ := fold_step _ 16 i1 h1 b1
    obtain ⟨i3, h3, b3⟩ := fold_step _ 8 i2 h2 b2
    obtain ⟨i4, h4, b4⟩ := fold_step _ 4 i3 h3 b3
    obtain ⟨i5, h5, b5⟩ := fold_step _ 2 i4 h4 b4
    obtain ⟨i6, h6, b6⟩ := fold_step _ 1 i5 h5 b5
    have : i6 = 0 := by omega
    subst this
    rw [Nat.testBit_zero] at b6
    have hodd := of_decide_eq_true b6
    rw [Nat.and_one_is_mod]
    generalize (_ ||| _ >>> 1 : Nat) = n at hodd ⊢
    omega

theorem equal_spec (s t : W4) (hs : Inv s) (ht : Inv t) :
    Scalar.equal s t = if eval s = eval t then 1 else 0 := by
  obtain ⟨hi, he⟩ := fiatSub_spec ⟨0, 0, 0, 0⟩ s t hs ht
  have hfold := fold_or _ (fiatNonzero_lt 0 _ (Scalar.inv_words hi))
  show Fiat.Equal s t = _
  unfold Fiat.Equal
  simp only at hfold ⊢
  rw [hfold]
  have hsl := Scalar.inv_lt hs
  have htl := Scalar.inv_lt ht
  have iff : Fiat.fiatScalarNonzero 0 (Fiat.fiatScalarSub ⟨0, 0, 0, 0⟩ s t) = 0 ↔ eval s = eval t := by
    rw [fiatNonzero_spec, he]
    generalize eval s = S at *
    generalize eval t = T at *
    generalize L = l at *
    constructor
    · intro h
      by_contra hne
      rcases Nat.lt_or_gt_of_ne hne with hlt | hgt
      · rw [Nat.mod_eq_of_lt (by omega)] at h; omega
      · have e : S + l - T = (S - T) + l := by omega
        rw [e, Nat.add_mod_right, Nat.mod_eq_of_lt (by omega)] at h; omega
    · intro h; subst h
      have e : S + l - S = l := by omega
      rw [e, Nat.mod_self]
  by_cases h : eval s = eval t
  · rw [if_pos h, if_pos (iff.2 h)]
  · rw [if_neg h, if_neg (fun h' => h (iff.1 h'))]

/-- little-endian value of a byte string -/
def Scalar.LE (b : Bytes) : Nat := b.foldr (fun x acc => x + 256 * acc) 0

theorem Scalar.LE_eq (b : Bytes) : Scalar.LE b = Proofs.LE b := rfl


/-- the eight stores of one word in `to_bytes` -/
def put64 (out : Bytes) (off w : Nat) : Bytes :=
  let w1 := U.shr 64 w 8
  let w2 := U.shr 64 w1 8
  let w3 := U.shr 64 w2 8
  let w4 := U.shr 64 w3 8
  let w5 := U.shr 64 w4 8
  let w6 := U.shr 64 w5 8
  let out := out.set! off (U.and 8 (U.trunc 8 w) 255)
  let out := out.set! (off + 1) (U.and 8 (U.trunc 8 w1) 255)
  let out := out.set! (off + 2) (U.and 8 (U.trunc 8 w2) 255)
  let out := out.set! (off + 3) (U.and 8 (U.trunc 8 w3) 255)
  let out := out.set! (off + 4) (U.and 8 (U.trunc 8 w4) 255)
  let out := out.set! (off + 5) (U.and 8 (U.trunc 8 w5) 255)
  let out := out.set! (off + 6) (U.and 8 (U.trunc 8 w6) 255)
  out.set! (off + 7) (U.trunc 8 (U.shr 64 w6 8))

theorem fiatScalarToBytes_eq (o : Bytes) (x : W4) :
    Fiat.fiatScalarToBytes o x = put64 (put64 (put64 (put64 o 0 x.w0) 8 x.w1) 16 x.w2) 24 x.w3 := by
  kernel_rfl

theorem put64_size (out : Bytes) (off w : Nat) : (put64 out off w).size = out.size := by
  simp only [put64, Array.size_set!]

theorem put64_get_below (out : Bytes) (off w j : Nat) (hj : j < off) : (put64 out off w)[j]! = out[j]! := by
  simp only [put64]
  rw [Arr.get_set!, if_neg (by omega), Arr.get_set!, if_neg (by omega), Arr.get_set!, if_neg (by omega),
    Arr.get_set!, if_neg (by omega), Arr.get_set!, if_neg (by omega), Arr.get_set!, if_neg (by omega),
    Arr.get_set!, if_neg (by omega), Arr.get_set!, if_neg (by omega)]

theorem sc_and255 (a : Nat) : (a % 2^8) &&& 255 = a % 256 := by
  have : (255 : Nat) = 2^8 - 1 := by norm_num
  rw [this, Nat.and_two_pow_sub_one_eq_mod, Nat.mod_mod]
  norm_num

theorem put64_get (out : Bytes) (off w t : Nat) (hs : off + 8 ≤ out.size) (ht : t < 8) :
    (put64 out off w)[off + t]! = w / 256^t % 256 := by
  simp only [put64, U.and, U.trunc, U.shr, sc_and255, Nat.shiftRight_eq_div_pow, Nat.div_div_eq_div_mul]
  interval_cases t <;>
  · simp (disch := (try simp only [Array.size_set!]); omega) only [Arr.get_set!_of_lt, Nat.add_zero,
      Nat.add_left_cancel_iff, Nat.left_eq_add, Nat.reduceEqDiff, if_true, if_false]
    norm_num

/-- one word further: if the bytes below `off` are those of `V < 256^off`, the bytes below `off + 8` after the
stores are those of `V + 256^off * w` -/
theorem put64_step (out : Bytes) (V w off : Nat) (hs : off + 8 ≤ out.size) (hV : V < 256^off)
    (hout : ∀ i, i < off → out[i]! = V / 256^i % 256) :
    ∀ i, i < off + 8 → (put64 out off w)[i]! = (V + 256^off * w) / 256^i % 256 := by
  intro i hi
  by_cases hlo : i < off
  · rw [put64_get_below _ _ _ _ hlo, hout i hlo, byte_low _ _ _ _ hlo]
  · obtain ⟨t, rfl⟩ := Nat.exists_eq_add_of_le (Nat.le_of_not_lt hlo)
    rw [put64_get _ _ _ _ hs (by omega), byte_above _ _ _ _ hV]

theorem toBytes_spec (o : Bytes) (x : W4) (ho : o.size = 32) (hx : Scalar.Words x) :
    (Fiat.fiatScalarToBytes o x).size = 32 ∧
      ∀ i, i < 32 → (Fiat.fiatScalarToBytes o x)[i]! = eval x / 256^i % 256 := by
  obtain ⟨x0, x1, x2, x3⟩ := x
  obtain ⟨h0, h1, h2, h3⟩ := hx
  simp only at h0 h1 h2 h3
  rw [fiatScalarToBytes_eq]
  have g0 := put64_step o 0 x0 0 (by omega) (by norm_num) (fun i hi => absurd hi (Nat.not_lt_zero i))
  have g1 := put64_step _ _ x1 8 (by simp only [put64_size]; omega) (by omega) g0
  have g2 := put64_step _ _ x2 16 (by simp only [put64_size]; omega) (by omega) g1
  have g3 := put64_step _ _ x3 24 (by simp only [put64_size]; omega) (by omega) g2
  refine ⟨by simp only [put64_size, ho], fun i hi => ?_⟩
  rw [g3 i hi]
  congr 2
  simp only [Scalar.eval]
  omega


/-- one shift-and-add of `from_bytes`: byte `n` joins the `n` bytes below it -/
theorem fromBytes_step (b : Bytes) (a n k : Nat) (hb : ∀ i, i < 8 → b[a + i]! < 256) (hn : n < 8)
    (hk : k = 8 * n) : U.add 64 (U.shl 64 b[a + n]! k) (leFrom b a n) = leFrom b a (n + 1) := by
  have hlt : leFrom b a (n + 1) < 2^64 :=
    Nat.lt_of_lt_of_le (leFrom_lt b a (n + 1) (fun i hi => hb i (by omega)))
      (by rw [pow256]; exact Nat.pow_le_pow_right (by norm_num) (by omega))
  rw [leFrom, Nat.add_comm (leFrom b a n)] at hlt ⊢
  simp only [U.add, U.shl, Nat.shiftLeft_eq]
  rw [hk, ← pow256, Nat.mod_eq_of_lt (Nat.lt_of_le_of_lt (Nat.le_add_right _ _) hlt), Nat.mod_eq_of_lt hlt]

/-- one output word of `from_bytes` -/
theorem fromBytes_word (b : Bytes) (a : Nat) (hb : ∀ i, i < 8 → b[a + i]! < 256) :
    U.add 64 (U.shl 64 b[a+7]! 56) (U.add 64 (U.shl 64 b[a+6]! 48) (U.add 64 (U.shl 64 b[a+5]! 40)
      (U.add 64 (U.shl 64 b[a+4]! 32) (U.add 64 (U.shl 64 b[a+3]! 24) (U.add 64 (U.shl 64 b[a+2]! 16)
      (U.add 64 (U.shl 64 b[a+1]! 8) b[a]!)))))) = Bin.le64 b a := by
  have h0 : b[a]! = leFrom b a 1 := by simp [leFrom]
  rw [h0, fromBytes_step b a 1 8 hb (by norm_num) rfl, fromBytes_step b a 2 16 hb (by norm_num) rfl,
    fromBytes_step b a 3 24 hb (by norm_num) rfl, fromBytes_step b a 4 32 hb (by norm_num) rfl,
    fromBytes_step b a 5 40 hb (by norm_num) rfl, fromBytes_step b a 6 48 hb (by norm_num) rfl,
    fromBytes_step b a 7 56 hb (by norm_num) rfl, leFrom_le64]

theorem fromBytes_receiver (o o' : W4) (b : Bytes) :
    Fiat.fiatScalarFromBytes o b = Fiat.fiatScalarFromBytes o' b := rfl

theorem fromBytes_spec (o : W4) (b : Bytes) (hs : b.size = 32) (hb : ∀ i, i < 32 → b[i]! < 256) :
    Scalar.Words (Fiat.fiatScalarFromBytes o b) ∧ eval (Fiat.fiatScalarFromBytes o b) = Scalar.LE b := by
  have e : Fiat.fiatScalarFromBytes o b = ⟨Bin.le64 b 0, Bin.le64 b 8, Bin.le64 b 16, Bin.le64 b 24⟩ := by
    rw [← fromBytes_word b 0 (fun i hi => hb _ (by omega)), ← fromBytes_word b 8 (fun i hi => hb _ (by omega)),
      ← fromBytes_word b 16 (fun i hi => hb _ (by omega)), ← fromBytes_word b 24 (fun i hi => hb _ (by omega))]
    rfl
  rw [e, Scalar.LE_eq, LE_eq_leFrom, hs, leFrom_32_words]
  refine ⟨⟨le64_lt b 0 (fun i hi => hb _ (by omega)), le64_lt b 8 (fun i hi => hb _ (by omega)),
    le64_lt b 16 (fun i hi => hb _ (by omega)), le64_lt b 24 (fun i hi => hb _ (by omega))⟩, ?_⟩
  simp only [Scalar.eval]
  ring


/-- the `k` little-endian bytes of `n` -/
def Scalar.LEbytes (n k : Nat) : Bytes := Array.ofFn (n := k) fun i => n / 256 ^ i.val % 256

theorem Scalar.LEbytes_eq (n k : Nat) : Scalar.LEbytes n k = Proofs.LEbytes n k := rfl

theorem toBytes_eq (o : Bytes) (x : W4) (ho : o.size = 32) (hx : Scalar.Words x) :
    Fiat.fiatScalarToBytes o x = Scalar.LEbytes (eval x) 32 := by
  obtain ⟨hs, hg⟩ := toBytes_spec o x ho hx
  exact eq_LEbytes _ _ 32 hs hg

theorem toBytes_receiver (o o' : Bytes) (x : W4) (ho : o.size = 32) (ho' : o'.size = 32) (hx : Scalar.Words x) :
    Fiat.fiatScalarToBytes o x = Fiat.fiatScalarToBytes o' x := by
  rw [toBytes_eq o x ho hx, toBytes_eq o' x ho' hx]

end EdVerif.Proofs
