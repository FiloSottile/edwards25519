import Mathlib.Tactic.LinearCombination
import EdVerif.Proofs.Digits
/-!
C01, digit layer (part 2): the width-`w` non-adjacent form `nonAdjacentForm` of `scalar.go`.

`nafOfBytes b w` is *exactly* the computation `Impl.Scalar.nonAdjacentForm` performs after
`b := bytes s` and the guards (`nonAdjacentForm_eq`, by unfolding).

Main theorem `naf_spec`: for `2 ≤ w ≤ 8` and a byte string with `b[31] ≤ 127` (`leFrom b 0 32 < 2^255`;
this is the weakest bound under which the Go code does not panic, and it suffices: the final
carry is `0`), the result has 256 digits, each `0` or odd with `|d| < 2^(w-1)`, and
`∑ i ∈ Finset.range 256, d[i]! * 2 ^ i = leFrom b 0 32` (in `ℤ`).
-/
namespace EdVerif.Proofs
open EdVerif.Prims EdVerif.Impl EdVerif.Impl.Scalar
open Finset

/-! ### Definitions factored out of the model -/

/-- `digits[0..4]`: four little-endian `uint64` words and a zero word -/
def nafDigits (b : Bytes) : Array Nat := #[le64at b 0, le64at b 1, le64at b 2, le64at b 3, 0]

def nafInit : NafState := { naf := Array.replicate 256 0, pos := 0, carry := 0 }

/-- the computation of `nonAdjacentForm` on the byte string -/
def nafOfBytes (b : Bytes) (w : Nat) : Array Int := (nafLoop w (nafDigits b) 256 nafInit).naf

theorem nonAdjacentForm_eq (s : W4) (w : Nat) (h : (bytes s)[31]! ≤ 127) (hw : 2 ≤ w ∧ w ≤ 8) :
    nonAdjacentForm s w = .ok (nafOfBytes (bytes s) w) := by
  unfold nonAdjacentForm
  simp only [if_neg (Nat.not_lt.mpr h), if_neg (Nat.not_lt.mpr hw.1), if_neg (Nat.not_lt.mpr hw.2)]
  rfl

theorem nonAdjacentForm_panic_highbit (s : W4) (w : Nat) (h : 127 < (bytes s)[31]!) :
    nonAdjacentForm s w = .panic "highbit" := by
  unfold nonAdjacentForm
  simp only [if_pos h]

/-- the `bitBuf` of one iteration -/
def nafBitBuf (w : Nat) (digits : Array Nat) (pos : Nat) : Nat :=
  if pos % 64 < 64 - w then digits[pos / 64]! >>> (pos % 64)
  else (digits[pos / 64]! >>> (pos % 64)) ||| (U.shl 64 digits[1 + pos / 64]! (64 - pos % 64))

/-- the part of an iteration after the window has been computed -/
def nafStepWin (w : Nat) (st : NafState) (window : Nat) : NafState :=
  let width := U.shl 64 1 w
  if window &&& 1 == 0 then { st with pos := st.pos + 1 }
  else if window < width / 2 then
    { naf := st.naf.set! st.pos (wrap8 window), pos := st.pos + w, carry := 0 }
  else
    { naf := st.naf.set! st.pos (wrap8 (wrap8 window - wrap8 width)), pos := st.pos + w, carry := 1 }

theorem nafStep_eq_win (w : Nat) (digits : Array Nat) (st : NafState) :
    nafStep w digits st
      = nafStepWin w st
          (U.add 64 st.carry (nafBitBuf w digits st.pos &&& U.sub 64 (U.shl 64 1 w) 1)) := rfl

/-! ### Window extraction (bit level) -/

theorem window_lo (x T r w : ℕ) (hrw : r + w ≤ 64) :
    ((x + 2 ^ 64 * T) / 2 ^ r) % 2 ^ w = (x / 2 ^ r) % 2 ^ w := by
  rw [← Nat.mod_mul_right_div_self, ← Nat.mod_mul_right_div_self x]
  congr 1
  have h : 2 ^ 64 = 2 ^ r * 2 ^ w * 2 ^ (64 - r - w) := by
    rw [← pow_add, ← pow_add]; congr 1; omega
  rw [h, mul_assoc, Nat.add_mul_mod_self_left]

theorem window_hi_arith (q S A yd z a c e M y : ℕ) (hM1 : M = a * S) (hM2 : M = c * e)
    (hy : y = a * yd + A) :
    q + S * (y + M * z) = (A * S + q) + c * (e * (yd + S * z)) := by
  have h : c * (e * (yd + S * z)) = M * (yd + S * z) := by rw [hM2]; ring
  rw [h, hy, hM1]; ring

theorem window_hi (x y z r w : ℕ) (hx : x < 2 ^ 64) (hr : r < 64) (hw : w ≤ 64) :
    ((x >>> r) ||| ((y <<< (64 - r)) % 2 ^ 64)) % 2 ^ w
      = ((x + 2 ^ 64 * (y + 2 ^ 64 * z)) / 2 ^ r) % 2 ^ w := by
  have h64 : 2 ^ 64 = 2 ^ r * 2 ^ (64 - r) := by rw [← pow_add]; congr 1; omega
  have h64w : 2 ^ 64 = 2 ^ w * 2 ^ (64 - w) := by rw [← pow_add]; congr 1; omega
  have hxr : x / 2 ^ r < 2 ^ (64 - r) := by
    apply Nat.div_lt_of_lt_mul; rw [← h64]; exact hx
  have hy : (y <<< (64 - r)) % 2 ^ 64 = (y % 2 ^ r) <<< (64 - r) := by
    rw [Nat.shiftLeft_eq, Nat.shiftLeft_eq]
    conv_lhs => rw [h64]
    exact Nat.mul_mod_mul_right _ _ _
  rw [hy, Nat.shiftRight_eq_div_pow, Nat.or_comm, ← Nat.shiftLeft_add_eq_or_of_lt hxr,
    Nat.shiftLeft_eq]
  have hdiv : ∀ K, (x + 2 ^ 64 * K) / 2 ^ r = x / 2 ^ r + 2 ^ (64 - r) * K := by
    intro K
    have : 2 ^ 64 * K = 2 ^ r * (2 ^ (64 - r) * K) := by rw [h64, mul_assoc]
    rw [this, Nat.add_mul_div_left _ _ (Nat.two_pow_pos r)]
  rw [hdiv]
  have hyd : y = 2 ^ r * (y / 2 ^ r) + y % 2 ^ r := (Nat.div_add_mod y (2 ^ r)).symm
  rw [window_hi_arith (x / 2 ^ r) (2 ^ (64 - r)) (y % 2 ^ r) (y / 2 ^ r) z (2 ^ r) (2 ^ w)
    (2 ^ (64 - w)) (2 ^ 64) y h64 h64w hyd]
  rw [Nat.add_mul_mod_self_left]

/-- both branches of `bitBuf`, for one pair of adjacent words -/
theorem window_core (x y z r w : ℕ) (hx : x < 2 ^ 64) (hr : r < 64) (hw : w ≤ 64) :
    (if r < 64 - w then x >>> r else (x >>> r) ||| (U.shl 64 y (64 - r))) % 2 ^ w
      = ((x + 2 ^ 64 * (y + 2 ^ 64 * z)) / 2 ^ r) % 2 ^ w := by
  by_cases h : r < 64 - w
  · rw [if_pos h, Nat.shiftRight_eq_div_pow]
    exact (window_lo x (y + 2 ^ 64 * z) r w (by omega)).symm
  · rw [if_neg h]
    exact window_hi x y z r w hx hr hw

/-- value of the five-word digit array -/
def wordsVal (D0 D1 D2 D3 : ℕ) : ℕ := D0 + 2 ^ 64 * D1 + 2 ^ 128 * D2 + 2 ^ 192 * D3

theorem wordsVal_div (D0 D1 D2 D3 : ℕ) (h0 : D0 < 2 ^ 64) (h1 : D1 < 2 ^ 64) (h2 : D2 < 2 ^ 64) :
    wordsVal D0 D1 D2 D3 / 2 ^ (64 * 0) = D0 + 2 ^ 64 * (D1 + 2 ^ 64 * (D2 + 2 ^ 64 * D3)) ∧
    wordsVal D0 D1 D2 D3 / 2 ^ (64 * 1) = D1 + 2 ^ 64 * (D2 + 2 ^ 64 * D3) ∧
    wordsVal D0 D1 D2 D3 / 2 ^ (64 * 2) = D2 + 2 ^ 64 * (D3 + 2 ^ 64 * 0) ∧
    wordsVal D0 D1 D2 D3 / 2 ^ (64 * 3) = D3 + 2 ^ 64 * (0 + 2 ^ 64 * 0) := by
  unfold wordsVal
  norm_num
  omega

theorem nafBitBuf_spec (D0 D1 D2 D3 pos w : ℕ) (h0 : D0 < 2 ^ 64) (h1 : D1 < 2 ^ 64)
    (h2 : D2 < 2 ^ 64) (h3 : D3 < 2 ^ 64) (hpos : pos < 256) (hw : w ≤ 64) :
    nafBitBuf w #[D0, D1, D2, D3, 0] pos % 2 ^ w = (wordsVal D0 D1 D2 D3 / 2 ^ pos) % 2 ^ w := by
  obtain ⟨e0, e1, e2, e3⟩ := wordsVal_div D0 D1 D2 D3 h0 h1 h2
  have hr : pos % 64 < 64 := Nat.mod_lt _ (by norm_num)
  have hsplit : wordsVal D0 D1 D2 D3 / 2 ^ pos
      = wordsVal D0 D1 D2 D3 / 2 ^ (64 * (pos / 64)) / 2 ^ (pos % 64) := by
    rw [Nat.div_div_eq_div_mul, ← pow_add, Nat.div_add_mod]
  rw [hsplit]
  unfold nafBitBuf
  have hk : pos / 64 = 0 ∨ pos / 64 = 1 ∨ pos / 64 = 2 ∨ pos / 64 = 3 := by omega
  rcases hk with hk | hk | hk | hk <;> rw [hk]
  · rw [e0]; exact window_core D0 D1 (D2 + 2 ^ 64 * D3) _ w h0 hr hw
  · rw [e1]
    have := window_core D1 D2 D3 (pos % 64) w h1 hr hw
    simpa using this
  · rw [e2]
    have := window_core D2 D3 0 (pos % 64) w h2 hr hw
    simpa using this
  · rw [e3]
    have := window_core D3 0 0 (pos % 64) w h3 hr hw
    simpa using this

/-! ### The iteration in normal form -/

theorem pow_facts (w : ℕ) (hw : 2 ≤ w ∧ w ≤ 8) :
    2 ^ w = 2 * 2 ^ (w - 1) ∧ 2 ^ (w - 1) = 2 * 2 ^ (w - 2) ∧ 1 ≤ 2 ^ (w - 2) ∧ 2 ^ (w - 1) ≤ 128 := by
  refine ⟨?_, ?_, Nat.one_le_two_pow, ?_⟩
  · rw [← pow_succ']; congr 1; omega
  · rw [← pow_succ']; congr 1; omega
  · calc 2 ^ (w - 1) ≤ 2 ^ 7 := Nat.pow_le_pow_right (by norm_num) (by omega)
      _ = 128 := by norm_num

theorem shl_one (w : ℕ) (hw : w ≤ 8) : U.shl 64 1 w = 2 ^ w := by
  unfold U.shl
  rw [Nat.shiftLeft_eq, one_mul]
  apply Nat.mod_eq_of_lt
  exact Nat.pow_lt_pow_right (by norm_num) (by omega)

theorem window_mask (w : ℕ) (hw : 2 ≤ w ∧ w ≤ 8) : U.sub 64 (U.shl 64 1 w) 1 = 2 ^ w - 1 := by
  rw [shl_one w hw.2]
  obtain ⟨f1, _, _, f4⟩ := pow_facts w hw
  have hW : 2 ^ w ≤ 256 := by omega
  have hW1 : 1 ≤ 2 ^ w := Nat.one_le_two_pow
  unfold U.sub
  generalize 2 ^ w = W at *
  have e : (2 : ℕ) ^ 64 = 18446744073709551616 := by norm_num
  rw [e]
  clear f1 f4 e
  omega

theorem wrap8_small (win H : ℕ) (hH : H ≤ 128) (h : win < H) : wrap8 (win : ℤ) = (win : ℤ) := by
  apply wrap8_id; omega

theorem wrap8_large (win W H : ℕ) (hW : W = 2 * H) (hH : H ≤ 128) (h1 : H ≤ win) (h2 : win < W) :
    wrap8 (wrap8 (win : ℤ) - wrap8 (W : ℤ)) = (win : ℤ) - (W : ℤ) := by
  rw [wrap8_sub]
  apply wrap8_id; omega

/-- normal form of the tail of an iteration -/
theorem nafStepWin_cases (w : ℕ) (hw : 2 ≤ w ∧ w ≤ 8) (st : NafState) (win : ℕ)
    (hwin : win ≤ 2 ^ w) :
    nafStepWin w st win =
      if win % 2 = 0 then { st with pos := st.pos + 1 }
      else if win < 2 ^ (w - 1) then
        { naf := st.naf.set! st.pos (win : ℤ), pos := st.pos + w, carry := 0 }
      else
        { naf := st.naf.set! st.pos ((win : ℤ) - ((2 ^ w : ℕ) : ℤ)), pos := st.pos + w, carry := 1 } := by
  obtain ⟨f1, f2, f3, f4⟩ := pow_facts w hw
  unfold nafStepWin
  simp only [shl_one w hw.2, Nat.and_one_is_mod]
  have hhalf : 2 ^ w / 2 = 2 ^ (w - 1) := by omega
  rw [hhalf]
  by_cases h0 : win % 2 = 0
  · simp only [h0, beq_self_eq_true, if_true]
  · have h0' : (win % 2 == 0) = false := by simp [h0]
    simp only [h0', if_neg h0, Bool.false_eq_true, if_false]
    by_cases h1 : win < 2 ^ (w - 1)
    · simp only [if_pos h1, wrap8_small win _ f4 h1]
    · have hlt : win < 2 ^ w := by omega
      simp only [if_neg h1, wrap8_large win (2 ^ w) (2 ^ (w - 1)) f1 f4 (by omega) hlt]

/-! ### Loop invariant -/

/-- the property of a single NAF digit -/
def NafDigit (w : ℕ) (d : ℤ) : Prop :=
  d = 0 ∨ (d % 2 = 1 ∧ -((2 : ℤ) ^ (w - 1)) < d ∧ d < (2 : ℤ) ^ (w - 1))

structure NafInv (N w : ℕ) (st : NafState) : Prop where
  size : st.naf.size = 256
  carry_le : st.carry ≤ 1
  carry_end : 256 ≤ st.pos → st.carry = 0
  zero_hi : ∀ i, st.pos ≤ i → i < 256 → st.naf[i]! = 0
  digit : ∀ i < 256, NafDigit w st.naf[i]!
  sum : ∑ i ∈ range 256, st.naf[i]! * 2 ^ i + (st.carry : ℤ) * 2 ^ st.pos
          = ((N % 2 ^ st.pos : ℕ) : ℤ)

theorem nafInv_init (N w : ℕ) : NafInv N w nafInit where
  size := by simp [nafInit]
  carry_le := by simp [nafInit]
  carry_end := by simp [nafInit]
  zero_hi := by
    intro i _ hi
    simp [nafInit, hi]
  digit := by
    intro i hi
    left
    simp [nafInit, hi]
  sum := by
    have h : ∀ i ∈ range 256, (nafInit.naf)[i]! * (2 : ℤ) ^ i = 0 := by
      intro i hi
      have hi' := mem_range.mp hi
      simp [nafInit, hi']
    rw [sum_congr rfl h]
    simp [nafInit, Nat.mod_one]

/-- the window value is small at the top end -/
theorem chunk_top (N pos w : ℕ) (hN : N < 2 ^ 255) (hpos : pos < 256) (hpw : 256 ≤ pos + w)
    (hw : 1 ≤ w) : (N / 2 ^ pos) % 2 ^ w < 2 ^ (w - 1) := by
  have h1 : N / 2 ^ pos < 2 ^ (255 - pos) := by
    apply Nat.div_lt_of_lt_mul
    rw [← pow_add]
    have : pos + (255 - pos) = 255 := by omega
    rw [this]; exact hN
  have h2 : 2 ^ (255 - pos) ≤ 2 ^ (w - 1) := Nat.pow_le_pow_right (by norm_num) (by omega)
  have h3 : (N / 2 ^ pos) % 2 ^ w ≤ N / 2 ^ pos := Nat.mod_le _ _
  omega

/-- case "window even" -/
theorem nafInv_even (N w : ℕ) (hw : 2 ≤ w ∧ w ≤ 8) (hN : N < 2 ^ 255) (st : NafState)
    (hinv : NafInv N w st) (hpos : st.pos < 256)
    (heven : (st.carry + (N / 2 ^ st.pos) % 2 ^ w) % 2 = 0) :
    NafInv N w { st with pos := st.pos + 1 } := by
  obtain ⟨hsize, hcle, hcend, hzero, hdigit, hsum⟩ := hinv
  have hbit : ((N / 2 ^ st.pos) % 2 ^ w) % 2 = (N / 2 ^ st.pos) % 2 :=
    Nat.mod_mod_of_dvd _ (dvd_pow_self 2 (by omega))
  have hcb : st.carry = (N / 2 ^ st.pos) % 2 := by omega
  refine ⟨hsize, hcle, ?_, ?_, hdigit, ?_⟩
  · intro h
    have hp : st.pos = 255 := by simp only at h; omega
    have : N / 2 ^ st.pos = 0 := by rw [hp]; exact Nat.div_eq_of_lt hN
    show st.carry = 0
    rw [hcb, this]
  · intro i h1 h2
    exact hzero i (by simp only at h1; omega) h2
  · show ∑ i ∈ range 256, st.naf[i]! * 2 ^ i + (st.carry : ℤ) * 2 ^ (st.pos + 1)
      = ((N % 2 ^ (st.pos + 1) : ℕ) : ℤ)
    rw [Nat.mod_pow_succ, ← hcb]
    generalize N % 2 ^ st.pos = M at hsum ⊢
    rw [Nat.cast_add, Nat.cast_mul, Nat.cast_pow, Nat.cast_ofNat, pow_succ]
    linear_combination hsum

/-- writing a digit `d` at `pos` and moving on by `w` with carry `c`, where `d + c·2^w` is the window value -/
theorem nafInv_write (N w : ℕ) (hw : 1 ≤ w) (st : NafState) (hinv : NafInv N w st) (hpos : st.pos < 256) (d : ℤ) (c : ℕ)
    (hc : c ≤ 1) (hend : 256 ≤ st.pos + w → c = 0) (hd : NafDigit w d)
    (hval : d + (c : ℤ) * 2 ^ w = ((st.carry + (N / 2 ^ st.pos) % 2 ^ w : ℕ) : ℤ)) :
    NafInv N w { naf := st.naf.set! st.pos d, pos := st.pos + w, carry := c } := by
  obtain ⟨hsize, hcle, hcend, hzero, hdigit, hsum⟩ := hinv
  have hps : st.pos < st.naf.size := by omega
  refine ⟨?_, hc, hend, ?_, ?_, ?_⟩
  · show (st.naf.set! st.pos d).size = 256
    rw [Array.size_set!]; exact hsize
  · intro i h1 h2
    show (st.naf.set! st.pos d)[i]! = 0
    rw [Arr.get_set!_of_lt _ _ _ _ hps, if_neg (by simp only at h1; omega)]
    exact hzero i (by simp only at h1; omega) h2
  · intro i hi
    show NafDigit w (st.naf.set! st.pos d)[i]!
    rw [Arr.get_set!_of_lt _ _ _ _ hps]
    by_cases h : i = st.pos
    · rw [if_pos h]; exact hd
    · rw [if_neg h]; exact hdigit i hi
  · show ∑ i ∈ range 256, (st.naf.set! st.pos d)[i]! * 2 ^ i + (c : ℤ) * 2 ^ (st.pos + w)
      = ((N % 2 ^ (st.pos + w) : ℕ) : ℤ)
    have hmod : N % 2 ^ (st.pos + w) = N % 2 ^ st.pos + 2 ^ st.pos * ((N / 2 ^ st.pos) % 2 ^ w) := by
      rw [Nat.pow_add, Nat.mod_mul]
    rw [sum_set! _ _ 256 _ _ hpos hps, hzero st.pos (le_refl _) hpos, hmod]
    generalize N % 2 ^ st.pos = M at hsum ⊢
    generalize (N / 2 ^ st.pos) % 2 ^ w = C at hval ⊢
    push_cast at hval ⊢
    rw [pow_add]
    linear_combination hsum + 2 ^ st.pos * hval

/-- case "window odd and small": the digit is the window value -/
theorem nafInv_small (N w : ℕ) (hw : 2 ≤ w ∧ w ≤ 8) (st : NafState)
    (hinv : NafInv N w st) (hpos : st.pos < 256) (win : ℕ)
    (hwin : win = st.carry + (N / 2 ^ st.pos) % 2 ^ w)
    (hodd : ¬ win % 2 = 0) (hsmall : win < 2 ^ (w - 1)) :
    NafInv N w { naf := st.naf.set! st.pos (win : ℤ), pos := st.pos + w, carry := 0 } := by
  apply nafInv_write N w (by omega) st hinv hpos (win : ℤ) 0 (by omega) (fun _ => rfl)
  · right
    have hc : ((2 ^ (w - 1) : ℕ) : ℤ) = (2 : ℤ) ^ (w - 1) := by push_cast; rfl
    rw [← hc]
    omega
  · rw [← hwin]; simp

/-- case "window odd and large": the digit is the window value minus `2^w`, with a carry -/
theorem nafInv_large (N w : ℕ) (hw : 2 ≤ w ∧ w ≤ 8) (hN : N < 2 ^ 255) (st : NafState)
    (hinv : NafInv N w st) (hpos : st.pos < 256) (win : ℕ)
    (hwin : win = st.carry + (N / 2 ^ st.pos) % 2 ^ w)
    (hodd : ¬ win % 2 = 0) (hlarge : ¬ win < 2 ^ (w - 1)) :
    NafInv N w { naf := st.naf.set! st.pos ((win : ℤ) - ((2 ^ w : ℕ) : ℤ)), pos := st.pos + w,
                 carry := 1 } := by
  obtain ⟨f1, f2, f3, f4⟩ := pow_facts w hw
  have hchunk : (N / 2 ^ st.pos) % 2 ^ w < 2 ^ w := Nat.mod_lt _ (Nat.two_pow_pos w)
  have hcle := hinv.carry_le
  apply nafInv_write N w (by omega) st hinv hpos _ 1 (by omega)
  · intro h
    exfalso
    have := chunk_top N st.pos w hN hpos h (by omega)
    omega
  · right
    have hc : ((2 ^ (w - 1) : ℕ) : ℤ) = (2 : ℤ) ^ (w - 1) := by push_cast; rfl
    rw [← hc]
    omega
  · rw [← hwin]; push_cast; ring

/-- one iteration preserves the invariant and advances `pos` -/
theorem nafInv_step (N w : ℕ) (hw : 2 ≤ w ∧ w ≤ 8) (hN : N < 2 ^ 255) (D : Array Nat)
    (hD : ∀ pos < 256, nafBitBuf w D pos % 2 ^ w = (N / 2 ^ pos) % 2 ^ w)
    (st : NafState) (hinv : NafInv N w st) (hpos : st.pos < 256) :
    NafInv N w (nafStep w D st) ∧ st.pos < (nafStep w D st).pos := by
  have hchunk : (N / 2 ^ st.pos) % 2 ^ w < 2 ^ w := Nat.mod_lt _ (Nat.two_pow_pos w)
  have hc := hinv.carry_le
  have hW : 2 ^ w ≤ 256 := by
    calc 2 ^ w ≤ 2 ^ 8 := Nat.pow_le_pow_right (by norm_num) hw.2
      _ = 256 := by norm_num
  have hwindow : U.add 64 st.carry (nafBitBuf w D st.pos &&& U.sub 64 (U.shl 64 1 w) 1)
      = st.carry + (N / 2 ^ st.pos) % 2 ^ w := by
    rw [window_mask w hw, Nat.and_two_pow_sub_one_eq_mod, hD st.pos hpos]
    unfold U.add
    apply Nat.mod_eq_of_lt
    omega
  rw [nafStep_eq_win, hwindow, nafStepWin_cases w hw st _ (by omega)]
  by_cases h0 : (st.carry + (N / 2 ^ st.pos) % 2 ^ w) % 2 = 0
  · rw [if_pos h0]
    exact ⟨nafInv_even N w hw hN st hinv hpos h0, Nat.lt_succ_self _⟩
  · rw [if_neg h0]
    by_cases h1 : st.carry + (N / 2 ^ st.pos) % 2 ^ w < 2 ^ (w - 1)
    · rw [if_pos h1]
      exact ⟨nafInv_small N w hw st hinv hpos _ rfl h0 h1, by show st.pos < st.pos + w; omega⟩
    · rw [if_neg h1]
      exact ⟨nafInv_large N w hw hN st hinv hpos _ rfl h0 h1, by show st.pos < st.pos + w; omega⟩

theorem nafInv_loop (N w : ℕ) (hw : 2 ≤ w ∧ w ≤ 8) (hN : N < 2 ^ 255) (D : Array Nat)
    (hD : ∀ pos < 256, nafBitBuf w D pos % 2 ^ w = (N / 2 ^ pos) % 2 ^ w)
    (fuel : ℕ) (st : NafState) (hinv : NafInv N w st) (hfuel : 256 ≤ fuel + st.pos) :
    NafInv N w (nafLoop w D fuel st) ∧ 256 ≤ (nafLoop w D fuel st).pos := by
  induction fuel generalizing st with
  | zero =>
    unfold nafLoop
    exact ⟨hinv, by omega⟩
  | succ fuel ih =>
    unfold nafLoop
    by_cases hpos : st.pos < 256
    · rw [if_pos hpos]
      obtain ⟨h1, h2⟩ := nafInv_step N w hw hN D hD st hinv hpos
      exact ih _ h1 (by omega)
    · rw [if_neg hpos]
      exact ⟨hinv, by omega⟩

/-! ### Connecting the words with the little-endian value -/

theorem le64at_lt (b : Bytes) (hb : ∀ i < 32, b[i]! < 256) (k : ℕ) (hk : k < 4) :
    le64at b k < 2 ^ 64 :=
  le64_lt b (k * 8) (fun i hi => hb _ (by omega))

theorem le32_words (b : Bytes) :
    leFrom b 0 32 = wordsVal (le64at b 0) (le64at b 1) (le64at b 2) (le64at b 3) :=
  leFrom_32_words b

/-- **nonAdjacentForm is correct.** Hypotheses: `2 ≤ w ≤ 8` and `b[31] ≤ 127` (exactly the
non-panicking domain of the Go function). Digit `i` is `0` or odd with `|d| < 2^(w-1)`
(`d % 2 = 1` with Lean's Euclidean `%`, which covers negative odd digits as well). -/
theorem naf_spec (b : Bytes) (w : ℕ) (hb : ∀ i < 32, b[i]! < 256) (h31 : b[31]! ≤ 127)
    (hw : 2 ≤ w ∧ w ≤ 8) :
    (nafOfBytes b w).size = 256 ∧
    (∀ i < 256, (nafOfBytes b w)[i]! = 0 ∨
      ((nafOfBytes b w)[i]! % 2 = 1 ∧ -((2 : ℤ) ^ (w - 1)) < (nafOfBytes b w)[i]! ∧
        (nafOfBytes b w)[i]! < (2 : ℤ) ^ (w - 1))) ∧
    ∑ i ∈ range 256, (nafOfBytes b w)[i]! * 2 ^ i = (leFrom b 0 32 : ℤ) := by
  have hN := le32_lt b hb h31
  have hD : ∀ pos < 256, nafBitBuf w (nafDigits b) pos % 2 ^ w = (leFrom b 0 32 / 2 ^ pos) % 2 ^ w := by
    intro pos hpos
    rw [le32_words]
    exact nafBitBuf_spec _ _ _ _ pos w (le64at_lt b hb 0 (by omega)) (le64at_lt b hb 1 (by omega))
      (le64at_lt b hb 2 (by omega)) (le64at_lt b hb 3 (by omega)) hpos (by omega)
  obtain ⟨hinv, hend⟩ := nafInv_loop (leFrom b 0 32) w hw hN (nafDigits b) hD 256 nafInit
    (nafInv_init (leFrom b 0 32) w) (by omega)
  refine ⟨hinv.size, hinv.digit, ?_⟩
  have hs := hinv.sum
  rw [hinv.carry_end hend] at hs
  have hmod : leFrom b 0 32 % 2 ^ (nafLoop w (nafDigits b) 256 nafInit).pos = leFrom b 0 32 := by
    apply Nat.mod_eq_of_lt
    calc leFrom b 0 32 < 2 ^ 255 := hN
      _ ≤ _ := Nat.pow_le_pow_right (by norm_num) (by omega)
  rw [hmod] at hs
  unfold nafOfBytes
  rw [← hs]
  simp

/-- every NAF digit fits `int8` strictly: `-128 < d < 128` (used by table selection) -/
theorem naf_digit_int8 (b : Bytes) (w : ℕ) (hb : ∀ i < 32, b[i]! < 256) (h31 : b[31]! ≤ 127)
    (hw : 2 ≤ w ∧ w ≤ 8) (i : ℕ) (hi : i < 256) :
    -128 < (nafOfBytes b w)[i]! ∧ (nafOfBytes b w)[i]! < 128 := by
  obtain ⟨_, h, _⟩ := naf_spec b w hb h31 hw
  obtain ⟨_, _, _, f4⟩ := pow_facts w hw
  have hc : ((2 ^ (w - 1) : ℕ) : ℤ) = (2 : ℤ) ^ (w - 1) := by push_cast; rfl
  rcases h i hi with h | ⟨_, h1, h2⟩
  · rw [h]; omega
  · rw [← hc] at h1 h2
    omega

end EdVerif.Proofs
