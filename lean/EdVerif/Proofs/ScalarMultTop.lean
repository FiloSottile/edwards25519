import EdVerif.Proofs.ScalarMultProofs
import EdVerif.Proofs.Naf
import EdVerif.Proofs.ScalarMultUnfold
/-!
C01, scalar level: the five scalar multiplications of the executable model on scalars. A scalar
`s : W4` (Montgomery form) enters the point layer only through `Scalar.bytes s`; all theorems are
stated under `Scalar.bytes s = LEbytes k 32` with `k < 2^255` (every valid scalar satisfies this
with `k = (toZ s).val < l`, proved in the scalar layer).
-/
namespace EdVerif.Proofs
open EdVerif.Impl EdVerif.Impl.Point EdVerif.Prims EdVerif.Spec
open Finset

/-! ### what the hypothesis on `Scalar.bytes` gives -/

theorem LEbytes_top (k : ℕ) (hk : k < 2 ^ 255) : (LEbytes k 32)[31]! ≤ 127 := by
  rw [LEbytes_getElem! k (by omega : 31 < 32)]
  have h : k / 256 ^ 31 < 128 := by
    apply Nat.div_lt_of_lt_mul
    calc k < 2 ^ 255 := hk
      _ = 256 ^ 31 * 128 := by norm_num
  have := Nat.mod_le (k / 256 ^ 31) 256
  omega

theorem LEbytes_le32 (k : ℕ) (hk : k < 2 ^ 255) : leFrom (LEbytes k 32) 0 32 = k := by
  rw [leFrom_digits _ k 32 (fun i hi => LEbytes_getElem! k hi)]
  apply Nat.mod_eq_of_lt
  calc k < 2 ^ 255 := hk
    _ ≤ 256 ^ 32 := by norm_num

theorem LEbytes_lt32 (k : ℕ) : ∀ i < 32, (LEbytes k 32)[i]! < 256 :=
  fun i _ => (LEbytes_isBytes k 32).all i

/-- `signedRadix16` on a scalar with `bytes s = LEbytes k 32`, `k < 2^255` -/
theorem radix16_facts {s : W4} {k : ℕ} (hk : Scalar.bytes s = LEbytes k 32) (hk255 : k < 2 ^ 255) :
    Scalar.signedRadix16 s = .ok (radix16OfBytes (Scalar.bytes s)) ∧
    (∀ i < 64, (-8 : ℤ) ≤ (radix16OfBytes (Scalar.bytes s))[i]! ∧
      (radix16OfBytes (Scalar.bytes s))[i]! ≤ 8) ∧
    ∑ i ∈ range 64, (radix16OfBytes (Scalar.bytes s))[i]! * 16 ^ i = (k : ℤ) := by
  have h31 : (Scalar.bytes s)[31]! ≤ 127 := by rw [hk]; exact LEbytes_top k hk255
  have hb : ∀ i < 32, (Scalar.bytes s)[i]! < 256 := by rw [hk]; exact LEbytes_lt32 k
  refine ⟨signedRadix16_eq s h31, radix16_digit_range _ hb h31, ?_⟩
  rw [(radix16_spec _ hb h31).2.2.2, hk, LEbytes_le32 k hk255]

/-- `nonAdjacentForm s w` on a scalar with `bytes s = LEbytes k 32`, `k < 2^255` -/
theorem naf_facts (w : ℕ) (hw : 2 ≤ w ∧ w ≤ 8) {s : W4} {k : ℕ} (hk : Scalar.bytes s = LEbytes k 32)
    (hk255 : k < 2 ^ 255) :
    Scalar.nonAdjacentForm s w = .ok (nafOfBytes (Scalar.bytes s) w) ∧
    (∀ i < 256, (nafOfBytes (Scalar.bytes s) w)[i]! = 0 ∨
      ((nafOfBytes (Scalar.bytes s) w)[i]! % 2 = 1 ∧ -((2 : ℤ) ^ (w - 1)) < (nafOfBytes (Scalar.bytes s) w)[i]! ∧
        (nafOfBytes (Scalar.bytes s) w)[i]! < (2 : ℤ) ^ (w - 1))) ∧
    ∑ i ∈ range 256, (nafOfBytes (Scalar.bytes s) w)[i]! * 2 ^ i = (k : ℤ) := by
  have h31 : (Scalar.bytes s)[31]! ≤ 127 := by rw [hk]; exact LEbytes_top k hk255
  have hb : ∀ i < 32, (Scalar.bytes s)[i]! < 256 := by rw [hk]; exact LEbytes_lt32 k
  obtain ⟨_, hd, hsum⟩ := naf_spec (Scalar.bytes s) w hb h31 hw
  exact ⟨nonAdjacentForm_eq s w h31 hw, hd, by rw [hsum, hk, LEbytes_le32 k hk255]⟩

/-- `nonAdjacentForm s 5` -/
theorem naf5_facts {s : W4} {k : ℕ} (hk : Scalar.bytes s = LEbytes k 32) (hk255 : k < 2 ^ 255) :
    Scalar.nonAdjacentForm s 5 = .ok (nafOfBytes (Scalar.bytes s) 5) ∧
    (∀ i < 256, (nafOfBytes (Scalar.bytes s) 5)[i]! = 0 ∨
      ((nafOfBytes (Scalar.bytes s) 5)[i]! % 2 = 1 ∧ (-16 : ℤ) < (nafOfBytes (Scalar.bytes s) 5)[i]! ∧
        (nafOfBytes (Scalar.bytes s) 5)[i]! < 16)) ∧
    ∑ i ∈ range 256, (nafOfBytes (Scalar.bytes s) 5)[i]! * 2 ^ i = (k : ℤ) := by
  obtain ⟨he, hd, hsum⟩ := naf_facts 5 (by omega) hk hk255
  exact ⟨he, fun i hi => by have h := hd i hi; norm_num at h; exact h, hsum⟩

/-- `nonAdjacentForm s 8` -/
theorem naf8_facts {s : W4} {k : ℕ} (hk : Scalar.bytes s = LEbytes k 32) (hk255 : k < 2 ^ 255) :
    Scalar.nonAdjacentForm s 8 = .ok (nafOfBytes (Scalar.bytes s) 8) ∧
    (∀ i < 256, (nafOfBytes (Scalar.bytes s) 8)[i]! = 0 ∨
      ((nafOfBytes (Scalar.bytes s) 8)[i]! % 2 = 1 ∧ (-128 : ℤ) < (nafOfBytes (Scalar.bytes s) 8)[i]! ∧
        (nafOfBytes (Scalar.bytes s) 8)[i]! < 128)) ∧
    ∑ i ∈ range 256, (nafOfBytes (Scalar.bytes s) 8)[i]! * 2 ^ i = (k : ℤ) := by
  obtain ⟨he, hd, hsum⟩ := naf_facts 8 (by omega) hk hk255
  exact ⟨he, fun i hi => by have h := hd i hi; norm_num at h; exact h, hsum⟩

/-! ### the top-level functions on a successful recoding -/

theorem scalarMult_ok {s : W4} {q : P3} {d : Array Int} (he : Scalar.signedRadix16 s = .ok d) :
    Point.scalarMult s q = .ok (Point.scalarMultDigits d q) := by
  rw [scalarMult_bind, he]; rfl

theorem scalarBaseMult_ok {s : W4} {d : Array Int} (he : Scalar.signedRadix16 s = .ok d) :
    Point.scalarBaseMult s = .ok (Point.scalarBaseMultDigits d) := by
  rw [scalarBaseMult_bind, he]; rfl

theorem varTimeDouble_ok {a b : W4} {A : P3} {da db : Array Int}
    (hea : Scalar.nonAdjacentForm a 5 = .ok da) (heb : Scalar.nonAdjacentForm b 8 = .ok db) :
    Point.varTimeDoubleScalarBaseMult a A b = .ok (Point.varTimeDoubleDigits da db A) := by
  rw [varTimeDoubleScalarBaseMult_match, hea, heb]; rfl

theorem multiScalarMult_ok {ss : Array W4} {ps : Array P3} {d : Array (Array Int)}
    (he : Point.collect (ss.toList.map Scalar.signedRadix16) = .ok d) :
    Point.multiScalarMult ss ps = .ok (Point.multiScalarMultDigits d ps) := by
  rw [multiScalarMult_bind, he]; rfl

theorem varTimeMultiScalarMult_ok {ss : Array W4} {ps : Array P3} {d : Array (Array Int)}
    (he : Point.collect (ss.toList.map (Scalar.nonAdjacentForm · 5)) = .ok d) :
    Point.varTimeMultiScalarMult ss ps = .ok (Point.varTimeMultiDigits d ps) := by
  rw [varTimeMultiScalarMult_bind, he]; rfl

section
variable (ff : FieldFacts) (sf : SqrtRatioDecodeFacts)
include ff sf

/-! ### the five functions -/

theorem scalarMult_spec {s : W4} {k : ℕ} {q : P3}
    (hk : Scalar.bytes s = LEbytes k 32) (hk255 : k < 2 ^ 255) (hq : q.Valid) :
    ∃ r, Point.scalarMult s q = .ok r ∧ r.Valid ∧ r.toEd = k • q.toEd := by
  obtain ⟨he, hr, hsum⟩ := radix16_facts hk hk255
  have h := scalarMultDigits_rep ff sf hr hq.rep
  rw [hsum, natCast_zsmul] at h
  exact ⟨_, scalarMult_ok he, P3.rep_iff.mp h⟩

theorem scalarBaseMult_spec {s : W4} {k : ℕ}
    (hk : Scalar.bytes s = LEbytes k 32) (hk255 : k < 2 ^ 255) :
    ∃ r, Point.scalarBaseMult s = .ok r ∧ r.Valid ∧ r.toEd = k • basepoint := by
  obtain ⟨he, hr, hsum⟩ := radix16_facts hk hk255
  have h := scalarBaseMultDigits_rep ff sf hr
  rw [hsum, natCast_zsmul] at h
  exact ⟨_, scalarBaseMult_ok he, P3.rep_iff.mp h⟩

theorem varTimeDouble_spec {a b : W4} {ka kb : ℕ} {A : P3}
    (ha : Scalar.bytes a = LEbytes ka 32) (ha255 : ka < 2 ^ 255)
    (hb : Scalar.bytes b = LEbytes kb 32) (hb255 : kb < 2 ^ 255) (hA : A.Valid) :
    ∃ r, Point.varTimeDoubleScalarBaseMult a A b = .ok r ∧ r.Valid ∧
      r.toEd = ka • A.toEd + kb • basepoint := by
  obtain ⟨hea, hra, hsa⟩ := naf5_facts ha ha255
  obtain ⟨heb, hrb, hsb⟩ := naf8_facts hb hb255
  have h := varTimeDoubleDigits_rep ff sf hra hrb hA.rep
  rw [hsa, hsb, natCast_zsmul, natCast_zsmul] at h
  exact ⟨_, varTimeDouble_ok hea heb, P3.rep_iff.mp h⟩

theorem multiScalarMult_spec (ss : Array W4) (ps : Array P3) (ks : Array ℕ)
    (hs : ss.size = ps.size)
    (hk : ∀ i < ps.size, Scalar.bytes ss[i]! = LEbytes ks[i]! 32 ∧ ks[i]! < 2 ^ 255)
    (hp : ∀ i < ps.size, (ps[i]!).Valid) :
    ∃ r, Point.multiScalarMult ss ps = .ok r ∧ r.Valid ∧
      r.toEd = ∑ i ∈ range ps.size, ks[i]! • (ps[i]!).toEd := by
  have hc : Point.collect (ss.toList.map Scalar.signedRadix16)
      = .ok (ss.map (fun s => radix16OfBytes (Scalar.bytes s))) :=
    collect_ok Scalar.signedRadix16 (fun s => radix16OfBytes (Scalar.bytes s)) ss
      (fun i hi => (radix16_facts (hk i (by omega)).1 (hk i (by omega)).2).1)
  have h := multiScalarMultDigits_rep ff sf
    (digits := ss.map (fun s => radix16OfBytes (Scalar.bytes s))) (points := ps)
    (Q := fun j => (ps[j]!).toEd)
    (fun j hj => by
      rw [Arr.get_map _ _ _ (by omega)]
      exact (radix16_facts (hk j hj).1 (hk j hj).2).2.1)
    (fun j hj => (hp j hj).rep)
  have e : ∑ j ∈ range ps.size,
      (∑ i ∈ range 64, ((ss.map (fun s => radix16OfBytes (Scalar.bytes s)))[j]!)[i]! * 16 ^ i) •
        (ps[j]!).toEd = ∑ i ∈ range ps.size, ks[i]! • (ps[i]!).toEd := by
    apply sum_congr rfl
    intro j hj
    have hj' : j < ps.size := mem_range.mp hj
    rw [Arr.get_map _ _ _ (by omega), (radix16_facts (hk j hj').1 (hk j hj').2).2.2,
      natCast_zsmul]
  rw [e] at h
  exact ⟨_, multiScalarMult_ok hc, P3.rep_iff.mp h⟩

omit sf in
theorem varTimeMultiScalarMult_spec (ss : Array W4) (ps : Array P3) (ks : Array ℕ)
    (hs : ss.size = ps.size)
    (hk : ∀ i < ps.size, Scalar.bytes ss[i]! = LEbytes ks[i]! 32 ∧ ks[i]! < 2 ^ 255)
    (hp : ∀ i < ps.size, (ps[i]!).Valid) :
    ∃ r, Point.varTimeMultiScalarMult ss ps = .ok r ∧ r.Valid ∧
      r.toEd = ∑ i ∈ range ps.size, ks[i]! • (ps[i]!).toEd := by
  have hc : Point.collect (ss.toList.map (Scalar.nonAdjacentForm · 5))
      = .ok (ss.map (fun s => nafOfBytes (Scalar.bytes s) 5)) :=
    collect_ok (Scalar.nonAdjacentForm · 5) (fun s => nafOfBytes (Scalar.bytes s) 5) ss
      (fun i hi => (naf5_facts (hk i (by omega)).1 (hk i (by omega)).2).1)
  have h := varTimeMultiDigits_rep ff
    (nafs := ss.map (fun s => nafOfBytes (Scalar.bytes s) 5)) (points := ps)
    (Q := fun j => (ps[j]!).toEd) (by rw [Array.size_map, hs])
    (fun j hj => by
      rw [Arr.get_map _ _ _ (by omega)]
      exact (naf5_facts (hk j hj).1 (hk j hj).2).2.1)
    (fun j hj => (hp j hj).rep)
  have e : ∑ j ∈ range ps.size,
      (∑ i ∈ range 256, ((ss.map (fun s => nafOfBytes (Scalar.bytes s) 5))[j]!)[i]! * 2 ^ i) •
        (ps[j]!).toEd = ∑ i ∈ range ps.size, ks[i]! • (ps[i]!).toEd := by
    apply sum_congr rfl
    intro j hj
    have hj' : j < ps.size := mem_range.mp hj
    rw [Arr.get_map _ _ _ (by omega), (naf5_facts (hk j hj').1 (hk j hj').2).2.2,
      natCast_zsmul]
  rw [e] at h
  exact ⟨_, varTimeMultiScalarMult_ok hc, P3.rep_iff.mp h⟩

end

end EdVerif.Proofs
