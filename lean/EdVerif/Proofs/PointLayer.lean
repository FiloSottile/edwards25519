import EdVerif.Proofs.PointDefs
/-!
Point layer, algebraic part: every point-level operation of the executable model refines the
corresponding operation of the affine Edwards group, given the field-level facts `FieldFacts`.

* constants `d`, `d2`;
* building blocks ("Rep in ⇒ Rep out", limb invariants threaded) for all conversions, the five
  `projP1xP1` formulas, selection and conditional negation;
* C02 (`Add`, `Subtract`, `Negate`, `MultByCofactor`), C06 (`Equal`), C13 (`SetExtendedCoordinates`),
  C17 (`BytesMontgomery`, up to the byte-level encoding).
-/
namespace EdVerif.Proofs
open EdVerif.Impl EdVerif.Prims EdVerif.Spec

/-! ### transport of the `Spec` relations along equalities of coordinates -/

theorem _root_.EdVerif.Spec.ExtRep.congr {X Y Z T X' Y' Z' T' : F} {p : Ed25519} (h : ExtRep X Y Z T p)
    (eX : X' = X) (eY : Y' = Y) (eZ : Z' = Z) (eT : T' = T) : ExtRep X' Y' Z' T' p := by
  subst eX eY eZ eT; exact h

theorem _root_.EdVerif.Spec.P2Rep.congr {X Y Z X' Y' Z' : F} {p : Ed25519} (h : P2Rep X Y Z p)
    (eX : X' = X) (eY : Y' = Y) (eZ : Z' = Z) : P2Rep X' Y' Z' p := by
  subst eX eY eZ; exact h

theorem _root_.EdVerif.Spec.CachedRep.congr {A B Z T A' B' Z' T' : F} {p : Ed25519} (h : CachedRep A B Z T p)
    (eA : A' = A) (eB : B' = B) (eZ : Z' = Z) (eT : T' = T) : CachedRep A' B' Z' T' p := by
  subst eA eB eZ eT; exact h

theorem _root_.EdVerif.Spec.AffCachedRep.congr {A B T A' B' T' : F} {p : Ed25519} (h : AffCachedRep A B T p)
    (eA : A' = A) (eB : B' = B) (eT : T' = T) : AffCachedRep A' B' T' p := by
  subst eA eB eT; exact h

/-! ### a concrete valid point (non-vacuity of `P3.Valid`, independent of `FieldFacts`) -/

/-- the raw identity `(0 : 1 : 1 : 0)` with canonical limbs -/
def rawIdentity : P3 := ⟨⟨0, 0, 0, 0, 0⟩, ⟨1, 0, 0, 0, 0⟩, ⟨1, 0, 0, 0, 0⟩, ⟨0, 0, 0, 0, 0⟩⟩

theorem toZ_limbs_zero : toZ ⟨0, 0, 0, 0, 0⟩ = 0 := by simp [toZ, Fe.val]
theorem toZ_limbs_one : toZ ⟨1, 0, 0, 0, 0⟩ = 1 := by simp [toZ, Fe.val]

theorem rawIdentity_rep : rawIdentity.Rep 0 :=
  ⟨by decide, by decide, by decide, by decide,
    extRep_zero.congr toZ_limbs_zero toZ_limbs_one toZ_limbs_one toZ_limbs_zero⟩

theorem exists_valid : ∃ P : P3, P.Valid ∧ P.toEd = 0 := ⟨rawIdentity, P3.rep_iff.mp rawIdentity_rep⟩

/-! ### constants -/

theorem dBytes_size : Point.dBytes.size = 32 := rfl

theorem dBytes_isBytes : IsBytes Point.dBytes := by
  unfold IsBytes; decide

theorem dBytes_LE : LE Point.dBytes % 2 ^ 255 = EdVerif.D := by decide +kernel

section
variable (ff : FieldFacts)
include ff

/-- `var d` is the curve constant -/
theorem d_good : Good Point.d Spec.d := by
  obtain ⟨e, he, hinv, hval⟩ := ff.setBytes Point.dBytes dBytes_size dBytes_isBytes
  have hd : Point.d = e := by unfold Point.d; rw [he]; rfl
  rw [hd]
  exact ⟨hinv, by rw [hval, dBytes_LE]; rfl⟩

theorem d_inv : Fe.Inv Point.d := (d_good ff).inv
theorem toZ_d : toZ Point.d = Spec.d := (d_good ff).val

/-- `var d2 = 2 d` -/
theorem d2_good : Good Point.d2 (2 * Spec.d) :=
  (Good.add ff (d_good ff) (d_good ff)).congr (by ring)

theorem d2_inv : Fe.Inv Point.d2 := (d2_good ff).inv
theorem toZ_d2 : toZ Point.d2 = 2 * Spec.d := (d2_good ff).val

/-! ### zero elements of the auxiliary representations -/

theorem P2_zero_rep : Point.P2.zero.Rep 0 :=
  ⟨ff.zero.1, ff.one.1, ff.one.1,
    p2Rep_zero.congr ff.zero.2 ff.one.2 ff.one.2⟩

theorem Cached_zero_rep : Point.Cached.zero.Rep 0 :=
  ⟨ff.one.1, ff.one.1, ff.one.1, ff.zero.1,
    cachedRep_zero.congr ff.one.2 ff.one.2 ff.one.2 ff.zero.2⟩

theorem AffineCached_zero_rep : Point.AffineCached.zero.Rep 0 :=
  ⟨ff.one.1, ff.one.1, ff.zero.1,
    affCachedRep_zero.congr ff.one.2 ff.one.2 ff.zero.2⟩

/-! ### conversions -/

omit ff in
/-- `projP2.FromP3` -/
theorem P2_fromP3_rep {p : P3} {q : Ed25519} (h : p.Rep q) : (Point.P2.fromP3 p).Rep q :=
  ⟨h.ix, h.iy, h.iz, h.rep.toP2⟩

/-- `Point.fromP1xP1` -/
theorem fromP1xP1_rep {p : P1xP1} {q : Ed25519} (h : p.Rep q) : (Point.fromP1xP1 p).Rep q := by
  have gX := Good.of_inv h.ix
  have gY := Good.of_inv h.iy
  have gZ := Good.of_inv h.iz
  have gT := Good.of_inv h.it
  have X3 := Good.mul ff gX gT
  have Y3 := Good.mul ff gY gZ
  have Z3 := Good.mul ff gZ gT
  have T3 := Good.mul ff gX gY
  exact ⟨X3.inv, Y3.inv, Z3.inv, T3.inv, h.rep.toExt.congr X3.val Y3.val Z3.val T3.val⟩

/-- `projP2.FromP1xP1`: the first three coordinates of `Point.fromP1xP1` -/
theorem P2_fromP1xP1_rep {p : P1xP1} {q : Ed25519} (h : p.Rep q) :
    (Point.P2.fromP1xP1 p).Rep q :=
  P2_fromP3_rep (fromP1xP1_rep ff h)

/-- `Point.fromP2` -/
theorem fromP2_rep {p : P2} {q : Ed25519} (h : p.Rep q) : (Point.fromP2 p).Rep q := by
  have gX := Good.of_inv h.ix
  have gY := Good.of_inv h.iy
  have gZ := Good.of_inv h.iz
  have X3 := Good.mul ff gX gZ
  have Y3 := Good.mul ff gY gZ
  have Z3 := Good.square ff gZ
  have T3 := Good.mul ff gX gY
  exact ⟨X3.inv, Y3.inv, Z3.inv, T3.inv, h.rep.toExt.congr X3.val Y3.val Z3.val T3.val⟩

/-- `projCached.FromP3` -/
theorem Cached_fromP3_rep {p : P3} {q : Ed25519} (h : p.Rep q) : (Point.Cached.fromP3 p).Rep q := by
  have gx := Good.of_inv h.ix
  have gy := Good.of_inv h.iy
  have gt := Good.of_inv h.it
  have A := Good.add ff gy gx
  have B := Good.sub ff gy gx
  have T := Good.mul ff gt (d2_good ff)
  exact ⟨A.inv, B.inv, h.iz, T.inv,
    h.rep.toCached.congr A.val B.val rfl (T.val.trans (by ring))⟩

/-- `affineCached.FromP3` -/
theorem AffineCached_fromP3_rep {p : P3} {q : Ed25519} (h : p.Rep q) :
    (Point.AffineCached.fromP3 p).Rep q := by
  have gx := Good.of_inv h.ix
  have gy := Good.of_inv h.iy
  have gz := Good.of_inv h.iz
  have gt := Good.of_inv h.it
  have A := Good.add ff gy gx
  have B := Good.sub ff gy gx
  have T := Good.mul ff gt (d2_good ff)
  have I := Good.invert ff gz
  have A' := Good.mul ff A I
  have B' := Good.mul ff B I
  have T' := Good.mul ff T I
  exact ⟨A'.inv, B'.inv, T'.inv,
    h.rep.toAffCached.congr A'.val B'.val (T'.val.trans (by ring))⟩

/-! ### the `projP1xP1` formulas -/

/-- the field steps the four additions share: `cp`, `cm`, `ct` are the cached factors in the order used, `z2` the
doubled `Z` term -/
theorem P1xP1_core {p : P3} {P : Ed25519} (hp : p.Rep P) {cp cm ct z2 : Fe} {a b t z : F}
    (hcp : Good cp a) (hcm : Good cm b) (hct : Good ct t) (hz : Good z2 z) :
    Good (Fe.sub (Fe.mul (Fe.add p.y p.x) cp) (Fe.mul (Fe.sub p.y p.x) cm))
      ((toZ p.y + toZ p.x) * a - (toZ p.y - toZ p.x) * b) ∧
    Good (Fe.add (Fe.mul (Fe.add p.y p.x) cp) (Fe.mul (Fe.sub p.y p.x) cm))
      ((toZ p.y + toZ p.x) * a + (toZ p.y - toZ p.x) * b) ∧
    Good (Fe.add z2 (Fe.mul p.t ct)) (z + toZ p.t * t) ∧ Good (Fe.sub z2 (Fe.mul p.t ct)) (z - toZ p.t * t) := by
  have gx := Good.of_inv hp.ix
  have gy := Good.of_inv hp.iy
  have PP := Good.mul ff (Good.add ff gy gx) hcp
  have MM := Good.mul ff (Good.sub ff gy gx) hcm
  have TT := Good.mul ff (Good.of_inv hp.it) hct
  exact ⟨Good.sub ff PP MM, Good.add ff PP MM, Good.add ff hz TT, Good.sub ff hz TT⟩

/-- `projP1xP1.Add` -/
theorem P1xP1_add_rep {p : P3} {c : Cached} {P Q : Ed25519} (hp : p.Rep P) (hc : c.Rep Q) :
    (Point.P1xP1.add p c).Rep (P + Q) := by
  have ZZ := Good.mul ff (Good.of_inv hp.iz) (Good.of_inv hc.iz)
  obtain ⟨X3, Y3, Z3, T3⟩ := P1xP1_core ff hp (Good.of_inv hc.ip) (Good.of_inv hc.im) (Good.of_inv hc.it)
    (Good.add ff ZZ ZZ)
  exact ⟨X3.inv, Y3.inv, Z3.inv, T3.inv,
    hp.rep.add_cached hc.rep X3.val Y3.val (Z3.val.trans (by ring)) (T3.val.trans (by ring))⟩

/-- `projP1xP1.Sub` -/
theorem P1xP1_sub_rep {p : P3} {c : Cached} {P Q : Ed25519} (hp : p.Rep P) (hc : c.Rep Q) :
    (Point.P1xP1.sub p c).Rep (P - Q) := by
  have ZZ := Good.mul ff (Good.of_inv hp.iz) (Good.of_inv hc.iz)
  obtain ⟨X3, Y3, T3, Z3⟩ := P1xP1_core ff hp (Good.of_inv hc.im) (Good.of_inv hc.ip) (Good.of_inv hc.it)
    (Good.add ff ZZ ZZ)
  exact ⟨X3.inv, Y3.inv, Z3.inv, T3.inv,
    hp.rep.sub_cached hc.rep X3.val Y3.val (Z3.val.trans (by ring)) (T3.val.trans (by ring))⟩

/-- `projP1xP1.AddAffine` -/
theorem P1xP1_addAffine_rep {p : P3} {c : AffineCached} {P Q : Ed25519} (hp : p.Rep P)
    (hc : c.Rep Q) : (Point.P1xP1.addAffine p c).Rep (P + Q) := by
  have gz := Good.of_inv hp.iz
  obtain ⟨X3, Y3, Z3, T3⟩ := P1xP1_core ff hp (Good.of_inv hc.ip) (Good.of_inv hc.im) (Good.of_inv hc.it)
    (Good.add ff gz gz)
  exact ⟨X3.inv, Y3.inv, Z3.inv, T3.inv,
    hp.rep.add_affCached hc.rep X3.val Y3.val (Z3.val.trans (by ring)) (T3.val.trans (by ring))⟩

/-- `projP1xP1.SubAffine` -/
theorem P1xP1_subAffine_rep {p : P3} {c : AffineCached} {P Q : Ed25519} (hp : p.Rep P)
    (hc : c.Rep Q) : (Point.P1xP1.subAffine p c).Rep (P - Q) := by
  have gz := Good.of_inv hp.iz
  obtain ⟨X3, Y3, T3, Z3⟩ := P1xP1_core ff hp (Good.of_inv hc.im) (Good.of_inv hc.ip) (Good.of_inv hc.it)
    (Good.add ff gz gz)
  exact ⟨X3.inv, Y3.inv, Z3.inv, T3.inv,
    hp.rep.sub_affCached hc.rep X3.val Y3.val (Z3.val.trans (by ring)) (T3.val.trans (by ring))⟩

/-- `projP1xP1.Double` -/
theorem P1xP1_double_rep {p : P2} {P : Ed25519} (hp : p.Rep P) :
    (Point.P1xP1.double p).Rep (2 • P) := by
  have gX := Good.of_inv hp.ix
  have gY := Good.of_inv hp.iy
  have gZ := Good.of_inv hp.iz
  have XX := Good.square ff gX
  have YY := Good.square ff gY
  have ZZ := Good.square ff gZ
  have ZZ2 := Good.add ff ZZ ZZ
  have XpY := Good.add ff gX gY
  have XpYsq := Good.square ff XpY
  have vY := Good.add ff YY XX
  have vZ := Good.sub ff YY XX
  have X3 := Good.sub ff XpYsq vY
  have T3 := Good.sub ff ZZ2 vZ
  exact ⟨X3.inv, vY.inv, vZ.inv, T3.inv,
    hp.rep.double vY.val vZ.val (by show toZ (Fe.sub _ _) = _ - toZ (Fe.add (Fe.square p.Y) (Fe.square p.X)); rw [X3.val, vY.val])
      (by show toZ (Fe.sub _ _) = _ - toZ (Fe.sub (Fe.square p.Y) (Fe.square p.X))
          rw [T3.val, vZ.val]; ring)⟩

/-! ### selection and conditional negation -/

theorem Cached_select_one {a b : Cached} {A B : Ed25519} (ha : a.Rep A) (hb : b.Rep B) :
    Point.Cached.select a b 1 = a := by
  unfold Point.Cached.select
  rw [(ff.select _ _ ha.ip hb.ip).1, (ff.select _ _ ha.im hb.im).1, (ff.select _ _ ha.iz hb.iz).1,
    (ff.select _ _ ha.it hb.it).1]

theorem Cached_select_zero {a b : Cached} {A B : Ed25519} (ha : a.Rep A) (hb : b.Rep B) :
    Point.Cached.select a b 0 = b := by
  unfold Point.Cached.select
  rw [(ff.select _ _ ha.ip hb.ip).2, (ff.select _ _ ha.im hb.im).2, (ff.select _ _ ha.iz hb.iz).2,
    (ff.select _ _ ha.it hb.it).2]

/-- `projCached.Select` for `cond ∈ {0, 1}` -/
theorem Cached_select_rep {a b : Cached} {A B : Ed25519} (ha : a.Rep A) (hb : b.Rep B)
    {cond : Nat} (hc : cond = 0 ∨ cond = 1) :
    (Point.Cached.select a b cond).Rep (if cond = 1 then A else B) := by
  rcases hc with rfl | rfl
  · rw [Cached_select_zero ff ha hb]; simpa using hb
  · rw [Cached_select_one ff ha hb]; simpa using ha

theorem AffineCached_select_one {a b : AffineCached} {A B : Ed25519} (ha : a.Rep A) (hb : b.Rep B) :
    Point.AffineCached.select a b 1 = a := by
  unfold Point.AffineCached.select
  rw [(ff.select _ _ ha.ip hb.ip).1, (ff.select _ _ ha.im hb.im).1, (ff.select _ _ ha.it hb.it).1]

theorem AffineCached_select_zero {a b : AffineCached} {A B : Ed25519} (ha : a.Rep A)
    (hb : b.Rep B) : Point.AffineCached.select a b 0 = b := by
  unfold Point.AffineCached.select
  rw [(ff.select _ _ ha.ip hb.ip).2, (ff.select _ _ ha.im hb.im).2, (ff.select _ _ ha.it hb.it).2]

/-- `affineCached.Select` for `cond ∈ {0, 1}` -/
theorem AffineCached_select_rep {a b : AffineCached} {A B : Ed25519} (ha : a.Rep A) (hb : b.Rep B)
    {cond : Nat} (hc : cond = 0 ∨ cond = 1) :
    (Point.AffineCached.select a b cond).Rep (if cond = 1 then A else B) := by
  rcases hc with rfl | rfl
  · rw [AffineCached_select_zero ff ha hb]; simpa using hb
  · rw [AffineCached_select_one ff ha hb]; simpa using ha

theorem Cached_condNeg_zero {c : Cached} {Q : Ed25519} (hc : c.Rep Q) :
    Point.Cached.condNeg c 0 = c := by
  have hn := (ff.neg _ hc.it).1
  unfold Point.Cached.condNeg
  rw [(ff.swap _ _ hc.ip hc.im).2, (ff.select _ _ hn hc.it).2]

theorem Cached_condNeg_one {c : Cached} {Q : Ed25519} (hc : c.Rep Q) :
    (Point.Cached.condNeg c 1).Rep (-Q) := by
  have gn := Good.neg ff (Good.of_inv hc.it)
  have e : Point.Cached.condNeg c 1 = ⟨c.YminusX, c.YplusX, c.Z, Fe.neg c.T2d⟩ := by
    unfold Point.Cached.condNeg
    rw [(ff.swap _ _ hc.ip hc.im).1, (ff.select _ _ gn.inv hc.it).1]
  rw [e]
  exact ⟨hc.im, hc.ip, hc.iz, gn.inv, hc.rep.neg.congr rfl rfl rfl gn.val⟩

/-- `projCached.CondNeg` for `cond ∈ {0, 1}` -/
theorem Cached_condNeg_rep {c : Cached} {Q : Ed25519} (hc : c.Rep Q) {cond : Nat}
    (h : cond = 0 ∨ cond = 1) : (Point.Cached.condNeg c cond).Rep (if cond = 1 then -Q else Q) := by
  rcases h with rfl | rfl
  · rw [Cached_condNeg_zero ff hc]; simpa using hc
  · simpa using Cached_condNeg_one ff hc

theorem AffineCached_condNeg_zero {c : AffineCached} {Q : Ed25519} (hc : c.Rep Q) :
    Point.AffineCached.condNeg c 0 = c := by
  have hn := (ff.neg _ hc.it).1
  unfold Point.AffineCached.condNeg
  rw [(ff.swap _ _ hc.ip hc.im).2, (ff.select _ _ hn hc.it).2]

theorem AffineCached_condNeg_one {c : AffineCached} {Q : Ed25519} (hc : c.Rep Q) :
    (Point.AffineCached.condNeg c 1).Rep (-Q) := by
  have gn := Good.neg ff (Good.of_inv hc.it)
  have e : Point.AffineCached.condNeg c 1 = ⟨c.YminusX, c.YplusX, Fe.neg c.T2d⟩ := by
    unfold Point.AffineCached.condNeg
    rw [(ff.swap _ _ hc.ip hc.im).1, (ff.select _ _ gn.inv hc.it).1]
  rw [e]
  exact ⟨hc.im, hc.ip, gn.inv, hc.rep.neg.congr rfl rfl gn.val⟩

/-- `affineCached.CondNeg` for `cond ∈ {0, 1}` -/
theorem AffineCached_condNeg_rep {c : AffineCached} {Q : Ed25519} (hc : c.Rep Q) {cond : Nat}
    (h : cond = 0 ∨ cond = 1) :
    (Point.AffineCached.condNeg c cond).Rep (if cond = 1 then -Q else Q) := by
  rcases h with rfl | rfl
  · rw [AffineCached_condNeg_zero ff hc]; simpa using hc
  · simpa using AffineCached_condNeg_one ff hc

/-! ### C02 : `Add`, `Subtract`, `Negate`, `MultByCofactor` -/

theorem add_rep {p q : P3} {P Q : Ed25519} (hp : p.Rep P) (hq : q.Rep Q) :
    (Point.add p q).Rep (P + Q) :=
  fromP1xP1_rep ff (P1xP1_add_rep ff hp (Cached_fromP3_rep ff hq))

theorem sub_rep {p q : P3} {P Q : Ed25519} (hp : p.Rep P) (hq : q.Rep Q) :
    (Point.sub p q).Rep (P - Q) :=
  fromP1xP1_rep ff (P1xP1_sub_rep ff hp (Cached_fromP3_rep ff hq))

theorem neg_rep {p : P3} {P : Ed25519} (hp : p.Rep P) : (Point.neg p).Rep (-P) := by
  have nx := Good.neg ff (Good.of_inv hp.ix)
  have nt := Good.neg ff (Good.of_inv hp.it)
  exact ⟨nx.inv, hp.iy, hp.iz, nt.inv, hp.rep.neg.congr nx.val rfl rfl nt.val⟩

/-- doubling through `projP2` / `projP1xP1` -/
theorem double_rep {p : P1xP1} {P : Ed25519} (hp : p.Rep P) :
    (Point.P1xP1.double (Point.P2.fromP1xP1 p)).Rep (2 • P) :=
  P1xP1_double_rep ff (P2_fromP1xP1_rep ff hp)

theorem multByCofactor_rep {p : P3} {P : Ed25519} (hp : p.Rep P) :
    (Point.multByCofactor p).Rep (8 • P) := by
  have h1 := P1xP1_double_rep ff (P2_fromP3_rep hp)
  have h2 := double_rep ff h1
  have h3 := double_rep ff h2
  have h4 := fromP1xP1_rep ff h3
  have e : (2 : ℕ) • (2 : ℕ) • (2 : ℕ) • P = 8 • P := by
    rw [smul_smul, smul_smul]; norm_num
  rw [← e]; exact h4

/-- four doublings of a completed point (`mul16` of the scalar multiplications) -/
theorem mul16_rep {p : P1xP1} {P : Ed25519} (hp : p.Rep P) : (Point.mul16 p).Rep (16 • P) := by
  have h1 := double_rep ff hp
  have h2 := double_rep ff h1
  have h3 := double_rep ff h2
  have h4 := double_rep ff h3
  have e : (2 : ℕ) • (2 : ℕ) • (2 : ℕ) • (2 : ℕ) • P = 16 • P := by
    rw [smul_smul, smul_smul, smul_smul]; norm_num
  rw [← e]; exact h4

theorem C02_add {P Q : P3} (hP : P.Valid) (hQ : Q.Valid) :
    (Point.add P Q).Valid ∧ (Point.add P Q).toEd = P.toEd + Q.toEd :=
  P3.rep_iff.mp (add_rep ff hP.rep hQ.rep)

theorem C02_sub {P Q : P3} (hP : P.Valid) (hQ : Q.Valid) :
    (Point.sub P Q).Valid ∧ (Point.sub P Q).toEd = P.toEd - Q.toEd :=
  P3.rep_iff.mp (sub_rep ff hP.rep hQ.rep)

theorem C02_neg {P : P3} (hP : P.Valid) : (Point.neg P).Valid ∧ (Point.neg P).toEd = -P.toEd :=
  P3.rep_iff.mp (neg_rep ff hP.rep)

theorem C02_cofactor {P : P3} (hP : P.Valid) :
    (Point.multByCofactor P).Valid ∧ (Point.multByCofactor P).toEd = 8 • P.toEd :=
  P3.rep_iff.mp (multByCofactor_rep ff hP.rep)

/-! ### C06 : `Equal` -/

open Classical in
theorem C06 {P Q : P3} (hP : P.Valid) (hQ : Q.Valid) :
    Point.equal P Q = if P.toEd = Q.toEd then 1 else 0 := by
  obtain ⟨px, py, pz, pt, pv⟩ := hP
  obtain ⟨qx, qy, qz, qt, qv⟩ := hQ
  have t1 := Good.mul ff (Good.of_inv px) (Good.of_inv qz)
  have t2 := Good.mul ff (Good.of_inv qx) (Good.of_inv pz)
  have t3 := Good.mul ff (Good.of_inv py) (Good.of_inv qz)
  have t4 := Good.mul ff (Good.of_inv qy) (Good.of_inv pz)
  have e1 := Good.equal ff t1 t2
  have e2 := Good.equal ff t3 t4
  have key := toEd_eq_iff pv qv
  unfold Point.equal
  simp only []
  rw [e1, e2]
  unfold P3.toEd
  by_cases hx : toZ P.x * toZ Q.z = toZ Q.x * toZ P.z
  · by_cases hy : toZ P.y * toZ Q.z = toZ Q.y * toZ P.z
    · rw [if_pos hx, if_pos hy, if_pos (key.mp ⟨hx, hy⟩)]; rfl
    · rw [if_pos hx, if_neg hy, if_neg (fun h => hy (key.mpr h).2)]; rfl
  · by_cases hy : toZ P.y * toZ Q.z = toZ Q.y * toZ P.z
    · rw [if_neg hx, if_pos hy, if_neg (fun h => hx (key.mpr h).1)]; rfl
    · rw [if_neg hx, if_neg hy, if_neg (fun h => hx (key.mpr h).1)]; rfl

/-- `Equal` returns `0` or `1` -/
theorem equal_bit {P Q : P3} (hP : P.Valid) (hQ : Q.Valid) :
    Point.equal P Q = 0 ∨ Point.equal P Q = 1 := by
  rw [C06 ff hP hQ]; split <;> simp

/-! ### C13 : `SetExtendedCoordinates` / `ExtendedCoordinates` -/

theorem isOnCurve_iff {X Y Z T : Fe} (hX : Fe.Inv X) (hY : Fe.Inv Y) (hZ : Fe.Inv Z)
    (hT : Fe.Inv T) :
    Point.isOnCurve X Y Z T = true ↔ Spec.ExtValid (toZ X) (toZ Y) (toZ Z) (toZ T) := by
  have gX := Good.of_inv hX
  have gY := Good.of_inv hY
  have gZ := Good.of_inv hZ
  have gT := Good.of_inv hT
  have XX := Good.square ff gX
  have YY := Good.square ff gY
  have ZZ := Good.square ff gZ
  have TT := Good.square ff gT
  have lhs := Good.sub ff YY XX
  have rhs := Good.add ff (Good.mul ff (d_good ff) TT) ZZ
  have lhs2 := Good.mul ff gX gY
  have rhs2 := Good.mul ff gT gZ
  have e1 := Good.equal ff gZ (Good.rz ff)
  have e2 := Good.equal ff lhs rhs
  have e3 := Good.equal ff lhs2 rhs2
  unfold Point.isOnCurve
  simp only []
  rw [e1, e2, e3]
  by_cases hz : toZ Z = 0
  · simp only [hz, if_true]
    constructor
    · intro h; simp at h
    · intro h; exact absurd rfl h.z_ne
  · by_cases hc : toZ Y ^ 2 - toZ X ^ 2 = Spec.d * toZ T ^ 2 + toZ Z ^ 2
    · by_cases hs : toZ X * toZ Y = toZ T * toZ Z
      · simp only [if_neg hz, if_pos hc, if_pos hs]
        constructor
        · intro _
          exact ⟨hz, by linear_combination hc, by linear_combination hs⟩
        · intro _; simp
      · simp only [if_neg hz, if_pos hc, if_neg hs]
        constructor
        · intro h; simp at h
        · intro h; exact absurd (by linear_combination h.segre) hs
    · simp only [if_neg hz, if_neg hc]
      constructor
      · intro h; simp at h
      · intro h; exact absurd (by linear_combination h.curve) hc

theorem C13 {X Y Z T : Fe} (hX : Fe.Inv X) (hY : Fe.Inv Y) (hZ : Fe.Inv Z) (hT : Fe.Inv T) :
    (∃ P, Point.setExtendedCoordinates X Y Z T = some P) ↔
      Spec.ExtValid (toZ X) (toZ Y) (toZ Z) (toZ T) := by
  rw [← isOnCurve_iff ff hX hY hZ hT]
  unfold Point.setExtendedCoordinates
  cases Point.isOnCurve X Y Z T <;> simp

omit ff in
theorem C13_value {X Y Z T : Fe} {P : P3} (h : Point.setExtendedCoordinates X Y Z T = some P) :
    P = ⟨X, Y, Z, T⟩ := by
  unfold Point.setExtendedCoordinates at h
  cases hc : Point.isOnCurve X Y Z T <;> rw [hc] at h <;> simp at h
  exact h.symm

/-- an accepted quadruple gives a valid point, namely `(X/Z, Y/Z)` -/
theorem C13_valid {X Y Z T : Fe} (hX : Fe.Inv X) (hY : Fe.Inv Y) (hZ : Fe.Inv Z) (hT : Fe.Inv T)
    {P : P3} (h : Point.setExtendedCoordinates X Y Z T = some P) :
    P.Valid ∧ P.toEd = Spec.toEd (toZ X) (toZ Y) (toZ Z) (toZ T) ∧
      P.toEd.x = toZ X / toZ Z ∧ P.toEd.y = toZ Y / toZ Z := by
  have hv := (C13 ff hX hY hZ hT).mp ⟨P, h⟩
  have e := C13_value h
  subst e
  exact ⟨⟨hX, hY, hZ, hT, hv⟩, rfl, hv.toEd_x, hv.toEd_y⟩

/-- the model's `ExtendedCoordinates` returns the four fields; feeding them back reproduces `P` -/
theorem C13_roundtrip {P : P3} (hP : P.Valid) :
    Point.setExtendedCoordinates P.x P.y P.z P.t = some P := by
  obtain ⟨hx, hy, hz, ht, hv⟩ := hP
  have h := (isOnCurve_iff ff hx hy hz ht).mpr hv
  unfold Point.setExtendedCoordinates
  rw [h]; rfl

/-! ### C17 : `BytesMontgomery` (field-level part) -/

theorem bytesMontgomery_eq {P : P3} (hP : P.Valid) :
    Point.bytesMontgomery P = LEbytes ((1 + P.toEd.y) * (1 - P.toEd.y)⁻¹).val 32 := by
  obtain ⟨_, hy, hz, _, hv⟩ := hP
  have y := Good.mul ff (Good.of_inv hy) (Good.invert ff (Good.of_inv hz))
  have recip := Good.invert ff (Good.sub ff (Good.one ff) y)
  have u := Good.mul ff (Good.add ff (Good.one ff) y) recip
  have e : P.toEd.y = toZ P.y * (toZ P.z)⁻¹ := by
    unfold P3.toEd; rw [hv.toEd_y, div_eq_mul_inv]
  have hb := Good.bytes ff u
  unfold Point.bytesMontgomery Point.copyFieldElement Point.feOne
  simp only []
  rw [hb, e]

theorem C17_partial {P : P3} (hP : P.Valid) :
    Point.bytesMontgomery P = LEbytes ((1 + P.toEd.y) * (1 - P.toEd.y)⁻¹).val 32 :=
  bytesMontgomery_eq ff hP

/-- the output only depends on the affine `y`: representation independent, same for `P` and `-P` -/
theorem C17_y_only {P Q : P3} (hP : P.Valid) (hQ : Q.Valid) (h : P.toEd.y = Q.toEd.y) :
    Point.bytesMontgomery P = Point.bytesMontgomery Q := by
  rw [C17_partial ff hP, C17_partial ff hQ, h]

theorem C17_neg {P : P3} (hP : P.Valid) :
    Point.bytesMontgomery (Point.neg P) = Point.bytesMontgomery P := by
  have hn := C02_neg ff hP
  exact C17_y_only ff hn.1 hP (by rw [hn.2]; rfl)

theorem C17_identity {P : P3} (hP : P.Valid) (h0 : P.toEd = 0) :
    Point.bytesMontgomery P = LEbytes 0 32 := by
  rw [C17_partial ff hP, h0]
  simp

end

end EdVerif.Proofs
