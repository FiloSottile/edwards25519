import EdVerif.Proofs.FeKernels3
import EdVerif.Proofs.LittleEndian
/-!
C09/C10 kernel layer, part 4: `SetBytes` / `SetWideBytes` against the little-endian value of the
input bytes.

The value is `LE x`, handled through `leFrom x 0 n = Σ_{i<n} x[i]! * 256^i` (`Proofs/LittleEndian.lean`).
-/
namespace EdVerif.Proofs
open EdVerif EdVerif.Prims EdVerif.Gen EdVerif.Impl

/-- the 64-bit window read at byte `a` sits at bit `8a` of the value -/
theorem window_div (x : Bytes) (a n : Nat) (hn : a + 8 ≤ n) (hb : ∀ i, i < a → x[i]! < 256) :
    ∃ Hi, leFrom x 0 n / 256^a = Bin.le64 x a + 2^64 * Hi := by
  obtain ⟨k, rfl⟩ := Nat.exists_eq_add_of_le hn
  refine ⟨leFrom x (0 + (a + 8)) k, ?_⟩
  have hlt := leFrom_lt x 0 a (fun i hi => by rw [Nat.zero_add]; exact hb i hi)
  rw [leFrom_split, leFrom_split x 0 a 8, leFrom_le64, pow_add]
  have e2 : leFrom x 0 a + 256^a * Bin.le64 x (0 + a) + 256^a * 256^8 * leFrom x (0 + (a + 8)) k =
      leFrom x 0 a + 256^a * (Bin.le64 x (0 + a) + 2^64 * leFrom x (0 + (a + 8)) k) := by ring
  rw [e2, Nat.add_mul_div_left _ _ (Nat.pow_pos (by norm_num)), Nat.div_eq_of_lt hlt, Nat.zero_add,
    Nat.zero_add]


/- Unfolding `U.and` by its (rfl) equation lemma on the non-atomic argument `Bin.le64 x a` makes the
kernel diverge (it ends up unfolding `Nat.land`); these propositional forms avoid that. -/
theorem uand_mask51 (a : Nat) : U.and 64 a 2251799813685247 = a % 2^51 := and_mask51 a
theorem ushr_div (w a k : Nat) : U.shr w a k = a / 2^k := Nat.shiftRight_eq_div_pow a k

theorem limb_ex0 (N W Hi : Nat) (h : N / 256^0 = W + 2^64 * Hi) : W % 2^51 = N % 2^51 := by
  omega
theorem limb_ex1 (N W Hi : Nat) (h : N / 256^6 = W + 2^64 * Hi) :
    W / 2^3 % 2^51 = N / 2^51 % 2^51 := by
  omega
theorem limb_ex2 (N W Hi : Nat) (h : N / 256^12 = W + 2^64 * Hi) :
    W / 2^6 % 2^51 = N / 2^102 % 2^51 := by
  omega
theorem limb_ex3 (N W Hi : Nat) (h : N / 256^19 = W + 2^64 * Hi) :
    W / 2^1 % 2^51 = N / 2^153 % 2^51 := by
  omega
theorem limb_ex4 (N W Hi : Nat) (h : N / 256^24 = W + 2^64 * Hi) :
    W / 2^12 % 2^51 = N / 2^204 % 2^51 := by
  omega

theorem digits51 (N : Nat) :
    N % 2^(51:ℕ) + N / 2^(51:ℕ) % 2^(51:ℕ) * 2^(51:ℕ) + N / 2^(102:ℕ) % 2^(51:ℕ) * 2^(102:ℕ) + N / 2^(153:ℕ) % 2^(51:ℕ) * 2^(153:ℕ) +
      N / 2^(204:ℕ) % 2^(51:ℕ) * 2^(204:ℕ) = N % 2^(255:ℕ) := by
  omega

/-- the kernel `SetBytes` reads bits `51k .. 51k+50` of the 32-byte little-endian value -/
theorem SetBytes_eq (v : Prims.Fe) (x : Bytes) (hb : ∀ i, i < 32 → x[i]! < 256) :
    Field.SetBytes v x = ⟨leFrom x 0 32 % 2^51, leFrom x 0 32 / 2^51 % 2^51, leFrom x 0 32 / 2^102 % 2^51,
      leFrom x 0 32 / 2^153 % 2^51, leFrom x 0 32 / 2^204 % 2^51⟩ := by
  obtain ⟨H0, e0⟩ := window_div x 0 32 (by omega) (fun i hi => hb i (by omega))
  obtain ⟨H1, e1⟩ := window_div x 6 32 (by omega) (fun i hi => hb i (by omega))
  obtain ⟨H2, e2⟩ := window_div x 12 32 (by omega) (fun i hi => hb i (by omega))
  obtain ⟨H3, e3⟩ := window_div x 19 32 (by omega) (fun i hi => hb i (by omega))
  obtain ⟨H4, e4⟩ := window_div x 24 32 (by omega) (fun i hi => hb i (by omega))
  simp only [Field.SetBytes, uand_mask51, ushr_div]
  rw [limb_ex0 _ _ _ e0, limb_ex1 _ _ _ e1, limb_ex2 _ _ _ e2, limb_ex3 _ _ _ e3, limb_ex4 _ _ _ e4]

theorem SetBytes_spec (v : Prims.Fe) (x : Bytes) (hb : ∀ i, i < 32 → x[i]! < 256) :
    Lt51 (Field.SetBytes v x) ∧ val (Field.SetBytes v x) = leFrom x 0 32 % 2^255 := by
  rw [SetBytes_eq v x hb]
  refine ⟨⟨Nat.mod_lt _ (by norm_num), Nat.mod_lt _ (by norm_num), Nat.mod_lt _ (by norm_num),
    Nat.mod_lt _ (by norm_num), Nat.mod_lt _ (by norm_num)⟩, ?_⟩
  simp only [Fe.val]
  exact digits51 _

theorem setBytes_spec (x : Bytes) (hx : x.size = 32) (hb : ∀ i, i < 32 → x[i]! < 256) :
    ∃ e, Fe.setBytes x = some e ∧ Lt51 e ∧ val e = LE x % 2^255 := by
  refine ⟨Field.SetBytes Fe.rz x, ?_, ?_⟩
  · simp [Fe.setBytes, hx, Field.SetBytes_reqLen]
  · have h := SetBytes_spec Fe.rz x hb
    rw [LE_eq_leFrom, hx]
    exact h

theorem fe_setBytes_none (x : Bytes) (hx : x.size ≠ 32) : Fe.setBytes x = none := by
  simp [Fe.setBytes, hx, Field.SetBytes_reqLen]


/-- the top bit of a 32-byte string -/
theorem msb_eq (y : Bytes) (hb : ∀ i, i < 32 → y[i]! < 256) :
    y[31]! / 2^7 = leFrom y 0 32 / 2^255 ∧ leFrom y 0 32 < 2^256 := by
  have h1 := leFrom_lt y 0 31 (fun i hi => by rw [Nat.zero_add]; exact hb i (by omega))
  have h2 := hb 31 (by omega)
  have e : leFrom y 0 32 = leFrom y 0 31 + y[31]! * 256^31 := by rw [leFrom, Nat.zero_add]
  rw [e]
  generalize leFrom y 0 31 = A at *
  generalize y[31]! = t at *
  omega

/-- the wrap-around additions of `SetWideBytes` do not wrap: limb 0 also takes the two top bits -/
theorem wide_limb0 (L H ml mh : Nat) (hL : L < 2^51) (hH : H < 2^51) (hml : ml ≤ 1) (hmh : mh ≤ 1) :
    (((L + ml * 19 % 2^64) % 2^64 + H * 2 % 2^64 * 19 % 2^64) % 2^64 +
        mh * 2 % 2^64 * 19 % 2^64 * 19 % 2^64) % 2^64 = L + ml * 19 + H * 38 + mh * 722 := by
  omega

theorem wide_limb (L H : Nat) (hL : L < 2^51) (hH : H < 2^51) :
    (L + H * 2 % 2^64 * 19 % 2^64) % 2^64 = L + H * 38 := by
  omega

theorem wide_sum (Nlo Nhi : Nat) (_hlo : Nlo < 2^(256:ℕ)) (_hhi : Nhi < 2^(256:ℕ)) :
    (Nlo % 2^(51:ℕ) + Nlo / 2^(255:ℕ) * 19 + Nhi % 2^(51:ℕ) * 38 + Nhi / 2^(255:ℕ) * 722) +
      (Nlo / 2^(51:ℕ) % 2^(51:ℕ) + Nhi / 2^(51:ℕ) % 2^(51:ℕ) * 38) * 2^(51:ℕ) +
      (Nlo / 2^(102:ℕ) % 2^(51:ℕ) + Nhi / 2^(102:ℕ) % 2^(51:ℕ) * 38) * 2^(102:ℕ) +
      (Nlo / 2^(153:ℕ) % 2^(51:ℕ) + Nhi / 2^(153:ℕ) % 2^(51:ℕ) * 38) * 2^(153:ℕ) +
      (Nlo / 2^(204:ℕ) % 2^(51:ℕ) + Nhi / 2^(204:ℕ) % 2^(51:ℕ) * 38) * 2^(204:ℕ) +
      (Nlo / 2^(255:ℕ) + 2 * Nhi + 38 * (Nhi / 2^(255:ℕ))) * (2^(255:ℕ) - 19) = Nlo + 256^(32:ℕ) * Nhi := by
  have d1 := digits51 Nlo
  have d2 := digits51 Nhi
  omega

theorem SetWideBytes_spec (v : Prims.Fe) (x : Bytes) (hx : x.size = 64)
    (hb : ∀ i, i < 64 → x[i]! < 256) :
    Tight (Field.SetWideBytes v x) ∧ val (Field.SetWideBytes v x) ≡ LE x [MOD P] := by
  have glo : ∀ i, i < 32 → (Bin.slice x 0 32)[i]! = x[i]! := by
    intro i hi
    have h := Arr.get_slice x 0 32 i (by omega)
    rw [Nat.zero_add] at h
    exact h
  have ghi : ∀ i, i < 32 → (Bin.slice x 32 x.size)[i]! = x[32 + i]! := by
    intro i hi
    exact Arr.get_slice x 32 x.size i (by omega)
  have blo : ∀ i, i < 32 → (Bin.slice x 0 32)[i]! < 256 := fun i hi => by
    rw [glo i hi]; exact hb i (by omega)
  have bhi : ∀ i, i < 32 → (Bin.slice x 32 x.size)[i]! < 256 := fun i hi => by
    rw [ghi i hi]; exact hb _ (by omega)
  have hlo := SetBytes_eq ⟨0, 0, 0, 0, 0⟩ (Bin.slice x 0 32) blo
  have hhi := SetBytes_eq ⟨0, 0, 0, 0, 0⟩ (Bin.slice x 32 x.size) bhi
  obtain ⟨mlo, nlo⟩ := msb_eq _ blo
  obtain ⟨mhi, nhi⟩ := msb_eq _ bhi
  rw [glo 31 (by omega)] at mlo
  rw [ghi 31 (by omega)] at mhi
  have hN : LE x = leFrom (Bin.slice x 0 32) 0 32 + 256^32 * leFrom (Bin.slice x 32 x.size) 0 32 := by
    have e1 : LE x = leFrom x 0 (32 + 32) := by rw [LE_eq_leFrom, hx]
    rw [e1, leFrom_split,
      leFrom_congr (Bin.slice x 0 32) x 0 0 32 (fun i hi => by rw [Nat.zero_add]; exact glo i hi),
      leFrom_congr (Bin.slice x 32 x.size) x 0 (0 + 32) 32 (fun i hi => by
        simp only [Nat.zero_add]; exact ghi i hi)]
  simp only [Field.SetWideBytes, hlo, hhi, U.add, U.mul, ushr_div]
  rw [mlo, mhi, hN]
  clear hlo hhi mlo mhi hN glo ghi blo bhi
  generalize leFrom (Bin.slice x 0 32) 0 32 = Nlo at *
  generalize leFrom (Bin.slice x 32 x.size) 0 32 = Nhi at *
  have m51 : ∀ n : Nat, n % 2^51 < 2^51 := fun n => Nat.mod_lt _ (by norm_num)
  have ml : Nlo / 2^255 ≤ 1 := by omega
  have mh : Nhi / 2^255 ≤ 1 := by omega
  rw [wide_limb0 _ _ _ _ (m51 Nlo) (m51 Nhi) ml mh, wide_limb _ _ (m51 (Nlo / 2^51)) (m51 (Nhi / 2^51)),
    wide_limb _ _ (m51 (Nlo / 2^102)) (m51 (Nhi / 2^102)), wide_limb _ _ (m51 (Nlo / 2^153)) (m51 (Nhi / 2^153)),
    wide_limb _ _ (m51 (Nlo / 2^204)) (m51 (Nhi / 2^204))]
  apply carry_of_modEq
  · have b0 := m51 Nlo; have b1 := m51 (Nlo / 2^51); have b2 := m51 (Nlo / 2^102)
    have b3 := m51 (Nlo / 2^153); have b4 := m51 (Nlo / 2^204)
    have c0 := m51 Nhi; have c1 := m51 (Nhi / 2^51); have c2 := m51 (Nhi / 2^102)
    have c3 := m51 (Nhi / 2^153); have c4 := m51 (Nhi / 2^204)
    simp only [U64]
    refine ⟨?_, ?_, ?_, ?_, ?_⟩ <;> omega
  · simp only [Fe.val]
    rw [← wide_sum Nlo Nhi nlo nhi]
    unfold Nat.ModEq
    simp only [P, EdVerif.P]
    rw [Nat.add_mul_mod_self_right]

theorem setWideBytes_spec (x : Bytes) (hx : x.size = 64) (hb : ∀ i, i < 64 → x[i]! < 256) :
    ∃ e, Fe.setWideBytes x = some e ∧ Tight e ∧ val e ≡ LE x [MOD P] := by
  refine ⟨Field.SetWideBytes Fe.rz x, ?_, SetWideBytes_spec Fe.rz x hx hb⟩
  simp [Fe.setWideBytes, hx, Field.SetWideBytes_reqLen]

theorem fe_setWideBytes_none (x : Bytes) (hx : x.size ≠ 64) : Fe.setWideBytes x = none := by
  simp [Fe.setWideBytes, hx, Field.SetWideBytes_reqLen]

end EdVerif.Proofs
