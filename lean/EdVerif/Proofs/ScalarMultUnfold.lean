import EdVerif.Impl.FormulaPrims
/-!
What each of the five scalar multiplications does with the outcome of its digit recoding.

The definitions are unfolded at the level of the unapplied constant (`Point.scalarMult = F`, where the kernel
compares a constant with a λ-term) and the discriminant is generalised before the `match` is reduced: unfolding
the applied form makes the kernel evaluate `signedRadix16 s` on a symbolic `s`, through the fiat kernels, which
does not terminate in practice.
-/
namespace EdVerif.Impl
open EdVerif.Prims

theorem Res.bind_ok_ne_err {α β : Type} {r : Res α} (f : α → β) (h : r ≠ .err) :
    Res.bind r (fun d => .ok (f d)) ≠ .err := by
  cases r
  · intro h'; cases h'
  · exact absurd rfl h
  · intro h'; cases h'

theorem Scalar.signedRadix16_ne_err (s : W4) : Scalar.signedRadix16 s ≠ .err := by
  unfold Scalar.signedRadix16
  simp only []
  split <;> (intro h; cases h)

theorem Scalar.nonAdjacentForm_ne_err (s : W4) (w : Nat) : Scalar.nonAdjacentForm s w ≠ .err := by
  unfold Scalar.nonAdjacentForm
  simp only []
  repeat' split
  all_goals (intro h; cases h)

namespace Point

/-- the step of `collect` -/
def collectStep {α : Type} (acc : Res (Array α)) (r : Res α) : Res (Array α) :=
  match acc, r with
  | .ok a, .ok x => .ok (a.push x)
  | .ok _, .err => .err
  | .ok _, .panic c => .panic c
  | e, _ => e

theorem collect_def {α : Type} (xs : List (Res α)) : collect xs = xs.foldl collectStep (.ok #[]) := rfl

theorem collect_ok_list {α β : Type} (R : α → Res β) (g : α → β) (l : List α) (h : ∀ x, x ∈ l → R x = .ok (g x)) (acc : Array β) :
    (l.map R).foldl collectStep (.ok acc) = .ok (acc ++ (l.map g).toArray) := by
  induction l generalizing acc with
  | nil => simp
  | cons x l ih =>
    rw [List.map_cons, List.foldl_cons, h x (List.mem_cons_self ..)]
    show List.foldl collectStep (.ok (acc.push (g x))) _ = _
    rw [ih (fun y hy => h y (List.mem_cons_of_mem _ hy))]
    simp

/-- if every element succeeds, `collect` returns the array of results -/
theorem collect_ok {α β : Type} [Inhabited α] (R : α → Res β) (g : α → β) (xs : Array α)
    (h : ∀ i, i < xs.size → R xs[i]! = .ok (g xs[i]!)) : collect (xs.toList.map R) = .ok (xs.map g) := by
  rw [collect_def, collect_ok_list R g xs.toList ?_ #[]]
  · congr 1
    apply Array.ext'
    simp
  · intro x hx
    obtain ⟨i, hi, rfl⟩ := List.mem_iff_getElem.mp hx
    have hi' : i < xs.size := by simpa using hi
    have := h i hi'
    rw [getElem!_pos xs i hi'] at this
    simpa using this

theorem scalarMult_bind (s : W4) (q : P3) :
    scalarMult s q = Res.bind (Scalar.signedRadix16 s) fun d => .ok (scalarMultDigits d q) := by
  obtain ⟨F, hF, h⟩ : ∃ F : W4 → P3 → Res P3, @scalarMult = F ∧
      ∀ s q, F s q = Res.bind (Scalar.signedRadix16 s) fun d => .ok (scalarMultDigits d q) := by
    refine ⟨_, by delta scalarMult; exact rfl, ?_⟩
    intro s q
    generalize Scalar.signedRadix16 s = c
    cases c <;> rfl
  rw [hF]; exact h s q

theorem scalarBaseMult_bind (s : W4) :
    scalarBaseMult s = Res.bind (Scalar.signedRadix16 s) fun d => .ok (scalarBaseMultDigits d) := by
  obtain ⟨F, hF, h⟩ : ∃ F : W4 → Res P3, @scalarBaseMult = F ∧
      ∀ s, F s = Res.bind (Scalar.signedRadix16 s) fun d => .ok (scalarBaseMultDigits d) := by
    refine ⟨_, by delta scalarBaseMult; exact rfl, ?_⟩
    intro s
    generalize Scalar.signedRadix16 s = c
    cases c <;> rfl
  rw [hF]; exact h s

/-- the case analysis of `varTimeDoubleScalarBaseMult` on the two digit recodings -/
def vtdMatch (ra rb : Res (Array Int)) (A : P3) : Res P3 :=
  match ra, rb with
  | .ok aNaf, .ok bNaf => .ok (varTimeDoubleDigits aNaf bNaf A)
  | .panic c, _ => .panic c
  | _, .panic c => .panic c
  | _, _ => .err

theorem varTimeDoubleScalarBaseMult_match (a : W4) (A : P3) (b : W4) :
    varTimeDoubleScalarBaseMult a A b = vtdMatch (Scalar.nonAdjacentForm a 5) (Scalar.nonAdjacentForm b 8) A := by
  obtain ⟨F, hF, h⟩ : ∃ F : W4 → P3 → W4 → Res P3, @varTimeDoubleScalarBaseMult = F ∧
      ∀ a A b, F a A b = vtdMatch (Scalar.nonAdjacentForm a 5) (Scalar.nonAdjacentForm b 8) A := by
    refine ⟨_, by delta varTimeDoubleScalarBaseMult; exact rfl, ?_⟩
    intro a A b
    generalize Scalar.nonAdjacentForm a 5 = ra
    generalize Scalar.nonAdjacentForm b 8 = rb
    cases ra <;> cases rb <;> rfl
  rw [hF]; exact h a A b

theorem multiScalarMult_bind (scalars : Array W4) (points : Array P3) :
    multiScalarMult scalars points =
      Res.bind (collect (scalars.toList.map Scalar.signedRadix16)) fun ds => .ok (multiScalarMultDigits ds points) := by
  obtain ⟨F, hF, h⟩ : ∃ F : Array W4 → Array P3 → Res P3, @multiScalarMult = F ∧
      ∀ ss ps, F ss ps = Res.bind (collect (ss.toList.map Scalar.signedRadix16)) fun ds => .ok (multiScalarMultDigits ds ps) := by
    refine ⟨_, by delta multiScalarMult; exact rfl, ?_⟩
    intro ss ps
    generalize collect (ss.toList.map Scalar.signedRadix16) = c
    cases c <;> rfl
  rw [hF]; exact h scalars points

theorem varTimeMultiScalarMult_bind (scalars : Array W4) (points : Array P3) :
    varTimeMultiScalarMult scalars points =
      Res.bind (collect (scalars.toList.map (Scalar.nonAdjacentForm · 5))) fun ds => .ok (varTimeMultiDigits ds points) := by
  obtain ⟨F, hF, h⟩ : ∃ F : Array W4 → Array P3 → Res P3, @varTimeMultiScalarMult = F ∧
      ∀ ss ps, F ss ps = Res.bind (collect (ss.toList.map (Scalar.nonAdjacentForm · 5))) fun ds => .ok (varTimeMultiDigits ds ps) := by
    refine ⟨_, by delta varTimeMultiScalarMult; exact rfl, ?_⟩
    intro ss ps
    generalize collect (ss.toList.map (Scalar.nonAdjacentForm · 5)) = c
    cases c <;> rfl
  rw [hF]; exact h scalars points

end Point
end EdVerif.Impl
