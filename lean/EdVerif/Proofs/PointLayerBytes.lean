import EdVerif.Proofs.PointLayer
/-!
Point layer, byte-level part: little-endian byte strings (`LE`, `LEbytes`), the RFC 8032 encoding
`Spec.encode` and C05 (`Point.Bytes` is the canonical, representation-independent encoding).
-/
namespace EdVerif.Proofs
open EdVerif.Impl EdVerif.Prims EdVerif.Spec

/-! ### `LE` / `LEbytes` -/

theorem LEbytes_inj_lt {n m k : Nat} (hn : n < 256 ^ k) (hm : m < 256 ^ k)
    (h : LEbytes n k = LEbytes m k) : n = m := by
  have := congrArg LE h
  rwa [LE_LEbytes, LE_LEbytes, Nat.mod_eq_of_lt hn, Nat.mod_eq_of_lt hm] at this

/-! ### setting bit 255 -/

theorem or_128 : ∀ a, a < 128 → a ||| 128 = a + 128 := by decide

theorem LEbytes_low (y s i : Nat) (hi : i < 31) :
    (y + 2 ^ 255 * s) / 256 ^ i % 256 = y / 256 ^ i % 256 := by
  have e1 : (256 : Nat) ^ i = 2 ^ (8 * i) := by
    rw [show (256 : Nat) = 2 ^ 8 by norm_num, ← pow_mul]
  have e2 : (2 : Nat) ^ 255 = 2 ^ (8 * i) * (256 * 2 ^ (247 - 8 * i)) := by
    rw [show (256 : Nat) = 2 ^ 8 by norm_num, ← pow_add, ← pow_add]
    congr 1; omega
  rw [e1, e2, mul_assoc, Nat.add_mul_div_left _ _ (by positivity), mul_assoc,
    Nat.add_mul_mod_self_left]

theorem LEbytes_high (y s : Nat) (hy : y < 2 ^ 255) (hs : s < 2) :
    (y / 256 ^ 31 % 256) ||| (128 * s) = (y + 2 ^ 255 * s) / 256 ^ 31 % 256 := by
  have hs' : s = 0 ∨ s = 1 := by omega
  norm_num at hy ⊢
  rcases hs' with rfl | rfl
  · simp
  · rw [or_128 _ (by omega)]
    omega

/-- OR-ing `128·s` into byte 31 of the encoding of `y < 2^255` sets bit 255 -/
theorem LEbytes_setHigh (y s : Nat) (hy : y < 2 ^ 255) (hs : s < 2) :
    (LEbytes y 32).set! 31 ((LEbytes y 32)[31]! ||| (128 * s)) = LEbytes (y + 2 ^ 255 * s) 32 := by
  apply Arr.ext! _ _ (by rw [Array.size_set!, LEbytes_size, LEbytes_size])
  intro i hi
  rw [Array.size_set!, LEbytes_size] at hi
  rw [Arr.get_set!, LEbytes_size]
  by_cases h31 : 31 = i
  · subst h31
    rw [if_pos ⟨rfl, hi⟩, LEbytes_getElem! y hi, LEbytes_getElem! (y + 2 ^ 255 * s) hi]
    exact LEbytes_high y s hy hs
  · rw [if_neg (fun h => h31 h.1), LEbytes_getElem! y hi, LEbytes_getElem! (y + 2 ^ 255 * s) hi]
    exact (LEbytes_low y s i (by omega)).symm

theorem trunc_shl_bit (s : Nat) (hs : s < 2) : U.trunc 8 (U.shl 64 s 7) = 128 * s := by
  have hs' : s = 0 ∨ s = 1 := by omega
  rcases hs' with rfl | rfl <;> decide

/-! ### the encoding -/

theorem P_lt : EdVerif.P < 2 ^ 255 := by decide +kernel
theorem P_odd' : EdVerif.P % 2 = 1 := by decide +kernel

instance : NeZero EdVerif.P := ⟨by decide +kernel⟩

theorem val_lt_255 (a : F) : a.val < 2 ^ 255 := lt_trans (ZMod.val_lt a) P_lt

theorem encode_size (q : Ed25519) : (Spec.encode q).size = 32 := LEbytes_size _ _
theorem encode_isBytes (q : Ed25519) : IsBytes (Spec.encode q) := LEbytes_isBytes _ _

theorem encode_arg_lt (q : Ed25519) : q.y.val + 2 ^ 255 * (q.x.val % 2) < 256 ^ 32 := by
  have h := val_lt_255 q.y
  have h2 : q.x.val % 2 < 2 := Nat.mod_lt _ (by norm_num)
  norm_num at h ⊢
  omega

/-- `LE (encode q) = y + 2^255 · (x mod 2)` -/
theorem LE_encode (q : Ed25519) : LE (Spec.encode q) = q.y.val + 2 ^ 255 * (q.x.val % 2) := by
  unfold Spec.encode
  rw [LE_LEbytes, Nat.mod_eq_of_lt (encode_arg_lt q)]

/-- the encoding as "canonical `y`, then the sign of `x` in bit 7 of byte 31" -/
theorem encode_eq_setBit (q : Ed25519) :
    Spec.encode q = (LEbytes q.y.val 32).set! 31 ((LEbytes q.y.val 32)[31]! ||| (128 * (q.x.val % 2))) :=
  (LEbytes_setHigh _ _ (val_lt_255 q.y) (Nat.mod_lt _ (by norm_num))).symm

theorem encode_getElem!_31 (q : Ed25519) : (Spec.encode q)[31]! / 128 = q.x.val % 2 := by
  unfold Spec.encode
  rw [LEbytes_getElem! _ (by norm_num)]
  have h := val_lt_255 q.y
  have h2 : q.x.val % 2 < 2 := Nat.mod_lt _ (by norm_num)
  norm_num at h ⊢
  omega

theorem encode_low (q : Ed25519) : LE (Spec.encode q) % 2 ^ 255 = q.y.val := by
  rw [LE_encode]
  have h := val_lt_255 q.y
  omega

theorem neg_parity_nat (p v : Nat) (h : v < p) (hp : p % 2 = 1) : (p - v) % 2 ≠ v % 2 := by omega

/-- a non-zero field element and its negative have different parities (`p` is odd) -/
theorem neg_parity {a : F} (ha : a ≠ 0) : (-a).val % 2 ≠ a.val % 2 := by
  rw [ZMod.neg_val, if_neg ha]
  exact neg_parity_nat _ _ (ZMod.val_lt a) P_odd'

/-- the encoding determines the point -/
theorem _root_.EdVerif.Spec.encode_injective : Function.Injective Spec.encode := by
  intro q q' h
  have hLE := congrArg LE h
  rw [LE_encode, LE_encode] at hLE
  have h1 := val_lt_255 q.y
  have h2 := val_lt_255 q'.y
  have hy : q.y.val = q'.y.val := by omega
  have hs : q.x.val % 2 = q'.x.val % 2 := by omega
  have hy' : q.y = q'.y := ZMod.val_injective _ hy
  have hon' : onCurve q'.x q.y := by rw [hy']; exact q'.on
  rcases onCurve_x_unique q.on hon' with hx | hx
  · exact Ed25519.ext' hx.symm hy'
  · by_cases h0 : q.x = 0
    · rw [h0, neg_zero] at hx
      exact Ed25519.ext' (by rw [h0, hx]) hy'
    · exfalso
      apply neg_parity h0
      rw [← hx, hs]

/-! ### C05 : `Point.Bytes` -/

section
variable (ff : FieldFacts)
include ff

theorem C05_bytes {P : P3} (hP : P.Valid) : Point.bytes P = Spec.encode P.toEd := by
  obtain ⟨hx, hy, hz, _, hv⟩ := hP
  have zi := Good.invert ff (Good.of_inv hz)
  have x := Good.mul ff (Good.of_inv hx) zi
  have y := Good.mul ff (Good.of_inv hy) zi
  have ex : P.toEd.x = toZ P.x * (toZ P.z)⁻¹ := by
    unfold P3.toEd; rw [hv.toEd_x, div_eq_mul_inv]
  have ey : P.toEd.y = toZ P.y * (toZ P.z)⁻¹ := by
    unfold P3.toEd; rw [hv.toEd_y, div_eq_mul_inv]
  have hb := Good.bytes ff y
  have hn := Good.isNegative ff x
  unfold Point.bytes Point.copyFieldElement Spec.encode
  simp only []
  rw [hb, hn, ← ex, ← ey, trunc_shl_bit _ (Nat.mod_lt _ (by norm_num))]
  exact LEbytes_setHigh _ _ (val_lt_255 _) (Nat.mod_lt _ (by norm_num))

/-- representation independence: the bytes only depend on the represented point -/
theorem C05_rep_indep {P Q : P3} (hP : P.Valid) (hQ : Q.Valid) (h : P.toEd = Q.toEd) :
    Point.bytes P = Point.bytes Q := by
  rw [C05_bytes ff hP, C05_bytes ff hQ, h]

/-- equal encodings iff equal points -/
theorem C05_bytes_eq_iff {P Q : P3} (hP : P.Valid) (hQ : Q.Valid) :
    Point.bytes P = Point.bytes Q ↔ P.toEd = Q.toEd := by
  rw [C05_bytes ff hP, C05_bytes ff hQ]
  exact ⟨fun h => Spec.encode_injective h, fun h => by rw [h]⟩

end

end EdVerif.Proofs
