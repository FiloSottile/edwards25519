import EdVerif.Proofs.PointLayerDecode
import EdVerif.Proofs.Tables
import EdVerif.Proofs.Loops
/-!
C01, table layer: the lookup tables of `tables.go` / `scalarmult.go` in the executable model
(`projTable`, `affineTable`, `naf5Table`, `naf8Table`, `basepointTable`, `basepointNafTable`) contain
representatives of the documented multiples, and the selection functions (`projSelect`,
`affineSelect`, `nafSelect`) return a representative of `x • Q` for every digit `x` in range.

Hypotheses: `ff : FieldFacts` (field layer) and, for the base-point tables, which start from the
decoded `generator`, `sf : SqrtRatioDecodeFacts`.
-/
namespace EdVerif.Proofs
open EdVerif.Impl EdVerif.Impl.Point EdVerif.Prims EdVerif.Spec

/-! ### generic facts about tables built by `push` -/

/-- `t := #[a0]; for i < n: t := t.push (g t[i])` has `n+1` entries, entry `j` is `g^[j] a0` -/
theorem pushTable_spec {α} [Inhabited α] (g : α → α) (a0 : α) (n : ℕ) :
    ((List.range n).foldl (fun (t : Array α) i => t.push (g t[i]!)) #[a0]).size = n + 1 ∧
    ∀ j ≤ n, ((List.range n).foldl (fun (t : Array α) i => t.push (g t[i]!)) #[a0])[j]!
      = g^[j] a0 := by
  induction n with
  | zero =>
    refine ⟨rfl, ?_⟩
    intro j hj
    have : j = 0 := by omega
    subst this; rfl
  | succ n ih =>
    obtain ⟨hs, hg⟩ := ih
    rw [List.range_succ, List.foldl_append]
    simp only [List.foldl_cons, List.foldl_nil]
    generalize (List.range n).foldl (fun (t : Array α) i => t.push (g t[i]!)) #[a0] = t at hs hg
    refine ⟨by simp [hs], ?_⟩
    intro j hj
    by_cases h : j ≤ n
    · rw [Arr.get_push_lt _ _ _ (by omega)]
      exact hg j h
    · have : j = t.size := by omega
      subst this
      rw [Arr.get_push_eq, hs, hg n (le_refl _), Function.iterate_succ_apply']

/-! ### small group facts -/

section group
variable {G : Type*} [AddCommGroup G]

theorem smul_add_self (Q : G) (j : ℕ) : (j : ℤ) • Q + Q = ((j : ℤ) + 1) • Q := by
  module

theorem smul_double_add_self (Q : G) (j : ℕ) : (j : ℤ) • (Q + Q) + Q = (2 * (j : ℤ) + 1) • Q := by
  module

theorem nsmul_two_eq (X : G) : (2 : ℕ) • X = (2 : ℤ) • X := by
  rw [← natCast_zsmul]; rfl

theorem nsmul_16_eq (X : G) : (16 : ℕ) • X = (16 : ℤ) • X := by
  rw [← natCast_zsmul]; rfl

end group

section
variable (ff : FieldFacts)
include ff

/-! ### the four table constructors -/

omit ff in
/-- a table built by `push` from an entry for `Q` with a step that adds `D`: entry `j` stands for `j D + Q`
(`R` is any of the `Rep` relations) -/
theorem pushTable_rep {α} [Inhabited α] {R : α → Ed25519 → Prop} {g : α → α} {a0 : α} {Q D : Ed25519}
    (h0 : R a0 Q) (hg : ∀ c X, R c X → R (g c) (D + X)) (n : ℕ) :
    ∀ j ≤ n, R ((List.range n).foldl (fun (t : Array α) i => t.push (g t[i]!)) #[a0])[j]! ((j : ℤ) • D + Q) := by
  intro j hj
  rw [(pushTable_spec g a0 n).2 j hj]
  clear hj
  induction j with
  | zero => simpa using h0
  | succ j ih =>
    rw [Function.iterate_succ_apply']
    have e : ((j + 1 : ℕ) : ℤ) • D + Q = D + ((j : ℤ) • D + Q) := by push_cast; module
    rw [e]
    exact hg _ _ ih

omit ff in
theorem projTable_size (q : P3) : (Point.projTable q).size = 8 :=
  (pushTable_spec (fun c => Point.Cached.fromP3 (Point.fromP1xP1 (Point.P1xP1.add q c)))
    (Point.Cached.fromP3 q) 7).1

/-- `projLookupTable.FromP3`: entry `j` represents `(j+1) Q` -/
theorem projTable_rep {q : P3} {Q : Ed25519} (hq : q.Rep Q) :
    ∀ j < 8, ((Point.projTable q)[j]!).Rep (((j : ℤ) + 1) • Q) := by
  intro j hj
  rw [← smul_add_self]
  exact pushTable_rep (R := Cached.Rep) (Cached_fromP3_rep ff hq)
    (fun _ _ hc => Cached_fromP3_rep ff (fromP1xP1_rep ff (P1xP1_add_rep ff hq hc))) 7 j (by omega)

omit ff in
theorem affineTable_size (q : P3) : (Point.affineTable q).size = 8 :=
  (pushTable_spec (fun c => Point.AffineCached.fromP3 (Point.fromP1xP1 (Point.P1xP1.addAffine q c)))
    (Point.AffineCached.fromP3 q) 7).1

/-- `affineLookupTable.FromP3`: entry `j` represents `(j+1) Q` -/
theorem affineTable_rep {q : P3} {Q : Ed25519} (hq : q.Rep Q) :
    ∀ j < 8, ((Point.affineTable q)[j]!).Rep (((j : ℤ) + 1) • Q) := by
  intro j hj
  rw [← smul_add_self]
  exact pushTable_rep (R := AffineCached.Rep) (AffineCached_fromP3_rep ff hq)
    (fun _ _ hc => AffineCached_fromP3_rep ff (fromP1xP1_rep ff (P1xP1_addAffine_rep ff hq hc))) 7 j (by omega)

omit ff in
theorem naf5Table_size (q : P3) : (Point.naf5Table q).size = 8 :=
  (pushTable_spec (fun c => Point.Cached.fromP3 (Point.fromP1xP1 (Point.P1xP1.add (Point.add q q) c)))
    (Point.Cached.fromP3 q) 7).1

/-- `nafLookupTable5.FromP3`: entry `j` represents `(2j+1) Q` -/
theorem naf5Table_rep {q : P3} {Q : Ed25519} (hq : q.Rep Q) :
    ∀ j < 8, ((Point.naf5Table q)[j]!).Rep ((2 * (j : ℤ) + 1) • Q) := by
  intro j hj
  rw [← smul_double_add_self]
  exact pushTable_rep (R := Cached.Rep) (Cached_fromP3_rep ff hq)
    (fun _ _ hc => Cached_fromP3_rep ff (fromP1xP1_rep ff (P1xP1_add_rep ff (add_rep ff hq hq) hc))) 7 j (by omega)

omit ff in
theorem naf8Table_size (q : P3) : (Point.naf8Table q).size = 64 :=
  (pushTable_spec (fun c => Point.AffineCached.fromP3 (Point.fromP1xP1 (Point.P1xP1.addAffine (Point.add q q) c)))
    (Point.AffineCached.fromP3 q) 63).1

/-- `nafLookupTable8.FromP3`: entry `j` represents `(2j+1) Q` -/
theorem naf8Table_rep {q : P3} {Q : Ed25519} (hq : q.Rep Q) :
    ∀ j < 64, ((Point.naf8Table q)[j]!).Rep ((2 * (j : ℤ) + 1) • Q) := by
  intro j hj
  rw [← smul_double_add_self]
  exact pushTable_rep (R := AffineCached.Rep) (AffineCached_fromP3_rep ff hq)
    (fun _ _ hc => AffineCached_fromP3_rep ff
      (fromP1xP1_rep ff (P1xP1_addAffine_rep ff (add_rep ff hq hq) hc))) 63 j (by omega)

/-! ### constant-time selection (`projLookupTable.SelectInto`, `affineLookupTable.SelectInto`) -/

omit ff in
/-- the constant-time signed selection from an 8-entry table of `1 Q, …, 8 Q`, for any entry type with a
select, a conditional negation and a zero that respect `R` -/
theorem signedSelect_rep {α} [Inhabited α] {R : α → Ed25519 → Prop} {sel : α → α → Nat → α}
    {cneg : α → Nat → α} {zero : α}
    (hsel1 : ∀ a b A B, R a A → R b B → sel a b 1 = a) (hsel0 : ∀ a b A B, R a A → R b B → sel a b 0 = b)
    (hz : R zero 0) (hneg0 : ∀ c X, R c X → cneg c 0 = c) (hneg1 : ∀ c X, R c X → R (cneg c 1) (-X))
    {t : Array α} {Q : Ed25519} (ht : ∀ j < 8, R t[j]! (((j : ℤ) + 1) • Q)) {x : ℤ} (hx : -8 ≤ x ∧ x ≤ 8) :
    R (cneg ((List.range 8).foldl (fun dest j => sel t[j]! dest (ctByteEq x.natAbs (j + 1))) zero)
      (if x < 0 then 1 else 0)) (x • Q) := by
  rw [select_fold_range_inv (fun c => ∃ X, R c X) sel
    (fun a b ⟨_, ha⟩ ⟨_, hb⟩ => hsel1 a b _ _ ha hb) (fun a b ⟨_, ha⟩ ⟨_, hb⟩ => hsel0 a b _ _ ha hb)
    (fun j => t[j]!) zero x.natAbs 8 ⟨0, hz⟩ (fun j hj => ⟨_, ht j hj⟩)]
  by_cases hneg : x < 0
  · have h1 : 1 ≤ x.natAbs ∧ x.natAbs ≤ 8 := by omega
    rw [if_pos hneg, if_pos h1]
    have h := hneg1 _ _ (ht (x.natAbs - 1) (by omega))
    have e : -((((x.natAbs - 1 : ℕ) : ℤ) + 1) • Q) = x • Q := by
      rw [← neg_zsmul]; congr 1; omega
    rw [← e]; exact h
  · rw [if_neg hneg]
    by_cases hz' : x = 0
    · have h1 : ¬ (1 ≤ x.natAbs ∧ x.natAbs ≤ 8) := by omega
      rw [if_neg h1, hneg0 _ _ hz, hz', zero_zsmul]
      exact hz
    · have h1 : 1 ≤ x.natAbs ∧ x.natAbs ≤ 8 := by omega
      rw [if_pos h1]
      have h := ht (x.natAbs - 1) (by omega)
      rw [hneg0 _ _ h]
      have e : (((x.natAbs - 1 : ℕ) : ℤ) + 1) • Q = x • Q := by congr 1; omega
      rw [← e]; exact h

/-- `projSelect` on any table whose entries represent `1 Q, …, 8 Q` -/
theorem projSelect_rep_of {t : Array Cached} {Q : Ed25519}
    (ht : ∀ j < 8, (t[j]!).Rep (((j : ℤ) + 1) • Q)) {x : ℤ} (hx : -8 ≤ x ∧ x ≤ 8) :
    (Point.projSelect t x).Rep (x • Q) := by
  unfold Point.projSelect
  simp only []
  rw [xmaskOf_and_one, xabsOf_eq x (by omega)]
  exact signedSelect_rep (R := Cached.Rep) (fun _ _ _ _ ha hb => Cached_select_one ff ha hb)
    (fun _ _ _ _ ha hb => Cached_select_zero ff ha hb) (Cached_zero_rep ff)
    (fun _ _ h => Cached_condNeg_zero ff h) (fun _ _ h => Cached_condNeg_one ff h) ht hx

/-- `projLookupTable.SelectInto` on the table of `q` -/
theorem projSelect_rep {q : P3} {Q : Ed25519} (hq : q.Rep Q) {x : ℤ} (hx : -8 ≤ x ∧ x ≤ 8) :
    (Point.projSelect (Point.projTable q) x).Rep (x • Q) :=
  projSelect_rep_of ff (projTable_rep ff hq) hx

/-- `affineSelect` on any table whose entries represent `1 Q, …, 8 Q` -/
theorem affineSelect_rep_of {t : Array AffineCached} {Q : Ed25519}
    (ht : ∀ j < 8, (t[j]!).Rep (((j : ℤ) + 1) • Q)) {x : ℤ} (hx : -8 ≤ x ∧ x ≤ 8) :
    (Point.affineSelect t x).Rep (x • Q) := by
  unfold Point.affineSelect
  simp only []
  rw [xmaskOf_and_one, xabsOf_eq x (by omega)]
  exact signedSelect_rep (R := AffineCached.Rep) (fun _ _ _ _ ha hb => AffineCached_select_one ff ha hb)
    (fun _ _ _ _ ha hb => AffineCached_select_zero ff ha hb) (AffineCached_zero_rep ff)
    (fun _ _ h => AffineCached_condNeg_zero ff h) (fun _ _ h => AffineCached_condNeg_one ff h) ht hx

/-- `affineLookupTable.SelectInto` on the table of `q` -/
theorem affineSelect_rep {q : P3} {Q : Ed25519} (hq : q.Rep Q) {x : ℤ} (hx : -8 ≤ x ∧ x ≤ 8) :
    (Point.affineSelect (Point.affineTable q) x).Rep (x • Q) :=
  affineSelect_rep_of ff (affineTable_rep ff hq) hx

end

/-! ### variable-time selection (`nafLookupTable5/8.SelectInto`) -/

/-- an odd digit `0 < x < 2n` selects the entry representing `x Q` from a table of odd
multiples (`R` is any of the `Rep` relations) -/
theorem nafSelect_pos_rep {α} [Inhabited α] {R : α → Ed25519 → Prop} {t : Array α} {Q : Ed25519}
    {n : ℕ} (ht : ∀ k < n, R t[k]! ((2 * (k : ℤ) + 1) • Q)) {x : ℤ}
    (hodd : x % 2 = 1) (hpos : 0 < x) (hlt : x < 2 * n) : R (Point.nafSelect t x) (x • Q) := by
  have e : x = 2 * ((x.toNat / 2 : ℕ) : ℤ) + 1 := by omega
  rw [nafSelect_odd_pos t x (x.toNat / 2) e]
  have h := ht (x.toNat / 2) (by omega)
  rw [← e] at h
  exact h

/-- an odd digit `-2n < x < 0` (and `-128 < x`): `nafSelect t (int8(-x))` represents `(-x) Q` -/
theorem nafSelect_neg_rep {α} [Inhabited α] {R : α → Ed25519 → Prop} {t : Array α} {Q : Ed25519}
    {n : ℕ} (ht : ∀ k < n, R t[k]! ((2 * (k : ℤ) + 1) • Q)) {x : ℤ}
    (hodd : x % 2 = 1) (hneg : x < 0) (hlt : -(2 * (n : ℤ)) < x) (h8 : -128 < x) :
    R (Point.nafSelect t (Scalar.wrap8 (-x))) ((-x) • Q) := by
  rw [wrap8_neg x ⟨h8, hneg⟩]
  exact nafSelect_pos_rep ht (by omega) (by omega) (by omega)

/-- one iteration of the `basepointTable()` loop -/
def bpStep (acc : Array (Array AffineCached) × P3) (_ : ℕ) : Array (Array AffineCached) × P3 :=
  (acc.1.push (Point.affineTable acc.2), (List.range 8).foldl (fun p _ => Point.add p p) acc.2)

theorem basepointTable_eq :
    Point.basepointTable = ((List.range 32).foldl bpStep (#[], Point.generator)).1 := rfl

section
variable (ff : FieldFacts)
include ff

/-- `nafLookupTable5.SelectInto`, positive digit -/
theorem naf5Select_pos_rep {q : P3} {Q : Ed25519} (hq : q.Rep Q) {x : ℤ}
    (hodd : x % 2 = 1) (hpos : 0 < x) (hlt : x < 16) :
    (Point.nafSelect (Point.naf5Table q) x).Rep (x • Q) :=
  nafSelect_pos_rep (R := Cached.Rep) (n := 8) (naf5Table_rep ff hq) hodd hpos (by omega)

/-- `nafLookupTable5.SelectInto`, negative digit (the Go code passes `-x`) -/
theorem naf5Select_neg_rep {q : P3} {Q : Ed25519} (hq : q.Rep Q) {x : ℤ}
    (hodd : x % 2 = 1) (hneg : x < 0) (hlt : -16 < x) :
    (Point.nafSelect (Point.naf5Table q) (Scalar.wrap8 (-x))).Rep ((-x) • Q) :=
  nafSelect_neg_rep (R := Cached.Rep) (n := 8) (naf5Table_rep ff hq) hodd hneg (by omega) (by omega)

/-- `nafLookupTable8.SelectInto`, positive digit -/
theorem naf8Select_pos_rep {q : P3} {Q : Ed25519} (hq : q.Rep Q) {x : ℤ}
    (hodd : x % 2 = 1) (hpos : 0 < x) (hlt : x < 128) :
    (Point.nafSelect (Point.naf8Table q) x).Rep (x • Q) :=
  nafSelect_pos_rep (R := AffineCached.Rep) (n := 64) (naf8Table_rep ff hq) hodd hpos (by omega)

/-- `nafLookupTable8.SelectInto`, negative digit -/
theorem naf8Select_neg_rep {q : P3} {Q : Ed25519} (hq : q.Rep Q) {x : ℤ}
    (hodd : x % 2 = 1) (hneg : x < 0) (hlt : -128 < x) :
    (Point.nafSelect (Point.naf8Table q) (Scalar.wrap8 (-x))).Rep ((-x) • Q) :=
  nafSelect_neg_rep (R := AffineCached.Rep) (n := 64) (naf8Table_rep ff hq) hodd hneg (by omega)
    (by omega)

/-- one variable-time NAF step on a table of odd multiples of `Q` (window `2n`), for any entry type with an
addition and a subtraction that respect `R` -/
theorem nafStep_rep_of {α} [Inhabited α] {R : α → Ed25519 → Prop} {add sub : P3 → α → P1xP1}
    (hadd : ∀ p c P Y, p.Rep P → R c Y → (add p c).Rep (P + Y))
    (hsub : ∀ p c P Y, p.Rep P → R c Y → (sub p c).Rep (P - Y))
    {t : Array α} {Q : Ed25519} {n : ℕ} (hn : 2 * n ≤ 128)
    (ht : ∀ k < n, R t[k]! ((2 * (k : ℤ) + 1) • Q)) {x : ℤ}
    (hx : x = 0 ∨ (x % 2 = 1 ∧ -(2 * (n : ℤ)) < x ∧ x < 2 * n))
    {tmp1 : P1xP1} {X : Ed25519} (h : tmp1.Rep X) :
    (if x > 0 then add (Point.fromP1xP1 tmp1) (Point.nafSelect t x)
      else if x < 0 then sub (Point.fromP1xP1 tmp1) (Point.nafSelect t (Scalar.wrap8 (-x)))
      else tmp1).Rep (X + x • Q) := by
  rcases lt_trichotomy x 0 with h0 | h0 | h0
  · have h1 : ¬ x > 0 := by omega
    rw [if_neg h1, if_pos h0]
    rcases hx with hx | ⟨hodd, hlo, _⟩
    · omega
    · have hs := nafSelect_neg_rep (R := R) ht hodd h0 hlo (by omega)
      have e : X + x • Q = X - (-x) • Q := by rw [neg_zsmul, sub_neg_eq_add]
      rw [e]
      exact hsub _ _ _ _ (fromP1xP1_rep ff h) hs
  · subst h0
    simp only [gt_iff_lt, lt_self_iff_false, if_false, zero_zsmul, add_zero]
    exact h
  · have h1 : x > 0 := h0
    rw [if_pos h1]
    rcases hx with hx | ⟨hodd, _, hhi⟩
    · omega
    · exact hadd _ _ _ _ (fromP1xP1_rep ff h) (nafSelect_pos_rep (R := R) ht hodd h0 hhi)

/-- one variable-time NAF step on a `projCached` table -/
theorem nafStep_rep {t : Array Cached} {Q : Ed25519} {n : ℕ} (hn : 2 * n ≤ 128)
    (ht : ∀ k < n, (t[k]!).Rep ((2 * (k : ℤ) + 1) • Q)) {x : ℤ}
    (hx : x = 0 ∨ (x % 2 = 1 ∧ -(2 * (n : ℤ)) < x ∧ x < 2 * n))
    {tmp1 : P1xP1} {X : Ed25519} (h : tmp1.Rep X) :
    (if x > 0 then Point.P1xP1.add (Point.fromP1xP1 tmp1) (Point.nafSelect t x)
      else if x < 0 then
        Point.P1xP1.sub (Point.fromP1xP1 tmp1) (Point.nafSelect t (Scalar.wrap8 (-x)))
      else tmp1).Rep (X + x • Q) :=
  nafStep_rep_of ff (R := Cached.Rep) (fun _ _ _ _ hp hc => P1xP1_add_rep ff hp hc)
    (fun _ _ _ _ hp hc => P1xP1_sub_rep ff hp hc) hn ht hx h

/-- one variable-time NAF step on an `affineCached` table -/
theorem nafStepAffine_rep {t : Array AffineCached} {Q : Ed25519} {n : ℕ} (hn : 2 * n ≤ 128)
    (ht : ∀ k < n, (t[k]!).Rep ((2 * (k : ℤ) + 1) • Q)) {x : ℤ}
    (hx : x = 0 ∨ (x % 2 = 1 ∧ -(2 * (n : ℤ)) < x ∧ x < 2 * n))
    {tmp1 : P1xP1} {X : Ed25519} (h : tmp1.Rep X) :
    (if x > 0 then Point.P1xP1.addAffine (Point.fromP1xP1 tmp1) (Point.nafSelect t x)
      else if x < 0 then
        Point.P1xP1.subAffine (Point.fromP1xP1 tmp1) (Point.nafSelect t (Scalar.wrap8 (-x)))
      else tmp1).Rep (X + x • Q) :=
  nafStep_rep_of ff (R := AffineCached.Rep) (fun _ _ _ _ hp hc => P1xP1_addAffine_rep ff hp hc)
    (fun _ _ _ _ hp hc => P1xP1_subAffine_rep ff hp hc) hn ht hx h

/-! ### the base-point tables -/

/-- eight doublings of a `Point` -/
theorem double8_rep {p : P3} {P : Ed25519} (hp : p.Rep P) :
    ((List.range 8).foldl (fun p _ => Point.add p p) p).Rep ((256 : ℤ) • P) := by
  rw [← Loops.double8 P]
  exact Loops.foldl_rel (fun (v : P3) (g : Ed25519) => v.Rep g) _ _ _ _ _ hp
    (fun a b _ _ hab => add_rep ff hab hab)

variable (sf : SqrtRatioDecodeFacts)
include sf

/-- invariant of the `basepointTable()` loop after `n` iterations -/
theorem basepointTable_loop (n : ℕ) :
    ((List.range n).foldl bpStep (#[], Point.generator)).1.size = n ∧
    ((List.range n).foldl bpStep (#[], Point.generator)).2.Rep (((256 : ℤ) ^ n) • basepoint) ∧
      ∀ i < n, ∀ j < 8, ((((List.range n).foldl bpStep (#[], Point.generator)).1[i]!)[j]!).Rep
        ((((j : ℤ) + 1) * 256 ^ i) • basepoint) := by
  induction n with
  | zero =>
    refine ⟨rfl, ?_, ?_⟩
    · simp only [List.range_zero, List.foldl_nil, pow_zero, one_smul]
      exact generator_rep ff sf
    · intro i hi; omega
  | succ n ih =>
    rw [List.range_succ, List.foldl_append]
    simp only [List.foldl_cons, List.foldl_nil]
    generalize (List.range n).foldl bpStep (#[], Point.generator) = st at ih ⊢
    obtain ⟨hs, hp, ht⟩ := ih
    refine ⟨by simp [bpStep, hs], ?_, ?_⟩
    · have h := double8_rep ff hp
      rw [smul_smul, ← pow_succ'] at h
      exact h
    · intro i hi j hj
      by_cases h : i < n
      · show ((st.1.push (Point.affineTable st.2))[i]!)[j]!.Rep _
        rw [Arr.get_push_lt _ _ _ (by omega)]
        exact ht i h j hj
      · have hi' : i = st.1.size := by omega
        subst hi'
        show ((st.1.push (Point.affineTable st.2))[st.1.size]!)[j]!.Rep _
        rw [Arr.get_push_eq, mul_smul, hs]
        exact affineTable_rep ff hp j hj

theorem basepointTable_size : Point.basepointTable.size = 32 := by
  rw [basepointTable_eq]; exact (basepointTable_loop ff sf 32).1

/-- `basepointTable()`: table `i`, entry `j` represents `(j+1) 256^i B` -/
theorem basepointTable_rep : ∀ i < 32, ∀ j < 8,
    ((Point.basepointTable[i]!)[j]!).Rep ((((j : ℤ) + 1) * 256 ^ i) • basepoint) := by
  rw [basepointTable_eq]; exact (basepointTable_loop ff sf 32).2.2

/-- table `i` of `basepointTable()` is a table of `1 … 8` times `256^i B` -/
theorem basepointTable_rep' : ∀ i < 32, ∀ j < 8,
    ((Point.basepointTable[i]!)[j]!).Rep (((j : ℤ) + 1) • ((256 : ℤ) ^ i • basepoint)) := by
  intro i hi j hj
  rw [smul_smul]
  exact basepointTable_rep ff sf i hi j hj

omit ff sf in
theorem basepointNafTable_size : Point.basepointNafTable.size = 64 := naf8Table_size _

/-- `basepointNafTable()`: entry `j` represents `(2j+1) B` -/
theorem basepointNafTable_rep : ∀ j < 64,
    (Point.basepointNafTable[j]!).Rep ((2 * (j : ℤ) + 1) • basepoint) :=
  naf8Table_rep ff (generator_rep ff sf)

end

end EdVerif.Proofs
