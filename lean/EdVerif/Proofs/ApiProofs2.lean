import EdVerif.Proofs.ApiProofs
import EdVerif.Proofs.ScalarMultUnfold
/-!
API state machine, part 2: failed calls are atomic, only fallible setters report errors and only
the declared slots are written (model half of C14).
-/
namespace EdVerif.Proofs
open EdVerif.Impl EdVerif.Prims

/-! ### C14 : atomicity -/

theorem ofRes_cases {α} (σ : Store) (r : Res α) (put : α → Store) :
    (Api.ofRes σ r put).1 = σ ∨ (Api.ofRes σ r put).2.kind = .ok := by
  cases r
  · exact Or.inr rfl
  · exact Or.inl rfl
  · exact Or.inl rfl

/-- every call either leaves the store untouched or reports success -/
theorem step_unchanged_or_ok (σ : Store) (op : Op) :
    (Api.step σ op).1 = σ ∨ (Api.step σ op).2.kind = .ok := by
  cases op <;>
  simp only [Api.step, Api.okO, Api.badO, Api.errO, Api.retO, Api.uninitP, Api.panicO] <;>
  (repeat' split) <;>
  first
    | exact Or.inr trivial
    | exact Or.inr (by with_reducible rfl)
    | exact Or.inl (by with_reducible rfl)
    | exact ofRes_cases _ _ _

/-- a call that does not report success leaves the whole store exactly as it was -/
theorem step_unchanged {σ : Store} {op : Op} (h : (Api.step σ op).2.kind ≠ .ok) :
    (Api.step σ op).1 = σ :=
  (step_unchanged_or_ok σ op).resolve_right h

/-- C14, atomicity: a call that reports an error leaves the whole store (receiver, inputs and
everything else) exactly as it was -/
theorem C14_atomic {σ : Store} {op : Op} (h : (Api.step σ op).2.kind = .err) :
    (Api.step σ op).1 = σ :=
  step_unchanged (by rw [h]; intro h'; cases h')

theorem C14_atomic_panic {σ : Store} {op : Op} {c : String}
    (h : (Api.step σ op).2.kind = .panic c) : (Api.step σ op).1 = σ :=
  step_unchanged (by rw [h]; intro h'; cases h')

theorem C14_atomic_bad {σ : Store} {op : Op} (h : (Api.step σ op).2.kind = .bad) :
    (Api.step σ op).1 = σ :=
  step_unchanged (by rw [h]; intro h'; cases h')

/-! ### only the fallible setters report errors -/

/-- the seven fallible setters (`sSetBytes` stands for `SetUniformBytes`, `SetCanonicalBytes` and
`SetBytesWithClamping`) -/
def _root_.EdVerif.Impl.Op.IsFallibleSetter : Op → Prop
  | .eSetBytes _ _ => True
  | .eSetWideBytes _ _ => True
  | .sSetBytes _ _ _ => True
  | .pSetBytes _ _ => True
  | .pSetExtCoords _ _ _ _ _ => True
  | _ => False

/-! The scalar multiplications never report an error. -/

theorem scalarMult_ne_err (k : W4) (q : P3) : Point.scalarMult k q ≠ .err := by
  rw [Point.scalarMult_bind]
  exact Res.bind_ok_ne_err _ (Scalar.signedRadix16_ne_err k)

theorem scalarBaseMult_ne_err (k : W4) : Point.scalarBaseMult k ≠ .err := by
  rw [Point.scalarBaseMult_bind]
  exact Res.bind_ok_ne_err _ (Scalar.signedRadix16_ne_err k)

theorem varTimeDouble_ne_err (a : W4) (A : P3) (b : W4) :
    Point.varTimeDoubleScalarBaseMult a A b ≠ .err := by
  rw [Point.varTimeDoubleScalarBaseMult_match]
  have ha := Scalar.nonAdjacentForm_ne_err a 5
  have hb := Scalar.nonAdjacentForm_ne_err b 8
  generalize Scalar.nonAdjacentForm a 5 = r at ha ⊢
  generalize Scalar.nonAdjacentForm b 8 = t at hb ⊢
  cases r
  · cases t
    · intro h; cases h
    · exact absurd rfl hb
    · intro h; cases h
  · exact absurd rfl ha
  · intro h; cases h

theorem collect_foldl_ne_err {α} : ∀ (xs : List (Res α)) (acc : Res (Array α)),
    acc ≠ .err → (∀ r ∈ xs, r ≠ .err) → xs.foldl Point.collectStep acc ≠ .err
  | [], _, h, _ => h
  | r :: xs, acc, h, hx => by
    rw [List.foldl_cons]
    apply collect_foldl_ne_err xs _ _ (fun r' hr' => hx r' (List.mem_cons_of_mem _ hr'))
    have hr := hx r List.mem_cons_self
    unfold Point.collectStep
    split
    · intro h'; cases h'
    · exact absurd rfl hr
    · intro h'; cases h'
    · exact h

theorem collect_ne_err {α} (xs : List (Res α)) (hx : ∀ r ∈ xs, r ≠ .err) :
    Point.collect xs ≠ .err :=
  collect_foldl_ne_err xs (.ok #[]) (by intro h; cases h) hx

theorem multiScalarMult_ne_err (ks : Array W4) (qs : Array P3) :
    Point.multiScalarMult ks qs ≠ .err := by
  rw [Point.multiScalarMult_bind]
  apply Res.bind_ok_ne_err
  apply collect_ne_err
  intro r hr
  obtain ⟨k, _, rfl⟩ := List.mem_map.mp hr
  exact Scalar.signedRadix16_ne_err k

theorem varTimeMultiScalarMult_ne_err (ks : Array W4) (qs : Array P3) :
    Point.varTimeMultiScalarMult ks qs ≠ .err := by
  rw [Point.varTimeMultiScalarMult_bind]
  apply Res.bind_ok_ne_err
  apply collect_ne_err
  intro r hr
  obtain ⟨k, _, rfl⟩ := List.mem_map.mp hr
  exact Scalar.nonAdjacentForm_ne_err k 5

theorem ofRes_kind_err {α} {σ : Store} {r : Res α} {put : α → Store}
    (h : (Api.ofRes σ r put).2.kind = .err) : r = .err := by
  cases r
  · cases h
  · rfl
  · cases h

/-- C14: an error can only be reported by one of the fallible setters -/
theorem C14_err_only_setters {σ : Store} {op : Op} (h : (Api.step σ op).2.kind = .err) :
    op.IsFallibleSetter := by
  cases op
  case eSetBytes => trivial
  case eSetWideBytes => trivial
  case sSetBytes => trivial
  case pSetBytes => trivial
  case pSetExtCoords => trivial
  case pScalarBaseMult v x =>
    simp only [Api.step] at h
    split at h
    · exact absurd (ofRes_kind_err h) (scalarBaseMult_ne_err _)
    · cases h
  case pScalarMult v x q =>
    simp only [Api.step] at h
    split at h
    · split at h
      · cases h
      · exact absurd (ofRes_kind_err h) (scalarMult_ne_err _ _)
    · cases h
  case pVarTimeDouble v a A b =>
    simp only [Api.step] at h
    split at h
    · split at h
      · cases h
      · exact absurd (ofRes_kind_err h) (varTimeDouble_ne_err _ _ _)
    · cases h
  case pMSM vt v xs qs =>
    simp only [Api.step] at h
    split at h
    · split at h
      · cases h
      · split at h
        · cases h
        · have := ofRes_kind_err h
          cases vt
          · exact absurd this (multiScalarMult_ne_err _ _)
          · exact absurd this (varTimeMultiScalarMult_ne_err _ _)
    · cases h
  all_goals
    exfalso
    revert h
    simp only [Api.step, Api.okO, Api.badO, Api.retO, Api.uninitP, Api.panicO]
    (repeat' split) <;> (intro h; cases h)

/-! ### frame: which slots a call may write -/

/-- the `Element` slots an operation may write -/
def _root_.EdVerif.Impl.Op.wE : Op → List String
  | .eNew n => [n]
  | .eLimbs n _ => [n]
  | .eConst _ v => [v]
  | .e1 _ v _ => [v]
  | .e2 _ v _ _ => [v]
  | .eMult32 v _ _ => [v]
  | .eSelect v _ _ _ => [v]
  | .eSwap v u _ => [v, u]
  | .eSqrtRatio r _ _ => [r]
  | .eSetBytes v _ => [v]
  | .eSetWideBytes v _ => [v]
  | .pExtCoords _ X Y Z T => [X, Y, Z, T]
  | _ => []

/-- the `Scalar` slots an operation may write -/
def _root_.EdVerif.Impl.Op.wS : Op → List String
  | .sNew n => [n]
  | .sLimbs n _ => [n]
  | .s1 _ s _ => [s]
  | .s2 _ s _ _ => [s]
  | .sMultiplyAdd s _ _ _ => [s]
  | .sSetBytes _ s _ => [s]
  | _ => []

/-- the `Point` slots an operation may write -/
def _root_.EdVerif.Impl.Op.wP : Op → List String
  | .pNew n => [n]
  | .pLimbs n _ => [n]
  | .pNewIdentity v => [v]
  | .pNewGenerator v => [v]
  | .pSet v _ => [v]
  | .pSetBytes v _ => [v]
  | .p1 _ v _ => [v]
  | .p2 _ v _ _ => [v]
  | .pSetExtCoords v _ _ _ _ => [v]
  | .pScalarBaseMult v _ => [v]
  | .pScalarMult v _ _ => [v]
  | .pVarTimeDouble v _ _ _ => [v]
  | .pMSM _ v _ _ => [v]
  | _ => []

/-- the byte-string slots an operation may write: only the declared outputs of the encoders (and
the harness's `bSet`) -/
def _root_.EdVerif.Impl.Op.wB : Op → List String
  | .bSet n _ => [n]
  | .eBytes _ out => [out]
  | .sBytes _ out => [out]
  | .pBytes _ out => [out]
  | .pBytesMontgomery _ out => [out]
  | _ => []

theorem insert_frame {α} (m : Std.HashMap String α) {k n : String} (x : α) (h : n ≠ k) :
    (m.insert k x)[n]? = m[n]? := by
  rw [Std.HashMap.getElem?_insert]
  have : (k == n) = false := by
    rw [beq_eq_false_iff_ne]; exact fun e => h e.symm
  rw [this]; rfl

theorem ofRes_frame {α β} {σ : Store} {r : Res α} {put : α → Store} (proj : Store → β)
    (h : ∀ a, proj (put a) = proj σ) : proj (Api.ofRes σ r put).1 = proj σ := by
  cases r
  · exact h _
  · rfl
  · rfl

/-- a call writes at most the `e`-slots listed in `Op.wE` -/
theorem frame_e {σ : Store} {op : Op} {n : String} (hn : n ∉ op.wE) :
    (Api.step σ op).1.e[n]? = σ.e[n]? := by
  cases op
  case eSwap v u cond =>
    simp only [Op.wE, List.mem_cons, List.not_mem_nil, or_false, not_or] at hn
    simp only [Api.step]
    split
    · exact (insert_frame _ _ hn.2).trans (insert_frame _ _ hn.1)
    · with_reducible rfl
  case pExtCoords v X Y Z T =>
    simp only [Op.wE, List.mem_cons, List.not_mem_nil, or_false, not_or] at hn
    simp only [Api.step]
    split
    · split
      · with_reducible rfl
      · exact (insert_frame _ _ hn.2.2.2).trans ((insert_frame _ _ hn.2.2.1).trans
          ((insert_frame _ _ hn.2.1).trans (insert_frame _ _ hn.1)))
    · with_reducible rfl
  all_goals
    simp only [Api.step, Op.wE, List.mem_cons, List.not_mem_nil, or_false] at hn ⊢ <;>
    (repeat' split) <;>
    first
      | with_reducible rfl
      | with_reducible exact insert_frame _ _ hn
      | with_reducible exact ofRes_frame (fun σ => σ.e[n]?) (fun _ => by with_reducible rfl)

/-- a call writes at most the `s`-slots listed in `Op.wS` -/
theorem frame_s {σ : Store} {op : Op} {n : String} (hn : n ∉ op.wS) :
    (Api.step σ op).1.s[n]? = σ.s[n]? := by
  cases op
  all_goals
    simp only [Api.step, Op.wS, List.mem_cons, List.not_mem_nil, or_false] at hn ⊢ <;>
    (repeat' split) <;>
    first
      | with_reducible rfl
      | with_reducible exact insert_frame _ _ hn
      | with_reducible exact ofRes_frame (fun σ => σ.s[n]?) (fun _ => by with_reducible rfl)
      | with_reducible exact ofRes_frame (fun σ => σ.s[n]?) (fun _ => insert_frame _ _ hn)

/-- a call writes at most the `p`-slots listed in `Op.wP` -/
theorem frame_p {σ : Store} {op : Op} {n : String} (hn : n ∉ op.wP) :
    (Api.step σ op).1.p[n]? = σ.p[n]? := by
  cases op
  all_goals
    simp only [Api.step, Op.wP, List.mem_cons, List.not_mem_nil, or_false] at hn ⊢ <;>
    (repeat' split) <;>
    first
      | with_reducible rfl
      | with_reducible exact insert_frame _ _ hn
      | with_reducible exact ofRes_frame (fun σ => σ.p[n]?) (fun _ => by with_reducible rfl)
      | with_reducible exact ofRes_frame (fun σ => σ.p[n]?) (fun _ => insert_frame _ _ hn)

/-- a call writes at most the `b`-slots listed in `Op.wB` -/
theorem frame_b {σ : Store} {op : Op} {n : String} (hn : n ∉ op.wB) :
    (Api.step σ op).1.b[n]? = σ.b[n]? := by
  cases op
  all_goals
    simp only [Api.step, Op.wB, List.mem_cons, List.not_mem_nil, or_false] at hn ⊢ <;>
    (repeat' split) <;>
    first
      | with_reducible rfl
      | with_reducible exact insert_frame _ _ hn
      | with_reducible exact ofRes_frame (fun σ => σ.b[n]?) (fun _ => by with_reducible rfl)

/-- C14, inputs are never modified: an operation that has no declared byte-string output (in
particular every setter, whose input is a byte string) leaves all byte strings as they were -/
theorem b_unchanged {σ : Store} {op : Op} (h : op.wB = []) : (Api.step σ op).1.b = σ.b := by
  cases op
  case bSet => cases h
  case eBytes => cases h
  case sBytes => cases h
  case pBytes => cases h
  case pBytesMontgomery => cases h
  all_goals
    simp only [Api.step] <;>
    (repeat' split) <;>
    first
      | with_reducible rfl
      | with_reducible exact ofRes_frame (fun σ => σ.b) (fun _ => by with_reducible rfl)

/-- the five fallible setters leave their input byte string / coordinates alone: the only slot
they may write is the receiver -/
theorem setter_frame {σ : Store} {op : Op} (h : op.IsFallibleSetter) :
    (Api.step σ op).1.b = σ.b ∧
    (∀ n, n ∉ op.wE → (Api.step σ op).1.e[n]? = σ.e[n]?) ∧
    (∀ n, n ∉ op.wS → (Api.step σ op).1.s[n]? = σ.s[n]?) ∧
    (∀ n, n ∉ op.wP → (Api.step σ op).1.p[n]? = σ.p[n]?) := by
  refine ⟨b_unchanged ?_, fun _ => frame_e, fun _ => frame_s, fun _ => frame_p⟩
  cases op <;> first | rfl | exact absurd h id

end EdVerif.Proofs
