import EdVerif.Proofs.TableProofs
/-!
C01, loop layer: the five scalar multiplications of the executable model, on digit arrays
satisfying the digit specifications (`radix16_spec`, `naf_spec`), compute a representative of
`Σ (Σ_i d_i r^i) • P`. Each model loop is related to the abstract loop of `Loops.lean` by
`Loops.foldl_rel` with the relation "the model accumulator represents the abstract accumulator".

None of the model functions takes the prior receiver as an argument; every accumulator starts from
`identity` / `P2.zero`.
-/
namespace EdVerif.Proofs
open EdVerif.Impl EdVerif.Impl.Point EdVerif.Prims EdVerif.Spec
open Finset

section
variable (ff : FieldFacts)
include ff

/-- `tmp1.Double(tmp2)` / `tmp2.FromP1xP1(tmp1)` … four doublings from a `projP2` -/
theorem mul16_fromP2_rep {v : P2} {X : Ed25519} (h : v.Rep X) :
    (Point.P1xP1.double (Point.P2.fromP1xP1 (Point.P1xP1.double (Point.P2.fromP1xP1
      (Point.P1xP1.double (Point.P2.fromP1xP1 (Point.P1xP1.double v))))))).Rep
      ((16 : ℤ) • X) := by
  have h1 := P1xP1_double_rep ff h
  have h2 := double_rep ff h1
  have h3 := double_rep ff h2
  have h4 := double_rep ff h3
  have e : (2 : ℕ) • (2 : ℕ) • (2 : ℕ) • (2 : ℕ) • X = (16 : ℤ) • X := by
    rw [smul_smul, smul_smul, smul_smul, ← natCast_zsmul]; norm_num
  rw [← e]; exact h4

/-- the same starting from a `Point` (`tmp2.FromP3(v)` first) -/
theorem mul16_fromP3_rep {v : P3} {X : Ed25519} (h : v.Rep X) :
    (Point.P1xP1.double (Point.P2.fromP1xP1 (Point.P1xP1.double (Point.P2.fromP1xP1
      (Point.P1xP1.double (Point.P2.fromP1xP1 (Point.P1xP1.double (Point.P2.fromP3 v)))))))).Rep
      ((16 : ℤ) • X) :=
  mul16_fromP2_rep ff (P2_fromP3_rep h)

theorem mul16_rep' {p : P1xP1} {X : Ed25519} (h : p.Rep X) :
    (Point.mul16 p).Rep ((16 : ℤ) • X) := by
  rw [← nsmul_16_eq]; exact mul16_rep ff h

variable (sf : SqrtRatioDecodeFacts)
include sf

/-! ### `ScalarMult` -/

/-- `ScalarMult` on signed radix-16 digits -/
theorem scalarMultDigits_rep {d : Array Int} {q : P3} {Q : Ed25519}
    (hr : ∀ i < 64, (-8 : ℤ) ≤ d[i]! ∧ d[i]! ≤ 8) (hq : q.Rep Q) :
    (Point.scalarMultDigits d q).Rep ((∑ i ∈ range 64, d[i]! * 16 ^ i) • Q) := by
  unfold Point.scalarMultDigits
  simp only []
  apply fromP1xP1_rep ff
  rw [← Loops.horner16_fold63 (fun i => d[i]!) Q]
  apply Loops.foldl_rel (fun (a : P1xP1) (g : Ed25519) => a.Rep g)
  · exact P1xP1_add_rep ff (identity_rep ff sf) (projSelect_rep ff hq (hr 63 (by omega)))
  · intro a b k hk hab
    have hk' : k < 63 := List.mem_range.mp hk
    exact P1xP1_add_rep ff (fromP1xP1_rep ff (mul16_rep' ff hab))
      (projSelect_rep ff hq (hr (62 - k) (by omega)))

/-! ### `ScalarBaseMult` -/

/-- one `v.fromP1xP1(tmp1.AddAffine(v, multiple))` step with `multiple` from table `i/2` -/
theorem baseStep_rep {d : Array Int} (hr : ∀ i < 64, (-8 : ℤ) ≤ d[i]! ∧ d[i]! ≤ 8)
    {v : P3} {X : Ed25519} (h : v.Rep X) (i : ℕ) (hi : i < 64) :
    (Point.fromP1xP1 (Point.P1xP1.addAffine v
      (Point.affineSelect Point.basepointTable[i / 2]! d[i]!))).Rep
      (X + d[i]! • ((256 : ℤ) ^ (i / 2) • basepoint)) :=
  fromP1xP1_rep ff (P1xP1_addAffine_rep ff h
    (affineSelect_rep_of ff (basepointTable_rep' ff sf (i / 2) (by omega)) (hr i hi)))

/-- `ScalarBaseMult` on signed radix-16 digits -/
theorem scalarBaseMultDigits_rep {d : Array Int}
    (hr : ∀ i < 64, (-8 : ℤ) ≤ d[i]! ∧ d[i]! ≤ 8) :
    (Point.scalarBaseMultDigits d).Rep ((∑ i ∈ range 64, d[i]! * 16 ^ i) • basepoint) := by
  unfold Point.scalarBaseMultDigits
  simp only []
  rw [← Loops.comb16_fold32 (fun i => d[i]!) basepoint (fun k => (256 : ℤ) ^ k • basepoint)
    (fun _ _ => rfl)]
  apply Loops.foldl_rel (fun (a : P3) (g : Ed25519) => a.Rep g)
  · apply fromP1xP1_rep ff
    apply mul16_fromP3_rep ff
    apply Loops.foldl_rel (fun (a : P3) (g : Ed25519) => a.Rep g)
    · exact identity_rep ff sf
    · intro a b k hk hab
      have hk' : k < 32 := List.mem_range.mp hk
      exact baseStep_rep ff sf hr hab (2 * k + 1) (by omega)
  · intro a b k hk hab
    have hk' : k < 32 := List.mem_range.mp hk
    exact baseStep_rep ff sf hr hab (2 * k) (by omega)

/-! ### `MultiScalarMult` -/

omit sf in
/-- the inner loop `for j := range tables { v.Add(v, select(tables[j], digits[j][i])) }` -/
theorem addAll_rep {digits : Array (Array Int)} {points : Array P3} {Q : ℕ → Ed25519}
    (hr : ∀ j < points.size, ∀ i < 64, (-8 : ℤ) ≤ (digits[j]!)[i]! ∧ (digits[j]!)[i]! ≤ 8)
    (hq : ∀ j < points.size, (points[j]!).Rep (Q j))
    {v : P3} {X : Ed25519} (h : v.Rep X) (i : ℕ) (hi : i < 64) :
    ((List.range (points.map Point.projTable).size).foldl (fun v j =>
        Point.fromP1xP1 (Point.P1xP1.add v
          (Point.projSelect (points.map Point.projTable)[j]! (digits[j]!)[i]!))) v).Rep
      (Loops.addAll points.size (fun j i => (digits[j]!)[i]!) Q X i) := by
  unfold Loops.addAll
  rw [Array.size_map]
  apply Loops.foldl_rel (fun (a : P3) (g : Ed25519) => a.Rep g)
  · exact h
  · intro a b j hj hab
    have hj' : j < points.size := List.mem_range.mp hj
    rw [Arr.get_map _ _ _ hj']
    exact fromP1xP1_rep ff (P1xP1_add_rep ff hab (projSelect_rep ff (hq j hj') (hr j hj' i hi)))

/-- `MultiScalarMult` on arrays of signed radix-16 digits: `Σ_j (Σ_i d_j[i] 16^i) • Q_j`; for
`points = #[]` this is `0` (the identity), whatever `digits` is -/
theorem multiScalarMultDigits_rep {digits : Array (Array Int)} {points : Array P3}
    {Q : ℕ → Ed25519}
    (hr : ∀ j < points.size, ∀ i < 64, (-8 : ℤ) ≤ (digits[j]!)[i]! ∧ (digits[j]!)[i]! ≤ 8)
    (hq : ∀ j < points.size, (points[j]!).Rep (Q j)) :
    (Point.multiScalarMultDigits digits points).Rep
      (∑ j ∈ range points.size, (∑ i ∈ range 64, (digits[j]!)[i]! * 16 ^ i) • Q j) := by
  unfold Point.multiScalarMultDigits
  simp only []
  rw [← Loops.multiHorner16_fold63 points.size (fun j i => (digits[j]!)[i]!) Q]
  refine (Loops.foldl_rel (fun (st : P3 × P2) (g : Ed25519) => st.1.Rep g ∧ st.2.Rep g)
    _ _ _ _ _ ?_ ?_).1
  · have h := addAll_rep ff hr hq (identity_rep ff sf) 63 (by omega)
    exact ⟨h, P2_fromP3_rep h⟩
  · intro a b k hk hab
    have hk' : k < 63 := List.mem_range.mp hk
    have h := addAll_rep ff hr hq (fromP1xP1_rep ff (mul16_fromP2_rep ff hab.2)) (62 - k)
      (by omega)
    exact ⟨h, P2_fromP3_rep h⟩

/-- zero terms: the identity -/
theorem multiScalarMultDigits_empty (digits : Array (Array Int)) :
    (Point.multiScalarMultDigits digits #[]).Rep 0 := by
  have h := multiScalarMultDigits_rep ff sf (digits := digits) (points := #[]) (Q := fun _ => 0)
    (fun j hj => absurd hj (by simp)) (fun j hj => absurd hj (by simp))
  simpa using h

/-! ### `VarTimeDoubleScalarBaseMult` -/

/-- `VarTimeDoubleScalarBaseMult` on NAF digit arrays: width-5 digits for `A` (`0` or odd with
`|d| < 16`), width-8 digits for `B` (`0` or odd with `|d| < 128`) -/
theorem varTimeDoubleDigits_rep {aNaf bNaf : Array Int} {A : P3} {QA : Ed25519}
    (ha : ∀ i < 256, aNaf[i]! = 0 ∨ (aNaf[i]! % 2 = 1 ∧ (-16 : ℤ) < aNaf[i]! ∧ aNaf[i]! < 16))
    (hb : ∀ i < 256, bNaf[i]! = 0 ∨ (bNaf[i]! % 2 = 1 ∧ (-128 : ℤ) < bNaf[i]! ∧ bNaf[i]! < 128))
    (hA : A.Rep QA) :
    (Point.varTimeDoubleDigits aNaf bNaf A).Rep
      ((∑ i ∈ range 256, aNaf[i]! * 2 ^ i) • QA + (∑ i ∈ range 256, bNaf[i]! * 2 ^ i) • basepoint) := by
  unfold Point.varTimeDoubleDigits
  simp only []
  apply fromP2_rep ff
  rw [← Loops.nafDouble_fold256 (fun i => aNaf[i]!) (fun i => bNaf[i]!) QA basepoint]
  apply Loops.foldl_rel (fun (a : P2) (g : Ed25519) => a.Rep g)
  · exact P2_zero_rep ff
  · intro a b k hk hab
    have hk' : k < 256 := List.mem_range.mp hk
    apply P2_fromP1xP1_rep ff
    have h1 := P1xP1_double_rep ff hab
    rw [nsmul_two_eq] at h1
    have h2 := nafStep_rep ff (n := 8) (by omega) (naf5Table_rep ff hA)
      (x := aNaf[255 - k]!) (by simpa using ha (255 - k) (by omega)) h1
    exact nafStepAffine_rep ff (n := 64) (by omega) (basepointNafTable_rep ff sf)
      (x := bNaf[255 - k]!) (by simpa using hb (255 - k) (by omega)) h2

/-! ### `VarTimeMultiScalarMult` -/

omit sf in
/-- `VarTimeMultiScalarMult` on arrays of width-5 NAF digits: `Σ_j (Σ_i d_j[i] 2^i) • Q_j`; for
`nafs = points = #[]` this is `0` -/
theorem varTimeMultiDigits_rep {nafs : Array (Array Int)} {points : Array P3} {Q : ℕ → Ed25519}
    (hs : nafs.size = points.size)
    (hr : ∀ j < points.size, ∀ i < 256, (nafs[j]!)[i]! = 0 ∨
      ((nafs[j]!)[i]! % 2 = 1 ∧ (-16 : ℤ) < (nafs[j]!)[i]! ∧ (nafs[j]!)[i]! < 16))
    (hq : ∀ j < points.size, (points[j]!).Rep (Q j)) :
    (Point.varTimeMultiDigits nafs points).Rep
      (∑ j ∈ range points.size, (∑ i ∈ range 256, (nafs[j]!)[i]! * 2 ^ i) • Q j) := by
  unfold Point.varTimeMultiDigits
  simp only []
  apply fromP2_rep ff
  rw [← Loops.nafMulti_fold256 points.size (fun j i => (nafs[j]!)[i]!) Q, hs]
  apply Loops.foldl_rel (fun (a : P2) (g : Ed25519) => a.Rep g)
  · exact P2_zero_rep ff
  · intro a b k hk hab
    have hk' : k < 256 := List.mem_range.mp hk
    apply P2_fromP1xP1_rep ff
    apply Loops.foldl_rel (fun (a : P1xP1) (g : Ed25519) => a.Rep g)
    · have h1 := P1xP1_double_rep ff hab
      rw [nsmul_two_eq] at h1
      exact h1
    · intro a' b' j hj hab'
      have hj' : j < points.size := List.mem_range.mp hj
      rw [Arr.get_map _ _ _ hj']
      exact nafStep_rep ff (n := 8) (by omega) (naf5Table_rep ff (hq j hj'))
        (x := (nafs[j]!)[255 - k]!) (by simpa using hr j hj' (255 - k) (by omega)) hab'

omit sf in
/-- zero terms: the identity -/
theorem varTimeMultiDigits_empty : (Point.varTimeMultiDigits #[] #[]).Rep 0 := by
  have h := varTimeMultiDigits_rep ff (nafs := #[]) (points := #[]) (Q := fun _ => 0) rfl
    (fun j hj => absurd hj (by simp)) (fun j hj => absurd hj (by simp))
  simpa using h

end

end EdVerif.Proofs
