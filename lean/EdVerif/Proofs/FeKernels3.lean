import EdVerif.Proofs.FeKernels2
/-!
C09/C10 kernel layer, part 3: the final reduction `reduce` (canonical representative) and `Mult32`.
-/
namespace EdVerif.Proofs
open EdVerif EdVerif.Prims EdVerif.Gen EdVerif.Impl

/-- all limbs `< 2^51` -/
def Lt51 (e : Prims.Fe) : Prop :=
  e.l0 < 2^51 ∧ e.l1 < 2^51 ∧ e.l2 < 2^51 ∧ e.l3 < 2^51 ∧ e.l4 < 2^51

theorem lt51_tight {e : Prims.Fe} (h : Lt51 e) : Tight e := by
  obtain ⟨l0, l1, l2, l3, l4⟩ := e
  simp only [Lt51, Tight, Fe.Tight] at *
  omega

theorem lt51_val_lt {e : Prims.Fe} (h : Lt51 e) : val e < 2^255 := by
  obtain ⟨l0, l1, l2, l3, l4⟩ := e
  simp only [Lt51, Fe.val] at *
  omega

theorem carry_step (a S M N : Nat) (hM : 0 < M) : (a + S / M) / N = (S + a * M) / (M * N) := by
  rw [← Nat.div_div_eq_div_mul, Nat.add_mul_div_right _ _ hM, Nat.add_comm]

theorem chain5 (t0 t1 t2 t3 t4 k : Nat) :
    (t4 + (t3 + (t2 + (t1 + (t0 + k) / 2^(51:ℕ)) / 2^(51:ℕ)) / 2^(51:ℕ)) / 2^(51:ℕ)) / 2^(51:ℕ) =
      (t0 + t1 * 2^(51:ℕ) + t2 * 2^(102:ℕ) + t3 * 2^(153:ℕ) + t4 * 2^(204:ℕ) + k) / 2^(255:ℕ) := by
  have s1 : (t1 + (t0 + k) / 2^51) / 2^51 = (t0 + k + t1 * 2^51) / 2^102 := by
    rw [carry_step _ _ _ _ (by norm_num), ← pow_add]
  have s2 : (t2 + (t0 + k + t1 * 2^51) / 2^102) / 2^51 = (t0 + k + t1 * 2^51 + t2 * 2^102) / 2^153 := by
    rw [carry_step _ _ _ _ (by norm_num), ← pow_add]
  have s3 : (t3 + (t0 + k + t1 * 2^51 + t2 * 2^102) / 2^153) / 2^51 =
      (t0 + k + t1 * 2^51 + t2 * 2^102 + t3 * 2^153) / 2^204 := by
    rw [carry_step _ _ _ _ (by norm_num), ← pow_add]
  have s4 : (t4 + (t0 + k + t1 * 2^51 + t2 * 2^102 + t3 * 2^153) / 2^204) / 2^51 =
      (t0 + k + t1 * 2^51 + t2 * 2^102 + t3 * 2^153 + t4 * 2^204) / 2^255 := by
    rw [carry_step _ _ _ _ (by norm_num), ← pow_add]
  rw [s1, s2, s3, s4]
  congr 1
  ring

theorem step_nowrap (t c : Nat) (ht : t < 2^52) (hc : c ≤ 19) :
    (t + c) % 2^64 = t + c ∧ (t + c) / 2^51 ≤ 2 := by
  omega

/- In the long statements below the exponents are written `2^(51:ℕ)`: an untyped exponent numeral waits for the
default-instance pass, which settles one per round, so elaborating a statement costs the square of their number. -/
theorem reduce_sum (t0 t1 t2 t3 t4 c m0 m1 m2 m3 m4 : Nat)
    (e0 : m0 = t0 + 19 * c) (e1 : m1 = t1 + m0 / 2^(51:ℕ)) (e2 : m2 = t2 + m1 / 2^(51:ℕ))
    (e3 : m3 = t3 + m2 / 2^(51:ℕ)) (e4 : m4 = t4 + m3 / 2^(51:ℕ)) :
    m0 % 2^(51:ℕ) + m1 % 2^(51:ℕ) * 2^(51:ℕ) + m2 % 2^(51:ℕ) * 2^(102:ℕ) + m3 % 2^(51:ℕ) * 2^(153:ℕ) + m4 % 2^(51:ℕ) * 2^(204:ℕ) +
      m4 / 2^(51:ℕ) * 2^(255:ℕ) = t0 + t1 * 2^(51:ℕ) + t2 * 2^(102:ℕ) + t3 * 2^(153:ℕ) + t4 * 2^(204:ℕ) + 19 * c := by
  omega

theorem reduce_mod (T c D O : Nat) (hT : T < 2^255 + 2^218)
    (hc : c = (T + 19) / 2^255) (hd : D = (T + 19 * c) / 2^255) (hO : O + D * 2^255 = T + 19 * c) :
    O = T % (2^255 - 19) := by
  have hc1 : c = 0 ∨ c = 1 := by omega
  rcases hc1 with h | h
  · subst h; omega
  · subst h; omega

theorem tight_sum_lt (t0 t1 t2 t3 t4 : Nat)
    (h0 : t0 < 2^(51:ℕ) + 2^(18:ℕ)) (h1 : t1 < 2^(51:ℕ) + 2^(13:ℕ)) (h2 : t2 < 2^(51:ℕ) + 2^(13:ℕ))
    (h3 : t3 < 2^(51:ℕ) + 2^(13:ℕ)) (h4 : t4 < 2^(51:ℕ) + 2^(13:ℕ)) :
    t0 + t1 * 2^(51:ℕ) + t2 * 2^(102:ℕ) + t3 * 2^(153:ℕ) + t4 * 2^(204:ℕ) < 2^(255:ℕ) + 2^(218:ℕ) := by
  omega

/-- the arithmetic heart of `reduce`, on five limbs that came out of a carry chain -/
theorem reduce_arith (t0 t1 t2 t3 t4 : Nat)
    (h0 : t0 < 2^(51:ℕ) + 2^(18:ℕ)) (h1 : t1 < 2^(51:ℕ) + 2^(13:ℕ)) (h2 : t2 < 2^(51:ℕ) + 2^(13:ℕ))
    (h3 : t3 < 2^(51:ℕ) + 2^(13:ℕ)) (h4 : t4 < 2^(51:ℕ) + 2^(13:ℕ))
    (c0 c1 c2 c3 c4 m0 m1 m2 m3 m4 : Nat)
    (hc0 : c0 = (t0 + 19) % 2^(64:ℕ) / 2^(51:ℕ)) (hc1 : c1 = (t1 + c0) % 2^(64:ℕ) / 2^(51:ℕ))
    (hc2 : c2 = (t2 + c1) % 2^(64:ℕ) / 2^(51:ℕ)) (hc3 : c3 = (t3 + c2) % 2^(64:ℕ) / 2^(51:ℕ))
    (hc4 : c4 = (t4 + c3) % 2^(64:ℕ) / 2^(51:ℕ))
    (e0 : m0 = (t0 + 19 * c4 % 2^(64:ℕ)) % 2^(64:ℕ)) (e1 : m1 = (t1 + m0 / 2^(51:ℕ)) % 2^(64:ℕ))
    (e2 : m2 = (t2 + m1 / 2^(51:ℕ)) % 2^(64:ℕ)) (e3 : m3 = (t3 + m2 / 2^(51:ℕ)) % 2^(64:ℕ))
    (e4 : m4 = (t4 + m3 / 2^(51:ℕ)) % 2^(64:ℕ)) :
    m0 % 2^(51:ℕ) + m1 % 2^(51:ℕ) * 2^(51:ℕ) + m2 % 2^(51:ℕ) * 2^(102:ℕ) + m3 % 2^(51:ℕ) * 2^(153:ℕ) + m4 % 2^(51:ℕ) * 2^(204:ℕ) =
      (t0 + t1 * 2^(51:ℕ) + t2 * 2^(102:ℕ) + t3 * 2^(153:ℕ) + t4 * 2^(204:ℕ)) % (2^(255:ℕ) - 19) := by
  have b0 : t0 < 2^52 := by omega
  have b1 : t1 < 2^52 := by omega
  have b2 : t2 < 2^52 := by omega
  have b3 : t3 < 2^52 := by omega
  have b4 : t4 < 2^52 := by omega
  obtain ⟨w0, k0⟩ := step_nowrap t0 19 b0 (by omega)
  rw [w0] at hc0
  obtain ⟨w1, k1⟩ := step_nowrap t1 c0 b1 (by omega)
  rw [w1] at hc1
  obtain ⟨w2, k2⟩ := step_nowrap t2 c1 b2 (by omega)
  rw [w2] at hc2
  obtain ⟨w3, k3⟩ := step_nowrap t3 c2 b3 (by omega)
  rw [w3] at hc3
  obtain ⟨w4, k4⟩ := step_nowrap t4 c3 b4 (by omega)
  rw [w4] at hc4
  have hc : c4 = (t0 + t1 * 2^51 + t2 * 2^102 + t3 * 2^153 + t4 * 2^204 + 19) / 2^255 := by
    rw [hc4, hc3, hc2, hc1, hc0, chain5]
  have c4le : c4 ≤ 1 := by
    clear hc0 hc1 hc2 hc3 hc4 e0 e1 e2 e3 e4 w0 w1 w2 w3 w4 k0 k1 k2 k3 k4
    omega
  clear hc0 hc1 hc2 hc3 hc4 w0 w1 w2 w3 w4 k0 k1 k2 k3 k4
  have x0 : 19 * c4 % 2^64 = 19 * c4 := by omega
  rw [x0] at e0
  obtain ⟨y0, j0⟩ := step_nowrap t0 (19 * c4) b0 (by omega)
  rw [y0] at e0
  obtain ⟨y1, j1⟩ := step_nowrap t1 (m0 / 2^51) b1 (by rw [e0]; exact Nat.le_trans j0 (by norm_num))
  rw [y1] at e1
  obtain ⟨y2, j2⟩ := step_nowrap t2 (m1 / 2^51) b2 (by rw [e1]; exact Nat.le_trans j1 (by norm_num))
  rw [y2] at e2
  obtain ⟨y3, j3⟩ := step_nowrap t3 (m2 / 2^51) b3 (by rw [e2]; exact Nat.le_trans j2 (by norm_num))
  rw [y3] at e3
  obtain ⟨y4, j4⟩ := step_nowrap t4 (m3 / 2^51) b4 (by rw [e3]; exact Nat.le_trans j3 (by norm_num))
  rw [y4] at e4
  have hd : m4 / 2^51 =
      (t0 + t1 * 2^51 + t2 * 2^102 + t3 * 2^153 + t4 * 2^204 + 19 * c4) / 2^255 := by
    rw [e4, e3, e2, e1, e0, chain5]
  exact reduce_mod _ c4 _ _ (tight_sum_lt t0 t1 t2 t3 t4 h0 h1 h2 h3 h4) hc hd
    (reduce_sum t0 t1 t2 t3 t4 c4 m0 m1 m2 m3 m4 e0 e1 e2 e3 e4)


/-- `reduce` returns the canonical representative; `uint64` limbs suffice (it carries first) -/
theorem reduce_spec' {a : Prims.Fe} (ha : U64 a) :
    Lt51 (Fe.reduce a) ∧ val (Fe.reduce a) = val a % P := by
  obtain ⟨ht, hv⟩ := carryGeneric_spec a ha
  rw [← carryPropagate_eq_generic] at ht hv
  unfold Nat.ModEq at hv
  rw [← hv]
  simp only [Fe.reduce, Field.reduce, U.shr, U.add, U.and, U.mul, and_mask51,
    Nat.shiftRight_eq_div_pow]
  generalize Field.carryPropagate a = t at *
  obtain ⟨t0, t1, t2, t3, t4⟩ := t
  obtain ⟨h0, h1, h2, h3, h4⟩ := ht
  simp only at h0 h1 h2 h3 h4
  refine ⟨⟨Nat.mod_lt _ (by norm_num), Nat.mod_lt _ (by norm_num), Nat.mod_lt _ (by norm_num),
    Nat.mod_lt _ (by norm_num), Nat.mod_lt _ (by norm_num)⟩, ?_⟩
  simp only [Fe.val, P, EdVerif.P]
  exact reduce_arith t0 t1 t2 t3 t4 h0 h1 h2 h3 h4 _ _ _ _ _ _ _ _ _ _ rfl rfl rfl rfl rfl
    rfl rfl rfl rfl rfl

theorem reduce_spec {a : Prims.Fe} (ha : Inv a) :
    Lt51 (Fe.reduce a) ∧ val (Fe.reduce a) = val a % P :=
  reduce_spec' (inv_U64 ha)

theorem P_pos : 0 < P := by simp only [P, EdVerif.P]; omega

theorem reduce_canonical {a : Prims.Fe} (ha : U64 a) : val (Fe.reduce a) < P := by
  rw [(reduce_spec' ha).2]
  exact Nat.mod_lt _ P_pos

/-- limbs `< 2^51` determine the element: `val` is injective on `Lt51` -/
theorem val_inj_lt51 {a b : Prims.Fe} (ha : Lt51 a) (hb : Lt51 b) (h : val a = val b) : a = b := by
  obtain ⟨a0, a1, a2, a3, a4⟩ := a
  obtain ⟨b0, b1, b2, b3, b4⟩ := b
  simp only [Lt51, Fe.val] at *
  have e0 : a0 = b0 := by omega
  have e1 : a1 = b1 := by omega
  have e2 : a2 = b2 := by omega
  have e3 : a3 = b3 := by omega
  have e4 : a4 = b4 := by omega
  rw [e0, e1, e2, e3, e4]

/-- congruent inputs reduce to the same limbs -/
theorem reduce_congr {a b : Prims.Fe} (ha : U64 a) (hb : U64 b) (h : val a ≡ val b [MOD P]) :
    Fe.reduce a = Fe.reduce b := by
  obtain ⟨la, va⟩ := reduce_spec' ha
  obtain ⟨lb, vb⟩ := reduce_spec' hb
  exact val_inj_lt51 la lb (by rw [va, vb]; exact h)


theorem mul51_spec (a y : Nat) (ha : a < 2^52) (hy : y < 2^32) :
    Field.mul51 a y = ((a * y) % 2^51, (a * y) / 2^51) := by
  have h : a * y < 2^52 * 2^32 := Nat.mul_lt_mul'' ha hy
  simp only [Field.mul51, Bits.Mul64, U.and, U.or, U.shl, U.shr, and_mask51,
    Nat.shiftRight_eq_div_pow, Nat.shiftLeft_eq]
  generalize a * y = p at *
  have h1 : p / 2^64 * 2^13 % 2^64 = p / 2^64 * 2^13 := by omega
  have h2 : p % 2^64 / 2^51 < 2^13 := by omega
  rw [h1, or_eq_add_of_shift _ _ h2]
  congr 1 <;> omega

theorem prod84 {a y : Nat} (ha : a < 2^52) (hy : y < 2^32) : a * y < 2^84 := by
  have h : a * y < 2^52 * 2^32 := Nat.mul_lt_mul'' ha hy
  omega

/-- `Mult32` has no final carry: limb 0 `< 2^51 + 2^38`, the others `< 2^51 + 2^33` -/
theorem mult32_eq {a : Prims.Fe} {y : Nat} (ha : Lt52 a) (hy : y < 2^32) :
    Fe.mult32 a y = ⟨a.l0 * y % 2^51 + a.l4 * y / 2^51 * 19, a.l1 * y % 2^51 + a.l0 * y / 2^51,
      a.l2 * y % 2^51 + a.l1 * y / 2^51, a.l3 * y % 2^51 + a.l2 * y / 2^51,
      a.l4 * y % 2^51 + a.l3 * y / 2^51⟩ := by
  obtain ⟨a0, a1, a2, a3, a4⟩ := a
  obtain ⟨h0, h1, h2, h3, h4⟩ := ha
  simp only at h0 h1 h2 h3 h4
  have q0 : a0 * y < 2^84 := prod84 h0 hy
  have q1 : a1 * y < 2^84 := prod84 h1 hy
  have q2 : a2 * y < 2^84 := prod84 h2 hy
  have q3 : a3 * y < 2^84 := prod84 h3 hy
  have q4 : a4 * y < 2^84 := prod84 h4 hy
  have w : (2:Nat)^84 < 2^107 := by norm_num
  have w' : (2:Nat)^84 < 2^111 := by norm_num
  simp only [Fe.mult32, Field.Mult32, mul51_spec _ _ h0 hy, mul51_spec _ _ h1 hy,
    mul51_spec _ _ h2 hy, mul51_spec _ _ h3 hy, mul51_spec _ _ h4 hy, U.add, U.mul, Nat.mul_comm 19,
    fold_nowrap19 _ _ (Nat.lt_trans q4 w), fold_nowrap _ _ (Nat.lt_trans q0 w'), fold_nowrap _ _ (Nat.lt_trans q1 w'),
    fold_nowrap _ _ (Nat.lt_trans q2 w'), fold_nowrap _ _ (Nat.lt_trans q3 w')]

theorem mult32_spec' {a : Prims.Fe} {y : Nat} (ha : Lt52 a) (hy : y < 2^32) :
    ((Fe.mult32 a y).l0 < 2^51 + 2^38 ∧ (Fe.mult32 a y).l1 < 2^51 + 2^33 ∧
      (Fe.mult32 a y).l2 < 2^51 + 2^33 ∧ (Fe.mult32 a y).l3 < 2^51 + 2^33 ∧
      (Fe.mult32 a y).l4 < 2^51 + 2^33) ∧
    val (Fe.mult32 a y) ≡ val a * y [MOD P] := by
  rw [mult32_eq ha hy]
  obtain ⟨a0, a1, a2, a3, a4⟩ := a
  obtain ⟨h0, h1, h2, h3, h4⟩ := ha
  simp only at h0 h1 h2 h3 h4
  have q0 : a0 * y < 2^84 := prod84 h0 hy
  have q1 : a1 * y < 2^84 := prod84 h1 hy
  have q2 : a2 * y < 2^84 := prod84 h2 hy
  have q3 : a3 * y < 2^84 := prod84 h3 hy
  have q4 : a4 * y < 2^84 := prod84 h4 hy
  have hv := cols_val (a0 * y) (a1 * y) (a2 * y) (a3 * y) (a4 * y)
  refine ⟨?_, ?_⟩
  · clear hv
    simp only
    generalize a0 * y = p0 at *
    generalize a1 * y = p1 at *
    generalize a2 * y = p2 at *
    generalize a3 * y = p3 at *
    generalize a4 * y = p4 at *
    refine ⟨?_, ?_, ?_, ?_, ?_⟩ <;> omega
  · simp only [Fe.val]
    have e : (a0 + a1 * 2^51 + a2 * 2^102 + a3 * 2^153 + a4 * 2^204) * y =
        a0 * y + a1 * y * 2^51 + a2 * y * 2^102 + a3 * y * 2^153 + a4 * y * 2^204 := by ring
    rw [e, ← hv]
    unfold Nat.ModEq
    simp only [P, EdVerif.P]
    rw [Nat.add_mul_mod_self_right]

theorem mult32_spec {a : Prims.Fe} {y : Nat} (ha : Inv a) (hy : y < 2^32) :
    Inv (Fe.mult32 a y) ∧ val (Fe.mult32 a y) ≡ val a * y [MOD P] := by
  obtain ⟨hb, hv⟩ := mult32_spec' (inv_lt52 ha) hy
  refine ⟨?_, hv⟩
  generalize Fe.mult32 a y = r at *
  obtain ⟨r0, r1, r2, r3, r4⟩ := r
  simp only [Inv, Fe.Inv] at *
  omega

end EdVerif.Proofs
