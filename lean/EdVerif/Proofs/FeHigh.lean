import Mathlib.Data.ZMod.Basic
import Mathlib.FieldTheory.Finite.Basic
import Mathlib.Tactic.NormNum
import Mathlib.Tactic.Ring
import Mathlib.Tactic.LinearCombination
import EdVerif.Proofs.FieldFacts
/-!
Field high layer: the `ZMod p` view (`FieldFacts`) of every `field.Element` operation of the
executable model, derived from the kernel-level `Nat` facts (`KernelFacts`).

Main result: `fieldFacts_of_kernelFacts : KernelFacts → FieldFacts`.
-/
namespace EdVerif.Proofs
open EdVerif.Impl EdVerif.Prims EdVerif.Spec

/-! ### invariants -/

theorem inv_u64 {e : Fe} (h : Fe.Inv e) : Fe.U64 e := by
  obtain ⟨h0, h1, h2, h3, h4⟩ := h
  refine ⟨?_, ?_, ?_, ?_, ?_⟩ <;> omega

theorem inv_of_lt {e : Fe} (h0 : e.l0 < 2^51) (h1 : e.l1 < 2^51) (h2 : e.l2 < 2^51)
    (h3 : e.l3 < 2^51) (h4 : e.l4 < 2^51) : Fe.Inv e := by
  refine ⟨?_, ?_, ?_, ?_, ?_⟩ <;> omega

/-! ### `Nat.ModEq` to `ZMod` -/

theorem toZ_of_modEq {a : Fe} {n : ℕ} (h : Fe.val a ≡ n [MOD P]) : toZ a = (n : F) :=
  (ZMod.natCast_eq_natCast_iff _ _ _).mpr h

theorem toZ_val (a : Fe) : (toZ a).val = Fe.val a % P := ZMod.val_natCast _ _

theorem zero_z (kf : KernelFacts) : Fe.Inv Fe.zero ∧ toZ Fe.zero = 0 := by
  rw [kf.zero]
  refine ⟨by decide, ?_⟩
  unfold toZ Fe.val
  simp

theorem one_z (kf : KernelFacts) : Fe.Inv Fe.one ∧ toZ Fe.one = 1 := by
  rw [kf.one]
  refine ⟨by decide, ?_⟩
  unfold toZ Fe.val
  simp

theorem rz_z : Fe.Inv Fe.rz ∧ toZ Fe.rz = 0 := by
  refine ⟨by decide, ?_⟩
  unfold toZ Fe.val Fe.rz
  simp

theorem val_sqrtM1 : Fe.val Fe.sqrtM1 = EdVerif.SQRTM1 := by decide +kernel

theorem sqrtM1_z : Fe.Inv Fe.sqrtM1 ∧ toZ Fe.sqrtM1 = Spec.sqrtM1 := by
  refine ⟨by decide +kernel, ?_⟩
  unfold toZ Spec.sqrtM1
  rw [val_sqrtM1]

theorem add_z (kf : KernelFacts) (a b : Fe) (ha : Fe.Inv a) (hb : Fe.Inv b) :
    Fe.Inv (Fe.add a b) ∧ toZ (Fe.add a b) = toZ a + toZ b := by
  obtain ⟨ht, hm⟩ := kf.add a b ha hb
  refine ⟨kf.tight_inv _ ht, ?_⟩
  rw [toZ_of_modEq hm]; unfold toZ; push_cast; rfl

theorem sub_z (kf : KernelFacts) (a b : Fe) (ha : Fe.Inv a) (hb : Fe.Inv b) :
    Fe.Inv (Fe.sub a b) ∧ toZ (Fe.sub a b) = toZ a - toZ b := by
  obtain ⟨ht, hm⟩ := kf.sub a b ha hb
  refine ⟨kf.tight_inv _ ht, ?_⟩
  have h : ((Fe.val (Fe.sub a b) + Fe.val b : ℕ) : F) = ((Fe.val a : ℕ) : F) :=
    (ZMod.natCast_eq_natCast_iff _ _ _).mpr hm
  rw [Nat.cast_add] at h
  unfold toZ
  exact eq_sub_of_add_eq h

theorem neg_z (kf : KernelFacts) (a : Fe) (ha : Fe.Inv a) :
    Fe.Inv (Fe.neg a) ∧ toZ (Fe.neg a) = - toZ a := by
  obtain ⟨ht, hm⟩ := kf.neg a ha
  refine ⟨kf.tight_inv _ ht, ?_⟩
  have h : ((Fe.val (Fe.neg a) + Fe.val a : ℕ) : F) = ((0 : ℕ) : F) :=
    (ZMod.natCast_eq_natCast_iff _ _ _).mpr hm
  rw [Nat.cast_add, Nat.cast_zero] at h
  unfold toZ
  exact eq_neg_of_add_eq_zero_left h

theorem mul_z (kf : KernelFacts) (a b : Fe) (ha : Fe.Inv a) (hb : Fe.Inv b) :
    Fe.Inv (Fe.mul a b) ∧ toZ (Fe.mul a b) = toZ a * toZ b := by
  obtain ⟨ht, hm⟩ := kf.mul a b ha hb
  refine ⟨kf.tight_inv _ ht, ?_⟩
  rw [toZ_of_modEq hm]; unfold toZ; push_cast; rfl

theorem square_z (kf : KernelFacts) (a : Fe) (ha : Fe.Inv a) :
    Fe.Inv (Fe.square a) ∧ toZ (Fe.square a) = toZ a ^ 2 := by
  obtain ⟨ht, hm⟩ := kf.square a ha
  refine ⟨kf.tight_inv _ ht, ?_⟩
  rw [toZ_of_modEq hm, sq]; unfold toZ; push_cast; rfl

theorem mult32_z (kf : KernelFacts) (a : Fe) (y : ℕ) (ha : Fe.Inv a) (hy : y < 2^32) :
    Fe.Inv (Fe.mult32 a y) ∧ toZ (Fe.mult32 a y) = toZ a * (y : F) := by
  obtain ⟨ht, hm⟩ := kf.mult32 a y ha hy
  refine ⟨ht, ?_⟩
  rw [toZ_of_modEq hm]; unfold toZ; push_cast; rfl

/-! ### powers: `sqn` and the addition chains -/

/-- `e` satisfies the invariant and represents `z ^ k` -/
def Pw (z e : Fe) (k : ℕ) : Prop := Fe.Inv e ∧ toZ e = toZ z ^ k

theorem Pw.base {z : Fe} (h : Fe.Inv z) : Pw z z 1 := ⟨h, (pow_one _).symm⟩

theorem Pw.cast {z e : Fe} {j k : ℕ} (h : Pw z e j) (hjk : j = k) : Pw z e k := hjk ▸ h

theorem Pw.mul (kf : KernelFacts) {z a b : Fe} {j k : ℕ} (ha : Pw z a j) (hb : Pw z b k) :
    Pw z (Fe.mul a b) (j + k) := by
  obtain ⟨hi, hz⟩ := mul_z kf a b ha.1 hb.1
  exact ⟨hi, by rw [hz, ha.2, hb.2, pow_add]⟩

theorem Pw.sq (kf : KernelFacts) {z a : Fe} {j : ℕ} (ha : Pw z a j) :
    Pw z (Fe.square a) (2 * j) := by
  obtain ⟨hi, hz⟩ := square_z kf a ha.1
  exact ⟨hi, by rw [hz, ha.2, ← pow_mul, Nat.mul_comm]⟩

theorem sqn_z (kf : KernelFacts) (n : ℕ) (t : Fe) (ht : Fe.Inv t) :
    Fe.Inv (Fe.sqn n t) ∧ toZ (Fe.sqn n t) = toZ t ^ (2 ^ n) := by
  induction n generalizing t with
  | zero => exact ⟨ht, by simp [Fe.sqn]⟩
  | succ n ih =>
    obtain ⟨hi, hz⟩ := square_z kf t ht
    obtain ⟨hi', hz'⟩ := ih (Fe.square t) hi
    refine ⟨hi', ?_⟩
    show toZ (Fe.sqn n (Fe.square t)) = _
    rw [hz', hz, ← pow_mul, pow_succ, Nat.mul_comm]

theorem Pw.sqn (kf : KernelFacts) (n : ℕ) {z a : Fe} {j : ℕ} (ha : Pw z a j) :
    Pw z (Fe.sqn n a) (2 ^ n * j) := by
  obtain ⟨hi, hz⟩ := sqn_z kf n a ha.1
  exact ⟨hi, by rw [hz, ha.2, ← pow_mul, Nat.mul_comm]⟩

/-- the `Invert` addition chain computes `z ^ (p - 2)` -/
theorem invert_pw (kf : KernelFacts) (z : Fe) (hz : Fe.Inv z) :
    Pw z (Fe.invert z) (2 ^ 255 - 21) := by
  have h1 : Pw z z 1 := Pw.base hz
  have z2 := Pw.sq kf h1
  have t := Pw.sq kf z2
  have t := Pw.sq kf t
  have z9 := Pw.mul kf t h1
  have z11 := Pw.mul kf z9 z2
  have t := Pw.sq kf z11
  have z2_5_0 := Pw.mul kf t z9
  have t := Pw.sq kf z2_5_0
  have t := Pw.sqn kf 4 t
  have z2_10_0 := Pw.mul kf t z2_5_0
  have t := Pw.sq kf z2_10_0
  have t := Pw.sqn kf 9 t
  have z2_20_0 := Pw.mul kf t z2_10_0
  have t := Pw.sq kf z2_20_0
  have t := Pw.sqn kf 19 t
  have t := Pw.mul kf t z2_20_0
  have t := Pw.sq kf t
  have t := Pw.sqn kf 9 t
  have z2_50_0 := Pw.mul kf t z2_10_0
  have t := Pw.sq kf z2_50_0
  have t := Pw.sqn kf 49 t
  have z2_100_0 := Pw.mul kf t z2_50_0
  have t := Pw.sq kf z2_100_0
  have t := Pw.sqn kf 99 t
  have t := Pw.mul kf t z2_100_0
  have t := Pw.sq kf t
  have t := Pw.sqn kf 49 t
  have t := Pw.mul kf t z2_50_0
  have t := Pw.sq kf t
  have t := Pw.sq kf t
  have t := Pw.sq kf t
  have t := Pw.sq kf t
  have t := Pw.sq kf t
  have r := Pw.mul kf t z11
  exact Pw.cast r (by norm_num)

/-- the `Pow22523` addition chain computes `x ^ (2^252 - 3)` -/
theorem pow22523_pw (kf : KernelFacts) (x : Fe) (hx : Fe.Inv x) :
    Pw x (Fe.pow22523 x) (2 ^ 252 - 3) := by
  have h1 : Pw x x 1 := Pw.base hx
  have t0 := Pw.sq kf h1
  have t1 := Pw.sq kf t0
  have t1 := Pw.sq kf t1
  have t1 := Pw.mul kf h1 t1
  have t0 := Pw.mul kf t0 t1
  have t0 := Pw.sq kf t0
  have t0 := Pw.mul kf t1 t0
  have t1 := Pw.sq kf t0
  have t1 := Pw.sqn kf 4 t1
  have t0 := Pw.mul kf t1 t0
  have t1 := Pw.sq kf t0
  have t1 := Pw.sqn kf 9 t1
  have t1 := Pw.mul kf t1 t0
  have t2 := Pw.sq kf t1
  have t2 := Pw.sqn kf 19 t2
  have t1 := Pw.mul kf t2 t1
  have t1 := Pw.sq kf t1
  have t1 := Pw.sqn kf 9 t1
  have t0 := Pw.mul kf t1 t0
  have t1 := Pw.sq kf t0
  have t1 := Pw.sqn kf 49 t1
  have t1 := Pw.mul kf t1 t0
  have t2 := Pw.sq kf t1
  have t2 := Pw.sqn kf 99 t2
  have t1 := Pw.mul kf t2 t1
  have t1 := Pw.sq kf t1
  have t1 := Pw.sqn kf 49 t1
  have t0 := Pw.mul kf t1 t0
  have t0 := Pw.sq kf t0
  have t0 := Pw.sq kf t0
  have r := Pw.mul kf t0 h1
  exact Pw.cast r (by norm_num)

theorem P_sub_two : EdVerif.P - 2 = 2 ^ 255 - 21 := by decide +kernel

/-- Fermat inversion in `F` -/
theorem pow_P_sub_two (a : F) : a ^ (2 ^ 255 - 21) = a⁻¹ := by
  rw [← P_sub_two]
  by_cases ha : a = 0
  · subst ha
    rw [inv_zero]
    exact zero_pow (by rw [P_sub_two]; norm_num)
  · apply eq_inv_of_mul_eq_one_left
    rw [← pow_succ]
    have e : EdVerif.P - 2 + 1 = EdVerif.P - 1 := by decide +kernel
    rw [e]
    exact ZMod.pow_card_sub_one_eq_one ha

theorem invert_z (kf : KernelFacts) (a : Fe) (ha : Fe.Inv a) :
    Fe.Inv (Fe.invert a) ∧ toZ (Fe.invert a) = (toZ a)⁻¹ := by
  obtain ⟨hi, hz⟩ := invert_pw kf a ha
  exact ⟨hi, by rw [hz, pow_P_sub_two]⟩

theorem pow22523_z (kf : KernelFacts) (a : Fe) (ha : Fe.Inv a) :
    Fe.Inv (Fe.pow22523 a) ∧ toZ (Fe.pow22523 a) = toZ a ^ (2 ^ 252 - 3) :=
  pow22523_pw kf a ha

/-! ### `select`, `swap` -/

theorem select_z (kf : KernelFacts) (a b : Fe) (ha : Fe.Inv a) (hb : Fe.Inv b) :
    Fe.select a b 1 = a ∧ Fe.select a b 0 = b := kf.select a b (inv_u64 ha) (inv_u64 hb)

theorem swap_z (kf : KernelFacts) (a b : Fe) (ha : Fe.Inv a) (hb : Fe.Inv b) :
    Fe.swap a b 1 = (b, a) ∧ Fe.swap a b 0 = (a, b) := kf.swap a b (inv_u64 ha) (inv_u64 hb)

/-! ### `bytes`, `equal`, `isNegative`, `absolute` -/

theorem bytes_z (kf : KernelFacts) (a : Fe) (ha : Fe.Inv a) :
    Fe.bytes a = LEbytes (toZ a).val 32 := by
  rw [kf.bytes a ha, toZ_val]

theorem nat_xor_eq_zero {a b : ℕ} (h : a ^^^ b = 0) : a = b := by
  have e : a ^^^ (a ^^^ b) = b := by rw [← Nat.xor_assoc, Nat.xor_self, Nat.zero_xor]
  rw [h, Nat.xor_zero] at e
  exact e

theorem foldl_or_eq_zero (f : ℕ → ℕ) (l : List ℕ) (init : ℕ) :
    l.foldl (fun acc i => acc ||| f i) init = 0 ↔ init = 0 ∧ ∀ i ∈ l, f i = 0 := by
  induction l generalizing init with
  | nil => simp
  | cons x xs ih => simp [ih, Nat.or_eq_zero_iff, and_assoc]

/-- `subtle.ConstantTimeCompare` decides equality of equal-length byte strings -/
theorem ctCompare_eq (a b : Bytes) (h : a.size = b.size) :
    Fe.ctCompare a b = if a = b then 1 else 0 := by
  unfold Fe.ctCompare
  rw [if_neg (by simp [h])]
  show (if (List.foldl (fun acc i => acc ||| (a[i]! ^^^ b[i]!)) 0 (List.range a.size) == 0) = true
    then 1 else 0) = _
  by_cases hab : a = b
  · subst hab
    rw [if_pos rfl, if_pos]
    rw [beq_iff_eq, foldl_or_eq_zero (fun i => a[i]! ^^^ a[i]!)]
    exact ⟨rfl, fun i _ => Nat.xor_self _⟩
  · rw [if_neg hab, if_neg]
    rw [beq_iff_eq, foldl_or_eq_zero (fun i => a[i]! ^^^ b[i]!)]
    rintro ⟨-, hall⟩
    apply hab
    apply Array.ext h
    intro i hi1 hi2
    have := hall i (List.mem_range.mpr hi1)
    have := nat_xor_eq_zero this
    rw [getElem!_pos a i hi1, getElem!_pos b i hi2] at this
    exact this

theorem F_val_lt (x : F) : x.val < 256 ^ 32 := by
  have h1 : x.val < EdVerif.P := ZMod.val_lt x
  have h2 : EdVerif.P < 256 ^ 32 := by decide +kernel
  exact lt_trans h1 h2

theorem LEbytes_val_inj {x y : F} (h : LEbytes x.val 32 = LEbytes y.val 32) : x = y := by
  have := LEbytes_inj h
  rw [Nat.mod_eq_of_lt (F_val_lt x), Nat.mod_eq_of_lt (F_val_lt y)] at this
  exact ZMod.val_injective _ this

theorem equal_z (kf : KernelFacts) (a b : Fe) (ha : Fe.Inv a) (hb : Fe.Inv b) :
    Fe.equal a b = if toZ a = toZ b then 1 else 0 := by
  unfold Fe.equal
  rw [bytes_z kf a ha, bytes_z kf b hb, ctCompare_eq _ _ (by rw [LEbytes_size, LEbytes_size])]
  by_cases h : toZ a = toZ b
  · rw [if_pos h, if_pos (by rw [h])]
  · rw [if_neg h, if_neg]
    intro h'
    exact h (LEbytes_val_inj h').symm

theorem isNegative_z (kf : KernelFacts) (a : Fe) (ha : Fe.Inv a) :
    Fe.isNegative a = (toZ a).val % 2 := by
  unfold Fe.isNegative
  rw [bytes_z kf a ha, LEbytes_getElem! _ (by norm_num), Nat.and_one_is_mod, pow_zero,
    Nat.div_one, Nat.mod_mod_of_dvd _ (by norm_num)]

theorem absolute_z (kf : KernelFacts) (a : Fe) (ha : Fe.Inv a) :
    Fe.Inv (Fe.absolute a) ∧
      toZ (Fe.absolute a) = if (toZ a).val % 2 = 1 then - toZ a else toZ a := by
  unfold Fe.absolute
  have hneg := neg_z kf a ha
  have hsel := kf.select (Fe.neg a) a (inv_u64 hneg.1) (inv_u64 ha)
  rw [isNegative_z kf a ha]
  rcases Nat.mod_two_eq_zero_or_one (toZ a).val with h | h
  · rw [h, hsel.2, if_neg (by norm_num)]; exact ⟨ha, rfl⟩
  · rw [h, hsel.1, if_pos rfl]; exact hneg

/-! ### `setBytes`, `setWideBytes` -/

theorem setBytes_z (kf : KernelFacts) (x : Bytes) (hx : x.size = 32) (hb : IsBytes x) :
    ∃ e, Fe.setBytes x = some e ∧ Fe.Inv e ∧ toZ e = ((LE x % 2 ^ 255 : ℕ) : F) := by
  obtain ⟨e, he, h0, h1, h2, h3, h4, hv⟩ := kf.setBytes x hx hb
  exact ⟨e, he, inv_of_lt h0 h1 h2 h3 h4, by unfold toZ; rw [hv]⟩

theorem setWideBytes_z (kf : KernelFacts) (x : Bytes) (hx : x.size = 64) (hb : IsBytes x) :
    ∃ e, Fe.setWideBytes x = some e ∧ Fe.Inv e ∧ toZ e = ((LE x : ℕ) : F) := by
  obtain ⟨e, he, ht, hv⟩ := kf.setWideBytes x hx hb
  exact ⟨e, he, kf.tight_inv _ ht, toZ_of_modEq hv⟩

/-! ### the interface -/

theorem fieldFacts_of_kernelFacts (kf : KernelFacts) : FieldFacts where
  zero := zero_z kf
  one := one_z kf
  rz := rz_z
  sqrtM1 := sqrtM1_z
  add := add_z kf
  sub := sub_z kf
  neg := neg_z kf
  mul := mul_z kf
  square := square_z kf
  mult32 := mult32_z kf
  invert := invert_z kf
  pow22523 := pow22523_z kf
  select := select_z kf
  swap := swap_z kf
  bytes := bytes_z kf
  equal := equal_z kf
  isNegative := isNegative_z kf
  absolute := absolute_z kf
  setBytes := setBytes_z kf
  setBytes_len := kf.setBytes_len
  setWideBytes := setWideBytes_z kf
  setWideBytes_len := kf.setWideBytes_len

end EdVerif.Proofs
