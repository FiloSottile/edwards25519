import EdVerif.Prims
/-!
`a[i]!` after `set!`, `push`, `map`, `extract`, and extensionality through `[·]!`: the model reads and
writes arrays only with these. Core Lean only.
-/
namespace EdVerif.Arr
open EdVerif.Prims

universe u v
variable {α : Type u} {β : Type v} [Inhabited α] [Inhabited β]

theorem get_set! (a : Array α) (i j : Nat) (v : α) :
    (a.set! i v)[j]! = if i = j ∧ i < a.size then v else a[j]! := by
  simp only [Array.set!_eq_setIfInBounds, getElem!_def, Array.getElem?_setIfInBounds]
  by_cases h : i = j
  · subst h
    by_cases h2 : i < a.size
    · simp [h2]
    · simp [h2]
  · simp [h]

theorem get_set!_of_lt (a : Array α) (i j : Nat) (v : α) (hi : i < a.size) :
    (a.set! i v)[j]! = if j = i then v else a[j]! := by
  rw [get_set!]
  simp only [hi, and_true, eq_comm]

theorem get_beyond (a : Array α) (i : Nat) (hi : a.size ≤ i) : a[i]! = default := by
  rw [getElem!_def]
  simp [Array.getElem?_eq_none hi]

theorem ext! (a b : Array α) (hs : a.size = b.size) (h : ∀ j, j < a.size → a[j]! = b[j]!) : a = b := by
  apply Array.ext hs
  intro j h1 h2
  have := h j h1
  rwa [getElem!_pos a j h1, getElem!_pos b j h2] at this

theorem get_push_lt (t : Array α) (x : α) (j : Nat) (h : j < t.size) : (t.push x)[j]! = t[j]! := by
  rw [getElem!_pos (t.push x) j (by simp; omega), getElem!_pos t j h, Array.getElem_push_lt]

theorem get_push_eq (t : Array α) (x : α) : (t.push x)[t.size]! = x := by
  rw [getElem!_pos (t.push x) t.size (by simp), Array.getElem_push_eq]

theorem get_map (f : α → β) (a : Array α) (j : Nat) (h : j < a.size) : (a.map f)[j]! = f a[j]! := by
  rw [getElem!_pos (a.map f) j (by simpa using h), getElem!_pos a j h, Array.getElem_map]

/-- also past the end of `x`, where both sides are `default` -/
theorem get_extract (x : Array α) (s e i : Nat) (h : s + i < e) : (x.extract s e)[i]! = x[s + i]! := by
  rw [getElem!_def, getElem!_def, Array.getElem?_extract]
  by_cases h1 : s + i < x.size
  · have : i < min e x.size - s := by omega
    simp [this]
  · have : ¬ i < min e x.size - s := by omega
    simp [this]
    rw [Array.getElem?_eq_none (by omega)]

theorem slice_size (x : Bytes) (a b : Nat) : (Bin.slice x a b).size = min b x.size - a :=
  Array.size_extract

theorem get_slice (x : Bytes) (a b i : Nat) (h : a + i < b) :
    (Bin.slice x a b)[i]! = x[a + i]! :=
  get_extract x a b i h

end EdVerif.Arr
