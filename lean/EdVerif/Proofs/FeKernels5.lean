import EdVerif.Proofs.FeKernels4
import Mathlib.Tactic.IntervalCases
/-!
C09/C10 kernel layer, part 5: `Element.bytes` (the `|=` loop joining the five 51-bit limbs at bit
offsets `51 i` into 32 little-endian bytes) returns the bytes of the canonical representative.
-/
namespace EdVerif.Proofs
open EdVerif EdVerif.Prims EdVerif.Gen EdVerif.Impl

/-- `orBytesAt` with the running index of `zipIdx` exposed -/
def orFrom (base : Nat) (out : Bytes) (buf : List Nat) (n : Nat) : Bytes :=
  (buf.zipIdx n).foldl (fun out (bb, j) =>
    let off := base + j
    if off ≥ out.size then out else out.set! off (out[off]! ||| bb)) out

theorem orBytesAt_eq (out : Bytes) (base : Nat) (buf : List Nat) :
    Fe.orBytesAt out base buf = orFrom base out buf 0 := rfl

theorem orFrom_nil (base : Nat) (out : Bytes) (n : Nat) : orFrom base out [] n = out := rfl

theorem orFrom_cons (base : Nat) (out : Bytes) (b : Nat) (bs : List Nat) (n : Nat) :
    orFrom base out (b :: bs) n =
      orFrom base (if base + n ≥ out.size then out else out.set! (base + n) (out[base + n]! ||| b)) bs (n + 1) := by
  simp only [orFrom, List.zipIdx_cons, List.foldl_cons]

theorem orFrom_spec (base : Nat) : ∀ (buf : List Nat) (n : Nat) (out : Bytes),
    (orFrom base out buf n).size = out.size ∧
    ∀ i, (orFrom base out buf n)[i]! =
      if base + n ≤ i ∧ i < base + n + buf.length ∧ i < out.size
      then out[i]! ||| buf[i - (base + n)]! else out[i]! := by
  intro buf
  induction buf with
  | nil =>
    intro n out
    refine ⟨rfl, fun i => ?_⟩
    rw [orFrom_nil]
    have : ¬ (base + n ≤ i ∧ i < base + n + ([] : List Nat).length ∧ i < out.size) := by
      simp only [List.length_nil]; omega
    rw [if_neg this]
  | cons b bs ih =>
    intro n out
    rw [orFrom_cons]
    obtain ⟨hs, hg⟩ := ih (n + 1)
      (if base + n ≥ out.size then out else out.set! (base + n) (out[base + n]! ||| b))
    have hsz : (if base + n ≥ out.size then out else out.set! (base + n) (out[base + n]! ||| b)).size
        = out.size := by
      split
      · rfl
      · rw [Array.size_set!]
    refine ⟨hs.trans hsz, fun i => ?_⟩
    rw [hg i, hsz]
    by_cases hoff : base + n ≥ out.size
    · rw [if_pos hoff]
      have h1 : ¬ (base + (n + 1) ≤ i ∧ i < base + (n + 1) + bs.length ∧ i < out.size) := by omega
      have h2 : ¬ (base + n ≤ i ∧ i < base + n + (b :: bs).length ∧ i < out.size) := by omega
      rw [if_neg h1, if_neg h2]
    · rw [if_neg hoff, Arr.get_set!]
      simp only [List.length_cons]
      by_cases hi : base + n = i
      · subst hi
        have h1 : ¬ (base + (n + 1) ≤ base + n ∧ base + n < base + (n + 1) + bs.length ∧ base + n < out.size) := by omega
        have h2 : (base + n ≤ base + n ∧ base + n < base + n + (bs.length + 1) ∧ base + n < out.size) := by omega
        rw [if_neg h1, if_pos h2, if_pos ⟨rfl, by omega⟩, Nat.sub_self]
        rfl
      · have h0 : ¬ (base + n = i ∧ base + n < out.size) := fun h => hi h.1
        rw [if_neg h0]
        by_cases hw : base + (n + 1) ≤ i ∧ i < base + (n + 1) + bs.length ∧ i < out.size
        · have h2 : (base + n ≤ i ∧ i < base + n + (bs.length + 1) ∧ i < out.size) := by omega
          rw [if_pos hw, if_pos h2]
          have e : i - (base + n) = (i - (base + (n + 1))) + 1 := by omega
          rw [e]
          rfl
        · have h2 : ¬ (base + n ≤ i ∧ i < base + n + (bs.length + 1) ∧ i < out.size) := by omega
          rw [if_neg hw, if_neg h2]


theorem putLE64_len (w : Nat) : (Fe.putLE64 w).length = 8 := by
  simp [Fe.putLE64]

theorem putLE64_get (w j : Nat) (hj : j < 8) : (Fe.putLE64 w)[j]! = w / 256^j % 256 := by
  have e : (256 : Nat)^j = 2^(8*j) := by
    rw [show (256 : Nat) = 2^8 by norm_num, ← pow_mul]
  rw [e, ← Nat.shiftRight_eq_div_pow]
  interval_cases j <;> rfl

/-- bits `u` below `sh`, `t` shifted up by `sh`: bytewise the OR is the byte of the sum -/
theorem or_byte (u t sh j : Nat) (hu : u < 2^sh) :
    (u / 256^j % 256) ||| ((t * 2^sh) / 256^j % 256) = (u + t * 2^sh) / 256^j % 256 := by
  have e : (256 : Nat)^j = 2^(8*j) := by
    rw [show (256 : Nat) = 2^8 by norm_num, ← pow_mul]
  have e2 : (256 : Nat) = 2^8 := by norm_num
  have h : u + t * 2^sh = t * 2^sh ||| u := by
    rw [Nat.add_comm, ← Nat.shiftLeft_eq, Nat.shiftLeft_add_eq_or_of_lt hu]
  rw [h, e, e2, Nat.or_div_two_pow, Nat.or_mod_two_pow, Nat.or_comm]


/-- bytes above the window are zero -/
theorem byte_high (V t base sh i : Nat) (hV : V < 2^(8*base + sh)) (ht : t < 2^51) (hsh : sh < 8)
    (hi : base + 8 ≤ i) : (V + t * 2^(8*base+sh)) / 256^i % 256 = 0 ∧ V / 256^i % 256 = 0 := by
  have h1 : V + t * 2^(8*base+sh) < 2^51 * 2^(8*base+sh) := by
    have : t * 2^(8*base+sh) ≤ (2^51 - 1) * 2^(8*base+sh) := Nat.mul_le_mul_right _ (by omega)
    generalize 2^(8*base+sh) = X at *
    omega
  have h2 : 2^51 * 2^(8*base+sh) ≤ 256^i := by
    rw [pow256, ← pow_add]
    exact Nat.pow_le_pow_right (by norm_num) (by omega)
  have h3 : V < 256^i := by
    have : V ≤ V + t * 2^(8*base+sh) := Nat.le_add_right _ _
    omega
  rw [Nat.div_eq_of_lt (by omega), Nat.div_eq_of_lt h3]
  exact ⟨rfl, rfl⟩

/-- bytes inside the window -/
theorem byte_win (V t base sh j : Nat) (hV : V < 2^(8*base + sh)) :
    (V / 256^(base + j) % 256) ||| ((t * 2^sh) / 256^j % 256) =
      (V + t * 2^(8*base+sh)) / 256^(base + j) % 256 := by
  have hu : V / 256^base < 2^sh := by
    apply Nat.div_lt_of_lt_mul
    rw [pow256, ← pow_add]; exact hV
  have e1 : V / 256^(base + j) = V / 256^base / 256^j := by
    rw [pow_add, Nat.div_div_eq_div_mul]
  have e2 : (V + t * 2^(8*base+sh)) / 256^(base + j) = (V / 256^base + t * 2^sh) / 256^j := by
    rw [pow_add 256, ← Nat.div_div_eq_div_mul, pow_add 2, ← pow256]
    have : t * (256^base * 2^sh) = 256^base * (t * 2^sh) := by ring
    rw [this, Nat.add_mul_div_left _ _ (Nat.pow_pos (by norm_num))]
  rw [e1, e2, or_byte _ _ _ _ hu]

theorem step_bytes (out : Bytes) (V t base sh : Nat) (hsz : out.size = 32)
    (hout : ∀ i, i < 32 → out[i]! = V / 256^i % 256) (hV : V < 2^(8*base + sh))
    (ht : t < 2^51) (hsh : sh < 8) :
    (Fe.orBytesAt out base (Fe.putLE64 (U.shl 64 t sh))).size = 32 ∧
    ∀ i, i < 32 → (Fe.orBytesAt out base (Fe.putLE64 (U.shl 64 t sh)))[i]! =
      (V + t * 2^(8*base+sh)) / 256^i % 256 := by
  have hw : U.shl 64 t sh = t * 2^sh := by
    simp only [U.shl, Nat.shiftLeft_eq]
    apply Nat.mod_eq_of_lt
    have h1 : 2^sh ≤ 2^7 := Nat.pow_le_pow_right (by norm_num) (by omega)
    have h2 : t * 2^sh ≤ t * 2^7 := Nat.mul_le_mul_left _ h1
    omega
  rw [hw, orBytesAt_eq]
  obtain ⟨hs, hg⟩ := orFrom_spec base (Fe.putLE64 (t * 2^sh)) 0 out
  refine ⟨hs.trans hsz, fun i hi => ?_⟩
  rw [hg i, putLE64_len, hsz, Nat.add_zero]
  by_cases hwin : base ≤ i ∧ i < base + 8 ∧ i < 32
  · rw [if_pos hwin]
    obtain ⟨j, rfl⟩ : ∃ j, i = base + j := ⟨i - base, by omega⟩
    rw [hout _ hi, Nat.add_sub_cancel_left, putLE64_get _ j (by omega)]
    exact byte_win V t base sh j hV
  · rw [if_neg hwin, hout i hi]
    by_cases hlo : i < base
    · have e : t * 2^(8*base+sh) = 256^base * (t * 2^sh) := by
        rw [pow_add, ← pow256]; ring
      rw [e, byte_low _ _ _ _ hlo]
    · obtain ⟨h1, h2⟩ := byte_high V t base sh i hV ht hsh (by omega)
      rw [h1, h2]


theorem zeros_get (i : Nat) (hi : i < 32) : (Bin.zeros 32)[i]! = 0 := by
  have h : i < (Array.replicate 32 0 : Array Nat).size := by rw [Array.size_replicate]; exact hi
  show (Array.replicate 32 0 : Array Nat)[i]! = 0
  rw [getElem!_pos (Array.replicate 32 0 : Array Nat) i h, Array.getElem_replicate]

theorem bytes_spec' {a : Prims.Fe} (ha : U64 a) :
    (Fe.bytes a).size = 32 ∧ ∀ i, i < 32 → (Fe.bytes a)[i]! = (val a % P) / 256^i % 256 := by
  obtain ⟨hl, hv⟩ := reduce_spec' ha
  rw [← hv]
  simp only [Fe.bytes, List.zipIdx_cons, List.zipIdx_nil, List.foldl_cons, List.foldl_nil]
  generalize Fe.reduce a = t at *
  obtain ⟨t0, t1, t2, t3, t4⟩ := t
  obtain ⟨h0, h1, h2, h3, h4⟩ := hl
  simp only at h0 h1 h2 h3 h4
  simp only [Nat.reduceAdd, Nat.reduceMul, Nat.reduceDiv, Nat.reduceMod]
  have z : ∀ i, i < 32 → (Bin.zeros 32)[i]! = 0 / 256^i % 256 := fun i hi => by
    rw [zeros_get i hi, Nat.zero_div]
  have zs : (Bin.zeros 32).size = 32 := Array.size_replicate
  obtain ⟨s0, g0⟩ := step_bytes (Bin.zeros 32) 0 t0 0 0 zs z (by norm_num) h0 (by norm_num)
  have e0 : 0 + t0 * 2^(8*0+0) = t0 := by norm_num
  rw [e0] at g0
  obtain ⟨s1, g1⟩ := step_bytes _ t0 t1 6 3 s0 g0 (by norm_num; exact h0) h1 (by norm_num)
  obtain ⟨s2, g2⟩ := step_bytes _ _ t2 12 6 s1 g1 (by norm_num; omega) h2 (by norm_num)
  obtain ⟨s3, g3⟩ := step_bytes _ _ t3 19 1 s2 g2 (by norm_num; omega) h3 (by norm_num)
  obtain ⟨s4, g4⟩ := step_bytes _ _ t4 25 4 s3 g3 (by norm_num; omega) h4 (by norm_num)
  refine ⟨s4, fun i hi => ?_⟩
  rw [g4 i hi]
  simp only [Fe.val]

theorem bytes_spec {a : Prims.Fe} (ha : Inv a) :
    (Fe.bytes a).size = 32 ∧ ∀ i, i < 32 → (Fe.bytes a)[i]! = (val a % P) / 256^i % 256 :=
  bytes_spec' (inv_U64 ha)


/-! ### consequences: round trip, dependence on the residue only -/

/-- the little-endian value of `bytes a` is the canonical representative -/
theorem LE_bytes {a : Prims.Fe} (ha : U64 a) : LE (Fe.bytes a) = val a % P := by
  obtain ⟨hs, hg⟩ := bytes_spec' ha
  rw [LE_eq_leFrom, hs, leFrom_digits _ _ 32 hg]
  apply Nat.mod_eq_of_lt
  have h : val a % P < P := Nat.mod_lt _ P_pos
  simp only [P, EdVerif.P] at *
  omega

theorem bytes_lt256 {a : Prims.Fe} (ha : U64 a) (i : Nat) (hi : i < 32) : (Fe.bytes a)[i]! < 256 := by
  rw [(bytes_spec' ha).2 i hi]
  exact Nat.mod_lt _ (by norm_num)

/-- `bytes` factors through `reduce` -/
theorem bytes_congr {a b : Prims.Fe} (ha : U64 a) (hb : U64 b) (h : val a ≡ val b [MOD P]) :
    Fe.bytes a = Fe.bytes b := by
  have e : Fe.reduce a = Fe.reduce b := reduce_congr ha hb h
  simp only [Fe.bytes, e]

/-- decoding the encoding gives the reduced element -/
theorem setBytes_bytes {a : Prims.Fe} (ha : U64 a) : Fe.setBytes (Fe.bytes a) = some (Fe.reduce a) := by
  obtain ⟨hs, _⟩ := bytes_spec' ha
  obtain ⟨e, he, hl, hv⟩ := setBytes_spec (Fe.bytes a) hs (bytes_lt256 ha)
  obtain ⟨rl, rv⟩ := reduce_spec' ha
  rw [he]
  refine congrArg some (val_inj_lt51 hl rl ?_)
  rw [hv, rv, LE_bytes ha]
  apply Nat.mod_eq_of_lt
  have h : val a % P < P := Nat.mod_lt _ P_pos
  simp only [P, EdVerif.P] at *
  omega

/-- `IsNegative` is the parity of the canonical representative -/
theorem isNegative_spec {a : Prims.Fe} (ha : U64 a) : Fe.isNegative a = val a % P % 2 := by
  simp only [Fe.isNegative]
  rw [(bytes_spec' ha).2 0 (by norm_num), pow_zero, Nat.div_one]
  have e : (1 : Nat) = 2^1 - 1 := by norm_num
  rw [e, Nat.and_two_pow_sub_one_eq_mod]
  omega

end EdVerif.Proofs
