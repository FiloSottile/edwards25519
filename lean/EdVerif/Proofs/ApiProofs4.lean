import EdVerif.Proofs.ApiProofs3
import EdVerif.Proofs.ScalarZ
import EdVerif.Proofs.ScalarMultTop
import EdVerif.Proofs.Closing
/-!
API state machine, part 4: the interfaces `ScalarFacts` and `ScalarMultFacts` assumed by parts 1–3
are discharged from the scalar layer (`Proofs/ScalarZ.lean`) and the scalar-multiplication
refinement (`Proofs/ScalarMultTop.lean`), and `FieldFacts` from `Proofs/Closing.lean`; this gives
hypothesis-free forms of the reachability theorems.
-/
namespace EdVerif.Proofs
open EdVerif.Impl EdVerif.Prims EdVerif.Spec

/-- the scalar layer provides the interface -/
theorem scalarFacts : ScalarFacts where
  rz := ScalarFacts_rz
  add := ScalarFacts_add
  sub := ScalarFacts_sub
  neg := ScalarFacts_neg
  mul := ScalarFacts_mul
  multiplyAdd := ScalarFacts_multiplyAdd
  invert := ScalarFacts_invert
  bytes := fun x h => ScalarFacts_bytes x h
  setUniformBytes_err := ScalarFacts_setUniformBytes_err
  setUniformBytes_ok := ScalarFacts_setUniformBytes_ok
  setCanonicalBytes := ScalarFacts_setCanonicalBytes
  setBytesWithClamping := ScalarFacts_setBytesWithClamping

theorem L_lt_255 : EdVerif.L < 2 ^ 255 := by decide +kernel

/-- a reduced scalar has a canonical encoding `< l < 2^255` -/
theorem scalar_bytes_canon {s : W4} (hs : Scalar.Inv s) :
    Scalar.bytes s = LEbytes (Scalar.toZ s).val 32 ∧ (Scalar.toZ s).val < 2 ^ 255 :=
  ⟨C08_bytes s hs, lt_trans (ZMod.val_lt _) L_lt_255⟩

theorem array_getElem!_mem {α} [Inhabited α] (a : Array α) {i : Nat} (h : i < a.size) :
    a[i]! ∈ a := by
  rw [getElem!_pos a i h]; exact Array.getElem_mem h

/-- the values of reduced scalars are their canonical encodings, entry by entry -/
theorem scalars_bytes_canon {ks : Array W4} (hk : ∀ k ∈ ks, Scalar.Inv k) (i : Nat) (hi : i < ks.size) :
    Scalar.bytes ks[i]! = LEbytes (ks.map fun s => (Scalar.toZ s).val)[i]! 32 ∧
      (ks.map fun s => (Scalar.toZ s).val)[i]! < 2 ^ 255 := by
  rw [Arr.get_map _ _ _ hi]
  exact scalar_bytes_canon (hk _ (array_getElem!_mem ks hi))

/-- the scalar-multiplication refinement provides the interface -/
theorem scalarMultFacts_of (ff : FieldFacts) (sf : SqrtRatioDecodeFacts) : ScalarMultFacts where
  scalarMult := fun k q hk hq => by
    obtain ⟨hb, hlt⟩ := scalar_bytes_canon hk
    obtain ⟨r, hr, hv, _⟩ := scalarMult_spec ff sf hb hlt hq
    exact ⟨r, hr, hv⟩
  scalarBaseMult := fun k hk => by
    obtain ⟨hb, hlt⟩ := scalar_bytes_canon hk
    obtain ⟨r, hr, hv, _⟩ := scalarBaseMult_spec ff sf hb hlt
    exact ⟨r, hr, hv⟩
  varTimeDoubleScalarBaseMult := fun a A b ha hA hb => by
    obtain ⟨hba, hlta⟩ := scalar_bytes_canon ha
    obtain ⟨hbb, hltb⟩ := scalar_bytes_canon hb
    obtain ⟨r, hr, hv, _⟩ := varTimeDouble_spec ff sf hba hlta hbb hltb hA
    exact ⟨r, hr, hv⟩
  multiScalarMult := fun ks qs hs hk hq => by
    obtain ⟨r, hr, hv, _⟩ := multiScalarMult_spec ff sf ks qs
      (ks.map fun s => (Scalar.toZ s).val) hs
      (fun i hi => scalars_bytes_canon hk i (by omega))
      (fun i hi => hq _ (array_getElem!_mem qs hi))
    exact ⟨r, hr, hv⟩
  varTimeMultiScalarMult := fun ks qs hs hk hq => by
    obtain ⟨r, hr, hv, _⟩ := varTimeMultiScalarMult_spec ff ks qs
      (ks.map fun s => (Scalar.toZ s).val) hs
      (fun i hi => scalars_bytes_canon hk i (by omega))
      (fun i hi => hq _ (array_getElem!_mem qs hi))
    exact ⟨r, hr, hv⟩

theorem scalarMultFacts : ScalarMultFacts := scalarMultFacts_of fieldFacts sqrtFacts

/-! ### hypothesis-free forms -/

theorem step_inv_closed {σ : Store} (h : StoreInv σ) {op : Op} (hw : op.WellFormed) :
    StoreInv (Api.step σ op).1 := step_inv fieldFacts scalarFacts scalarMultFacts h hw

theorem run_inv_closed {ops : List Op} (hw : ∀ o ∈ ops, o.WellFormed) : StoreInv (Api.run ops) :=
  run_inv fieldFacts scalarFacts scalarMultFacts hw

theorem C12_closed {ops : List Op} (hw : ∀ o ∈ ops, o.WellFormed) (n : String) (P : P3)
    (hP : (Api.run ops).p[n]? = some P) : P = Point.zeroValue ∨ P.Valid :=
  C12 fieldFacts scalarFacts scalarMultFacts hw n P hP

theorem C09_reachable_closed {ops : List Op} (hw : ∀ o ∈ ops, o.WellFormed) (n : String) (e : Fe)
    (he : (Api.run ops).e[n]? = some e) : Fe.Inv e :=
  C09_reachable fieldFacts scalarFacts scalarMultFacts hw n e he

theorem C15_panic_only_misuse_closed {σ : Store} (h : StoreInv σ) {op : Op} {c : String}
    (hp : (Api.step σ op).2.kind = .panic c) :
    (c = "length" ∧ op.LengthMismatch) ∨ (c = "uninit" ∧ UninitInput σ op) :=
  C15_panic_only_misuse scalarFacts scalarMultFacts h hp

end EdVerif.Proofs
