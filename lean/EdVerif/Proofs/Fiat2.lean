import Mathlib.Tactic.LinearCombination
import Mathlib.Tactic.Zify
import Mathlib.Data.Nat.ModEq
import Mathlib.Data.Nat.Prime.Defs
import EdVerif.Proofs.Fiat1
/-!
C07 kernel layer, part 2: the Montgomery kernels `fiatScalarMul`, `fiatScalarToMontgomery`,
`fiatScalarFromMontgomery`.

Each generated kernel is tied by a kernel-checked `rfl` to a composition of word-iteration steps
(`mulStep0/mulStep`, `tmStep0/tmStep`, `fmStep0/fmStep1/fmStep`) built from shared blocks
(`rowF` product row, `qF`/`qrowF` the `q·l` row, `acc4/acc5` accumulate, `red4/red5` add-and-shift).
Every step satisfies `T'·2^64 = T + aᵢ·B + q·l`; four steps and the conditional subtraction give the
contracts.
-/
namespace EdVerif.Proofs
open EdVerif EdVerif.Prims EdVerif.Gen EdVerif.Impl
open EdVerif.Impl.Scalar (eval Inv)
set_option maxRecDepth 8000

namespace Mont

theorem montCancel (x q l : Nat) (hq : q = (x * 15183074304973897243) % 2^64) (hl : l = (q * 6346243789798364141) % 2^64) :
    (x + l) % 2^64 = 0 := by
  have h : (1 + 15183074304973897243 * 6346243789798364141) % 2^64 = 0 := by decide
  subst hq hl
  have : (x + (x * 15183074304973897243 % 2^64) * 6346243789798364141 % 2^64) % 2^64 = (x * (1 + 15183074304973897243 * 6346243789798364141)) % 2^64 := by
    rw [Nat.add_mod, Nat.mod_mod, ← Nat.add_mod, Nat.add_mod, Nat.mul_mod, Nat.mod_mod, ← Nat.mul_mod, ← Nat.add_mod]
    congr 1; ring
  rw [this, Nat.mul_mod, h]; simp

end Mont

/-- `a × b` product row: five words -/
def rowF (a : Nat) (b : W4) : Scalar.W5 :=
  let p3 := Bits.Mul64 a b.w3
  let p2 := Bits.Mul64 a b.w2
  let p1 := Bits.Mul64 a b.w1
  let p0 := Bits.Mul64 a b.w0
  let a1 := Bits.Add64 p0.1 p1.2 0
  let a2 := Bits.Add64 p1.1 p2.2 a1.2
  let a3 := Bits.Add64 p2.1 p3.2 a2.2
  ⟨p0.2, a1.1, a2.1, a3.1, U.add 64 a3.2 p3.1⟩

/-- the Montgomery quotient digit `q = x · (−l⁻¹) mod 2^64` -/
def qF (x : Nat) : Nat := (Bits.Mul64 x 15183074304973897243).2

/-- `q × l` row: five words -/
def qrowF (q : Nat) : Scalar.W5 :=
  let p3 := Bits.Mul64 q 1152921504606846976
  let p1 := Bits.Mul64 q 1503914060200516822
  let p0 := Bits.Mul64 q 6346243789798364141
  let a1 := Bits.Add64 p0.1 p1.2 0
  ⟨p0.2, a1.1, U.add 64 a1.2 p1.1, p3.2, p3.1⟩

/-- 5-word accumulate: sum words and carry out -/
def acc5 (c r : Scalar.W5) : Scalar.W5 × Nat :=
  let a0 := Bits.Add64 c.v0 r.v0 0
  let a1 := Bits.Add64 c.v1 r.v1 a0.2
  let a2 := Bits.Add64 c.v2 r.v2 a1.2
  let a3 := Bits.Add64 c.v3 r.v3 a2.2
  let a4 := Bits.Add64 c.v4 r.v4 a3.2
  (⟨a0.1, a1.1, a2.1, a3.1, a4.1⟩, a4.2)

/-- 4-word accumulate (the fifth word of `r` is not added here) -/
def acc4 (c : W4) (r : Scalar.W5) : W4 × Nat :=
  let a0 := Bits.Add64 c.w0 r.v0 0
  let a1 := Bits.Add64 c.w1 r.v1 a0.2
  let a2 := Bits.Add64 c.w2 r.v2 a1.2
  let a3 := Bits.Add64 c.w3 r.v3 a2.2
  (⟨a0.1, a1.1, a2.1, a3.1⟩, a3.2)

/-- add the `q·l` row and shift one word down (5 words; `v4` is the carry out) -/
def red5 (s m : Scalar.W5) : Scalar.W5 :=
  let c0 := (Bits.Add64 s.v0 m.v0 0).2
  let a1 := Bits.Add64 s.v1 m.v1 c0
  let a2 := Bits.Add64 s.v2 m.v2 a1.2
  let a3 := Bits.Add64 s.v3 m.v3 a2.2
  let a4 := Bits.Add64 s.v4 m.v4 a3.2
  ⟨a1.1, a2.1, a3.1, a4.1, a4.2⟩

/-- add the low four words of the `q·l` row and shift one word down (`w3` is the carry out) -/
def red4 (s : W4) (m : Scalar.W5) : W4 :=
  let c0 := (Bits.Add64 s.w0 m.v0 0).2
  let a1 := Bits.Add64 s.w1 m.v1 c0
  let a2 := Bits.Add64 s.w2 m.v2 a1.2
  let a3 := Bits.Add64 s.w3 m.v3 a2.2
  ⟨a1.1, a2.1, a3.1, a3.2⟩

theorem mul64_spec (x y : Nat) (hx : x < 2^64) (hy : y < 2^64) :
    (Bits.Mul64 x y).1 * 2^64 + (Bits.Mul64 x y).2 = x * y ∧ (Bits.Mul64 x y).1 ≤ 2^64 - 2 ∧
      (Bits.Mul64 x y).2 < 2^64 := by
  have h : x * y ≤ (2^64 - 1) * (2^64 - 1) := Nat.mul_le_mul (by omega) (by omega)
  simp only [Bits.Mul64]
  generalize x * y = p at h ⊢
  omega

theorem rowF_spec (a : Nat) (b : W4) (ha : a < 2^64) (hb : Scalar.Words b) :
    Scalar.Words5 (rowF a b) ∧ Scalar.eval5 (rowF a b) = a * eval b := by
  obtain ⟨b0, b1, b2, b3⟩ := b
  obtain ⟨h0, h1, h2, h3⟩ := hb
  simp only at h0 h1 h2 h3
  obtain ⟨m0, u0, v0⟩ := mul64_spec a b0 ha h0
  obtain ⟨m1, u1, v1⟩ := mul64_spec a b1 ha h1
  obtain ⟨m2, u2, v2⟩ := mul64_spec a b2 ha h2
  obtain ⟨m3, u3, v3⟩ := mul64_spec a b3 ha h3
  obtain ⟨e1, l1, k1⟩ := add64_spec (Bits.Mul64 a b0).1 (Bits.Mul64 a b1).2 0 (by omega) v1 (by norm_num)
  obtain ⟨e2, l2, k2⟩ := add64_spec (Bits.Mul64 a b1).1 (Bits.Mul64 a b2).2 _ (by omega) v2 k1
  obtain ⟨e3, l3, k3⟩ := add64_spec (Bits.Mul64 a b2).1 (Bits.Mul64 a b3).2 _ (by omega) v3 k2
  have hd : a * (b0 + b1 * 2^64 + b2 * 2^128 + b3 * 2^192) =
      a * b0 + a * b1 * 2^64 + a * b2 * 2^128 + a * b3 * 2^192 := by ring
  simp only [rowF, Scalar.Words5, Scalar.eval5, Scalar.eval, U.add]
  rw [hd]
  clear hd h0 h1 h2 h3 ha
  generalize Bits.Add64 (Bits.Mul64 a b2).1 _ _ = a3 at *
  generalize Bits.Add64 (Bits.Mul64 a b1).1 _ _ = a2 at *
  generalize Bits.Add64 (Bits.Mul64 a b0).1 _ _ = a1 at *
  generalize Bits.Mul64 a b0 = p0 at *
  generalize Bits.Mul64 a b1 = p1 at *
  generalize Bits.Mul64 a b2 = p2 at *
  generalize Bits.Mul64 a b3 = p3 at *
  generalize a * b0 = P0 at *
  generalize a * b1 = P1 at *
  generalize a * b2 = P2 at *
  generalize a * b3 = P3 at *
  refine ⟨⟨v0, l1, l2, l3, by omega⟩, ?_⟩
  omega

theorem Scalar.L_lit : L = 7237005577332262213973186563042994240857116359379907606001950938285454250989 := by
  decide

theorem qF_lt (x : Nat) : qF x < 2^64 := Nat.mod_lt _ (by norm_num)

/-- the `q × l` row (`l = m0 + m1·2^64 + m3·2^192`): its value, and that its third and fifth words are small -/
theorem qrowF_facts (q : Nat) (hq : q < 2^64) :
    Scalar.Words5 (qrowF q) ∧ (qrowF q).v4 < 2^60 ∧ (qrowF q).v2 ≤ 1503914060200516822 ∧
      Scalar.eval5 (qrowF q) = q * L := by
  obtain ⟨m3, u3, v3⟩ := mul64_spec q 1152921504606846976 hq (by norm_num)
  obtain ⟨m1, u1, v1⟩ := mul64_spec q 1503914060200516822 hq (by norm_num)
  obtain ⟨m0, u0, v0⟩ := mul64_spec q 6346243789798364141 hq (by norm_num)
  obtain ⟨e1, l1, k1⟩ := add64_spec (Bits.Mul64 q 6346243789798364141).1 (Bits.Mul64 q 1503914060200516822).2 0
    (by omega) v1 (by norm_num)
  rw [Scalar.L_lit]
  simp only [qrowF, Scalar.Words5, Scalar.eval5, U.add]
  generalize Bits.Add64 _ _ 0 = a1 at *
  generalize Bits.Mul64 q 6346243789798364141 = p0 at *
  generalize Bits.Mul64 q 1503914060200516822 = p1 at *
  generalize Bits.Mul64 q 1152921504606846976 = p3 at *
  have hp1 : p1.1 ≤ 1503914060200516821 := by omega
  -- `omega` is incomplete here when the product equations are in the context
  have hv2 : (a1.2 + p1.1) % 2^64 ≤ 1503914060200516822 := by clear m0 m1 m3 e1; omega
  refine ⟨⟨v0, l1, by omega, v3, by omega⟩, by omega, hv2, by omega⟩

theorem qrowF_spec (q : Nat) (hq : q < 2^64) :
    Scalar.Words5 (qrowF q) ∧ (qrowF q).v4 < 2^60 ∧ Scalar.eval5 (qrowF q) = q * L :=
  ⟨(qrowF_facts q hq).1, (qrowF_facts q hq).2.1, (qrowF_facts q hq).2.2.2⟩

theorem qrowF_v2 (q : Nat) (hq : q < 2^64) : (qrowF q).v2 ≤ 1503914060200516822 :=
  (qrowF_facts q hq).2.2.1

/-- the low word cancels -/
theorem qcancel (x : Nat) : (x + (qrowF (qF x)).v0) % 2^64 = 0 :=
  Mont.montCancel x (qF x) _ rfl rfl

theorem acc5_spec (c r : Scalar.W5) (hc : Scalar.Words5 c) (hr : Scalar.Words5 r) :
    Scalar.Words5 (acc5 c r).1 ∧ (acc5 c r).2 ≤ 1 ∧
      Scalar.eval5 (acc5 c r).1 + (acc5 c r).2 * 2^320 = Scalar.eval5 c + Scalar.eval5 r := by
  obtain ⟨c0, c1, c2, c3, c4⟩ := c
  obtain ⟨r0, r1, r2, r3, r4⟩ := r
  obtain ⟨hc0, hc1, hc2, hc3, hc4⟩ := hc
  obtain ⟨hr0, hr1, hr2, hr3, hr4⟩ := hr
  simp only at hc0 hc1 hc2 hc3 hc4 hr0 hr1 hr2 hr3 hr4
  obtain ⟨e0, l0, k0⟩ := add64_spec c0 r0 0 hc0 hr0 (by norm_num)
  obtain ⟨e1, l1, k1⟩ := add64_spec c1 r1 _ hc1 hr1 k0
  obtain ⟨e2, l2, k2⟩ := add64_spec c2 r2 _ hc2 hr2 k1
  obtain ⟨e3, l3, k3⟩ := add64_spec c3 r3 _ hc3 hr3 k2
  obtain ⟨e4, l4, k4⟩ := add64_spec c4 r4 _ hc4 hr4 k3
  simp only [acc5, Scalar.Words5, Scalar.eval5]
  generalize Bits.Add64 c4 r4 _ = a4 at *
  generalize Bits.Add64 c3 r3 _ = a3 at *
  generalize Bits.Add64 c2 r2 _ = a2 at *
  generalize Bits.Add64 c1 r1 _ = a1 at *
  generalize Bits.Add64 c0 r0 0 = a0 at *
  refine ⟨⟨l0, l1, l2, l3, l4⟩, k4, ?_⟩
  omega

/-- `acc4` is the carry chain of `add` on the low four words of `r` -/
theorem acc4_spec (c : W4) (r : Scalar.W5) (hc : Scalar.Words c) (hr : Scalar.Words5 r) :
    Scalar.Words (acc4 c r).1 ∧ (acc4 c r).2 ≤ 1 ∧
      eval (acc4 c r).1 + (acc4 c r).2 * 2^256 =
        eval c + (r.v0 + r.v1 * 2^64 + r.v2 * 2^128 + r.v3 * 2^192) := by
  obtain ⟨hw, hk, he⟩ := addChain_spec c ⟨r.v0, r.v1, r.v2, r.v3⟩ hc ⟨hr.1, hr.2.1, hr.2.2.1, hr.2.2.2.1⟩
  exact ⟨⟨hw.1, hw.2.1, hw.2.2.1, hw.2.2.2.1⟩, hk, he⟩

theorem red5_spec (s m : Scalar.W5) (hs : Scalar.Words5 s) (hm : Scalar.Words5 m) (hz : (s.v0 + m.v0) % 2^64 = 0) :
    (red5 s m).v0 < 2^64 ∧ (red5 s m).v1 < 2^64 ∧ (red5 s m).v2 < 2^64 ∧ (red5 s m).v3 < 2^64 ∧
      (red5 s m).v4 ≤ 1 ∧ Scalar.eval5 (red5 s m) * 2^64 = Scalar.eval5 s + Scalar.eval5 m := by
  obtain ⟨s0, s1, s2, s3, s4⟩ := s
  obtain ⟨m0, m1, m2, m3, m4⟩ := m
  obtain ⟨hs0, hs1, hs2, hs3, hs4⟩ := hs
  obtain ⟨hm0, hm1, hm2, hm3, hm4⟩ := hm
  simp only at hs0 hs1 hs2 hs3 hs4 hm0 hm1 hm2 hm3 hm4 hz
  obtain ⟨e0, l0, k0⟩ := add64_spec s0 m0 0 hs0 hm0 (by norm_num)
  obtain ⟨e1, l1, k1⟩ := add64_spec s1 m1 _ hs1 hm1 k0
  obtain ⟨e2, l2, k2⟩ := add64_spec s2 m2 _ hs2 hm2 k1
  obtain ⟨e3, l3, k3⟩ := add64_spec s3 m3 _ hs3 hm3 k2
  obtain ⟨e4, l4, k4⟩ := add64_spec s4 m4 _ hs4 hm4 k3
  simp only [red5, Scalar.eval5]
  generalize Bits.Add64 s4 m4 _ = a4 at *
  generalize Bits.Add64 s3 m3 _ = a3 at *
  generalize Bits.Add64 s2 m2 _ = a2 at *
  generalize Bits.Add64 s1 m1 _ = a1 at *
  generalize Bits.Add64 s0 m0 0 = a0 at *
  refine ⟨l1, l2, l3, l4, k4, ?_⟩
  omega

theorem red4_spec (s : W4) (m : Scalar.W5) (hs : Scalar.Words s) (hm : Scalar.Words5 m) (hz : (s.w0 + m.v0) % 2^64 = 0) :
    (red4 s m).w0 < 2^64 ∧ (red4 s m).w1 < 2^64 ∧ (red4 s m).w2 < 2^64 ∧ (red4 s m).w3 ≤ 1 ∧
      eval (red4 s m) * 2^64 = eval s + (m.v0 + m.v1 * 2^64 + m.v2 * 2^128 + m.v3 * 2^192) := by
  obtain ⟨s0, s1, s2, s3⟩ := s
  obtain ⟨m0, m1, m2, m3, m4⟩ := m
  obtain ⟨hs0, hs1, hs2, hs3⟩ := hs
  obtain ⟨hm0, hm1, hm2, hm3, hm4⟩ := hm
  simp only at hs0 hs1 hs2 hs3 hm0 hm1 hm2 hm3 hz
  obtain ⟨e0, l0, k0⟩ := add64_spec s0 m0 0 hs0 hm0 (by norm_num)
  obtain ⟨e1, l1, k1⟩ := add64_spec s1 m1 _ hs1 hm1 k0
  obtain ⟨e2, l2, k2⟩ := add64_spec s2 m2 _ hs2 hm2 k1
  obtain ⟨e3, l3, k3⟩ := add64_spec s3 m3 _ hs3 hm3 k2
  simp only [red4, Scalar.eval]
  generalize Bits.Add64 s3 m3 _ = a3 at *
  generalize Bits.Add64 s2 m2 _ = a2 at *
  generalize Bits.Add64 s1 m1 _ = a1 at *
  generalize Bits.Add64 s0 m0 0 = a0 at *
  refine ⟨l1, l2, l3, k3, ?_⟩
  omega


def mulStep0 (a : Nat) (b : W4) : Scalar.W5 :=
  let r := rowF a b
  red5 r (qrowF (qF r.v0))

def mulStep (a : Nat) (b : W4) (c : Scalar.W5) : Scalar.W5 :=
  let r := rowF a b
  let s := acc5 c r
  let t := red5 s.1 (qrowF (qF s.1.v0))
  ⟨t.v0, t.v1, t.v2, t.v3, U.add 64 t.v4 s.2⟩

set_option maxRecDepth 100000 in
theorem fiatScalarMul_eq (o x y : W4) : Fiat.fiatScalarMul o x y =
    csub (mulStep x.w3 y (mulStep x.w2 y (mulStep x.w1 y (mulStep0 x.w0 y)))) := by
  kernel_rfl

/-- one word step of Montgomery multiplication by `B`: the accumulator `T` and the word `a` give `T'` with
`T'·2^64 = T + a·B + q·l`, and `T'` stays below `l + B` -/
def MontStep (B a T T' : Nat) : Prop := T' < L + B ∧ ∃ q, T' * 2^64 = T + a * B + q * L

/-- `T'·2^64 = T + a·B + q·l` with `a, q < 2^64` keeps `T' < l + B` -/
theorem MontStep.of_eq {B a T T' q : Nat} (ha : a < 2^64) (hq : q < 2^64) (hT : T < L + B)
    (h : T' * 2^64 = T + a * B + q * L) : MontStep B a T T' := by
  refine ⟨?_, q, h⟩
  have h1 : a * B ≤ (2^64 - 1) * B := Nat.mul_le_mul_right _ (by omega)
  have h2 : q * L ≤ (2^64 - 1) * L := Nat.mul_le_mul_right _ (by omega)
  generalize a * B = AB at *
  generalize q * L = QL at *
  generalize L = l at *
  clear ha hq
  omega

/-- four word steps telescope: `T4·2^256 ≡ (a0 + a1·2^64 + a2·2^128 + a3·2^192)·B` -/
theorem MontStep.four {B a0 a1 a2 a3 T1 T2 T3 T4 : Nat} (h1 : MontStep B a0 0 T1) (h2 : MontStep B a1 T1 T2)
    (h3 : MontStep B a2 T2 T3) (h4 : MontStep B a3 T3 T4) :
    T4 < L + B ∧ (T4 * 2^256) % L = ((a0 + a1 * 2^64 + a2 * 2^128 + a3 * 2^192) * B) % L := by
  obtain ⟨_, q0, e1⟩ := h1
  obtain ⟨_, q1, e2⟩ := h2
  obtain ⟨_, q2, e3⟩ := h3
  obtain ⟨b4, q3, e4⟩ := h4
  refine ⟨b4, ?_⟩
  have comb : T4 * 2^256 = (a0 + a1 * 2^64 + a2 * 2^128 + a3 * 2^192) * B +
      (q0 + q1 * 2^64 + q2 * 2^128 + q3 * 2^192) * L := by
    zify at e1 e2 e3 e4 ⊢
    linear_combination e1 + 2^64 * e2 + 2^128 * e3 + 2^192 * e4
  rw [comb, Nat.add_mul_mod_self_right]

theorem mulStep0_spec (a : Nat) (b : W4) (ha : a < 2^64) (hb : Scalar.Words b) :
    Scalar.Words5 (mulStep0 a b) ∧ MontStep (eval b) a 0 (Scalar.eval5 (mulStep0 a b)) := by
  have hdef : mulStep0 a b = red5 (rowF a b) (qrowF (qF (rowF a b).v0)) := rfl
  rw [hdef]
  obtain ⟨rw_, re⟩ := rowF_spec a b ha hb
  have hq := qF_lt (rowF a b).v0
  obtain ⟨mw, _, me⟩ := qrowF_spec _ hq
  obtain ⟨t0, t1, t2, t3, t4, te⟩ := red5_spec _ _ rw_ mw (qcancel _)
  rw [re, me] at te
  have hLpos : 0 < L := by decide
  exact ⟨⟨t0, t1, t2, t3, Nat.lt_of_le_of_lt t4 (by norm_num)⟩,
    MontStep.of_eq ha hq (Nat.lt_of_lt_of_le hLpos (Nat.le_add_right _ _)) (by rw [te, Nat.zero_add])⟩

theorem mulStep_key (rd s1 : Scalar.W5) (sc C AB QL : Nat) (t4 : rd.v4 ≤ 1) (hsc : sc ≤ 1)
    (se : Scalar.eval5 s1 + sc * 2^320 = C + AB) (te : Scalar.eval5 rd * 2^64 = Scalar.eval5 s1 + QL) :
    Scalar.eval5 ⟨rd.v0, rd.v1, rd.v2, rd.v3, U.add 64 rd.v4 sc⟩ * 2^64 = C + AB + QL ∧
      U.add 64 rd.v4 sc < 2^64 := by
  obtain ⟨r0, r1, r2, r3, r4⟩ := rd
  simp only [Scalar.eval5, U.add] at *
  have e : (r4 + sc) % 2^64 = r4 + sc := by omega
  rw [e]
  generalize Scalar.eval5 s1 = S at *
  omega

theorem mulStep_spec (a : Nat) (b : W4) (c : Scalar.W5) (ha : a < 2^64) (hb : Scalar.Words b) (hc : Scalar.Words5 c)
    (hT : Scalar.eval5 c < L + eval b) :
    Scalar.Words5 (mulStep a b c) ∧ MontStep (eval b) a (Scalar.eval5 c) (Scalar.eval5 (mulStep a b c)) := by
  obtain ⟨rw_, re⟩ := rowF_spec a b ha hb
  obtain ⟨sw, sc, se⟩ := acc5_spec c _ hc rw_
  have hq := qF_lt (acc5 c (rowF a b)).1.v0
  obtain ⟨mw, _, me⟩ := qrowF_spec _ hq
  obtain ⟨t0, t1, t2, t3, t4, te⟩ := red5_spec _ _ sw mw (qcancel _)
  rw [me] at te
  rw [re] at se
  obtain ⟨key, k4⟩ := mulStep_key _ _ _ _ _ _ t4 sc se te
  exact ⟨⟨t0, t1, t2, t3, k4⟩, MontStep.of_eq ha hq hT key⟩


/-- general form: only the word bounds of `x` are needed -/
theorem fiatMul_spec' (o x y : W4) (hx : Scalar.Words x) (hy : Inv y) :
    Inv (Fiat.fiatScalarMul o x y) ∧
      (eval (Fiat.fiatScalarMul o x y) * 2^256) % L = (eval x * eval y) % L := by
  rw [fiatScalarMul_eq]
  have hb := Scalar.inv_words hy
  obtain ⟨w1, m1⟩ := mulStep0_spec x.w0 y hx.1 hb
  obtain ⟨w2, m2⟩ := mulStep_spec x.w1 y _ hx.2.1 hb w1 m1.1
  obtain ⟨w3, m3⟩ := mulStep_spec x.w2 y _ hx.2.2.1 hb w2 m2.1
  obtain ⟨w4, m4⟩ := mulStep_spec x.w3 y _ hx.2.2.2 hb w3 m3.1
  obtain ⟨b4, comb⟩ := MontStep.four m1 m2 m3 m4
  have hyl := Scalar.inv_lt hy
  obtain ⟨ci, ce⟩ := csub_spec _ w4 (by omega)
  refine ⟨ci, ?_⟩
  rw [ce, Nat.mod_mul_mod, comb]
  rfl

theorem fiatMul_spec (o x y : W4) (hx : Inv x) (hy : Inv y) :
    Inv (Fiat.fiatScalarMul o x y) ∧
      (eval (Fiat.fiatScalarMul o x y) * 2^256) % L = (eval x * eval y) % L :=
  fiatMul_spec' o x y (Scalar.inv_words hx) hy

theorem fiatMul_receiver (o o' x y : W4) : Fiat.fiatScalarMul o x y = Fiat.fiatScalarMul o' x y := by
  rw [fiatScalarMul_eq, fiatScalarMul_eq]


/-! ### `fiatScalarToMontgomery` (multiplication by `R² mod l`) -/

/-- `2^512 mod l`, as words -/
def toMontB : W4 := ⟨11819153939886771969, 14991950615390032711, 14910419812499177061, 259310039853996605⟩

def tmStep0 (a : Nat) : W4 :=
  let r := rowF a toMontB
  let m := qrowF (qF r.v0)
  let t := red4 ⟨r.v0, r.v1, r.v2, r.v3⟩ m
  ⟨t.w0, t.w1, t.w2, U.add 64 (U.add 64 t.w3 r.v4) m.v4⟩

def tmStep (a : Nat) (c : W4) : W4 :=
  let r := rowF a toMontB
  let s := acc4 c r
  let m := qrowF (qF s.1.w0)
  let t := red4 s.1 m
  ⟨t.w0, t.w1, t.w2, U.add 64 (U.add 64 t.w3 (U.add 64 s.2 r.v4)) m.v4⟩

def w4to5 (t : W4) : Scalar.W5 := ⟨t.w0, t.w1, t.w2, t.w3, 0⟩

set_option maxRecDepth 100000 in
theorem fiatScalarToMontgomery_eq (o x : W4) : Fiat.fiatScalarToMontgomery o x =
    csub (w4to5 (tmStep x.w3 (tmStep x.w2 (tmStep x.w1 (tmStep0 x.w0))))) := by
  kernel_rfl

theorem toMontB_words : Scalar.Words toMontB := by
  refine ⟨?_, ?_, ?_, ?_⟩ <;> decide
theorem toMontB_lt : eval toMontB < L := by decide
set_option exponentiation.threshold 600 in
theorem toMontB_mod : eval toMontB = 2^512 % L := by decide

theorem v4_bound (r0 r1 r2 r3 r4 AB : Nat)
    (re : r0 + r1 * 2^64 + r2 * 2^128 + r3 * 2^192 + r4 * 2^256 = AB)
    (h1 : AB ≤ (2^64 - 1) * 1627715501170711445284395025044413883736156588369414752970002579683115011841) :
    r4 ≤ 259310039853996605 := by
  omega

/-- the top word of the `a × toMontB` row is small -/
theorem rowF_toMontB_v4 (a : Nat) (ha : a < 2^64) : (rowF a toMontB).v4 ≤ 259310039853996605 := by
  obtain ⟨_, re⟩ := rowF_spec a toMontB ha toMontB_words
  have hB : eval toMontB = 1627715501170711445284395025044413883736156588369414752970002579683115011841 := by
    decide
  have h1 : a * eval toMontB ≤ (2^64 - 1) * eval toMontB := Nat.mul_le_mul_right _ (by omega)
  rw [hB] at h1
  exact v4_bound _ _ _ _ _ _ re h1

theorem tmStep_key (t : W4) (r4 m4 sc C S R0123 M0123 : Nat)
    (t3 : t.w3 ≤ 1) (hsc : sc ≤ 1) (hr4 : r4 ≤ 259310039853996605) (hm4 : m4 < 2^60)
    (se : S + sc * 2^256 = C + R0123) (te : eval t * 2^64 = S + M0123) :
    eval ⟨t.w0, t.w1, t.w2, U.add 64 (U.add 64 t.w3 (U.add 64 sc r4)) m4⟩ * 2^64 =
        C + (R0123 + r4 * 2^256) + (M0123 + m4 * 2^256) ∧
      U.add 64 (U.add 64 t.w3 (U.add 64 sc r4)) m4 < 2^64 := by
  obtain ⟨t0, t1, t2, t3'⟩ := t
  simp only [Scalar.eval, U.add] at *
  have e1 : (sc + r4) % 2^64 = sc + r4 := by omega
  have e2 : (t3' + (sc + r4)) % 2^64 = t3' + (sc + r4) := by omega
  have e3 : (t3' + (sc + r4) + m4) % 2^64 = t3' + (sc + r4) + m4 := by omega
  rw [e1, e2, e3]
  omega

theorem tmStep0_key (t : W4) (r4 m4 S M0123 : Nat)
    (t3 : t.w3 ≤ 1) (hr4 : r4 ≤ 259310039853996605) (hm4 : m4 < 2^60)
    (te : eval t * 2^64 = S + M0123) :
    eval ⟨t.w0, t.w1, t.w2, U.add 64 (U.add 64 t.w3 r4) m4⟩ * 2^64 =
        (S + r4 * 2^256) + (M0123 + m4 * 2^256) ∧
      U.add 64 (U.add 64 t.w3 r4) m4 < 2^64 := by
  obtain ⟨t0, t1, t2, t3'⟩ := t
  simp only [Scalar.eval, U.add] at *
  have e2 : (t3' + r4) % 2^64 = t3' + r4 := by omega
  have e3 : (t3' + r4 + m4) % 2^64 = t3' + r4 + m4 := by omega
  rw [e2, e3]
  omega

theorem tmStep0_spec (a : Nat) (ha : a < 2^64) :
    Scalar.Words (tmStep0 a) ∧ MontStep (eval toMontB) a 0 (eval (tmStep0 a)) := by
  obtain ⟨rw_, re⟩ := rowF_spec a toMontB ha toMontB_words
  have r4 := rowF_toMontB_v4 a ha
  have hq := qF_lt (rowF a toMontB).v0
  obtain ⟨mw, m4, me⟩ := qrowF_spec _ hq
  obtain ⟨t0, t1, t2, t3, te⟩ := red4_spec ⟨(rowF a toMontB).v0, (rowF a toMontB).v1, (rowF a toMontB).v2,
    (rowF a toMontB).v3⟩ _ ⟨rw_.1, rw_.2.1, rw_.2.2.1, rw_.2.2.2.1⟩ mw (qcancel _)
  obtain ⟨key, k4⟩ := tmStep0_key _ _ _ _ _ t3 r4 m4 te
  have key' : eval (tmStep0 a) * 2^64 = a * eval toMontB + qF (rowF a toMontB).v0 * L := by
    rw [← re, ← me]
    exact key
  have hLpos : 0 < L := by decide
  exact ⟨⟨t0, t1, t2, k4⟩,
    MontStep.of_eq ha hq (Nat.lt_of_lt_of_le hLpos (Nat.le_add_right _ _)) (by rw [key', Nat.zero_add])⟩

theorem tmStep_spec (a : Nat) (c : W4) (ha : a < 2^64) (hc : Scalar.Words c) (hT : eval c < L + eval toMontB) :
    Scalar.Words (tmStep a c) ∧ MontStep (eval toMontB) a (eval c) (eval (tmStep a c)) := by
  obtain ⟨rw_, re⟩ := rowF_spec a toMontB ha toMontB_words
  have r4 := rowF_toMontB_v4 a ha
  obtain ⟨sw, sc, se⟩ := acc4_spec c _ hc rw_
  have hq := qF_lt (acc4 c (rowF a toMontB)).1.w0
  obtain ⟨mw, m4, me⟩ := qrowF_spec _ hq
  obtain ⟨t0, t1, t2, t3, te⟩ := red4_spec _ _ sw mw (qcancel _)
  obtain ⟨key, k4⟩ := tmStep_key _ _ _ _ _ _ _ _ t3 sc r4 m4 se te
  have key' : eval (tmStep a c) * 2^64 =
      eval c + a * eval toMontB + qF (acc4 c (rowF a toMontB)).1.w0 * L := by
    rw [← re, ← me]
    exact key
  exact ⟨⟨t0, t1, t2, k4⟩, MontStep.of_eq ha hq hT key'⟩

theorem Scalar.coprime_L_R : Nat.Coprime L (2^256) := by
  apply Nat.Coprime.pow_right
  apply Nat.Coprime.symm
  rw [Nat.Prime.coprime_iff_not_dvd Nat.prime_two]
  decide

/-- general form: only the word bounds of `x` are needed -/
theorem toMontgomery_spec' (o x : W4) (hx : Scalar.Words x) :
    Inv (Fiat.fiatScalarToMontgomery o x) ∧
      eval (Fiat.fiatScalarToMontgomery o x) % L = (eval x * 2^256) % L := by
  rw [fiatScalarToMontgomery_eq]
  obtain ⟨w1, m1⟩ := tmStep0_spec x.w0 hx.1
  obtain ⟨w2, m2⟩ := tmStep_spec x.w1 _ hx.2.1 w1 m1.1
  obtain ⟨w3, m3⟩ := tmStep_spec x.w2 _ hx.2.2.1 w2 m2.1
  obtain ⟨w4, m4⟩ := tmStep_spec x.w3 _ hx.2.2.2 w3 m3.1
  obtain ⟨b4, comb⟩ := MontStep.four m1 m2 m3 m4
  have hBl := toMontB_lt
  generalize tmStep x.w3 (tmStep x.w2 (tmStep x.w1 (tmStep0 x.w0))) = T at *
  have h5 : Scalar.eval5 (w4to5 T) = eval T := by
    simp only [w4to5, Scalar.eval5, Scalar.eval]; omega
  obtain ⟨ci, ce⟩ := csub_spec (w4to5 T) ⟨w4.1, w4.2.1, w4.2.2.1, w4.2.2.2, (by decide : (0:Nat) < 2^64)⟩ (by rw [h5]; omega)
  refine ⟨ci, ?_⟩
  rw [ce, h5, Nat.mod_mod]
  -- cancel `2^256`
  have hmod : eval T * 2^256 ≡ (eval x * 2^256) * 2^256 [MOD L] := by
    unfold Nat.ModEq
    rw [comb]
    show (eval x * eval toMontB) % L = _
    rw [toMontB_mod, Nat.mul_mod_mod, Nat.mul_assoc, ← pow_add]
  exact Nat.ModEq.cancel_right_of_coprime Scalar.coprime_L_R hmod

theorem toMontgomery_spec (o x : W4) (hx : Inv x) :
    Inv (Fiat.fiatScalarToMontgomery o x) ∧
      eval (Fiat.fiatScalarToMontgomery o x) % L = (eval x * 2^256) % L :=
  toMontgomery_spec' o x (Scalar.inv_words hx)

theorem toMontgomery_receiver (o o' x : W4) :
    Fiat.fiatScalarToMontgomery o x = Fiat.fiatScalarToMontgomery o' x := by
  rw [fiatScalarToMontgomery_eq, fiatScalarToMontgomery_eq]


/-! ### `fiatScalarFromMontgomery` (multiplication by `1`) -/

def fmStep0 (a : Nat) : W4 :=
  let m := qrowF (qF a)
  let c0 := (Bits.Add64 a m.v0 0).2
  let a1 := Bits.Add64 0 m.v1 c0
  ⟨a1.1, U.add 64 a1.2 m.v2, m.v3, m.v4⟩

/-- add the `q·l` row to the prepared words `s` and shift -/
def fmFinish (s : W4) : W4 :=
  let m := qrowF (qF s.w0)
  let t := red4 s m
  ⟨t.w0, t.w1, t.w2, U.add 64 t.w3 m.v4⟩

def fmStep1 (a : Nat) (c : W4) : W4 :=
  let a0 := Bits.Add64 c.w0 a 0
  fmFinish ⟨a0.1, U.add 64 a0.2 c.w1, c.w2, c.w3⟩

def fmStep (a : Nat) (c : W4) : W4 :=
  let a0 := Bits.Add64 c.w0 a 0
  let a1 := Bits.Add64 c.w1 0 a0.2
  let a2 := Bits.Add64 c.w2 0 a1.2
  fmFinish ⟨a0.1, a1.1, a2.1, U.add 64 a2.2 c.w3⟩

set_option maxRecDepth 100000 in
theorem fiatScalarFromMontgomery_eq (o x : W4) : Fiat.fiatScalarFromMontgomery o x =
    csub (w4to5 (fmStep x.w3 (fmStep x.w2 (fmStep1 x.w1 (fmStep0 x.w0))))) := by
  kernel_rfl

theorem fmStep0_core (a m0 m1 m2 m3 m4 c0 x14 x15 : Nat) (ha : a < 2^(64:ℕ))
    (d0 : m0 < 2^(64:ℕ)) (d1 : m1 < 2^(64:ℕ)) (d2 : m2 ≤ 1503914060200516822)
    (hz : (a + m0) % 2^(64:ℕ) = 0)
    (h0 : c0 = (a + m0 + 0) / 2^(64:ℕ)) (h14 : x14 = (0 + m1 + c0) % 2^(64:ℕ)) (h15 : x15 = (0 + m1 + c0) / 2^(64:ℕ)) :
    (x14 + (x15 + m2) % 2^(64:ℕ) * 2^(64:ℕ) + m3 * 2^(128:ℕ) + m4 * 2^(192:ℕ)) * 2^(64:ℕ) =
        a + (m0 + m1 * 2^(64:ℕ) + m2 * 2^(128:ℕ) + m3 * 2^(192:ℕ) + m4 * 2^(256:ℕ)) ∧
      x14 < 2^(64:ℕ) ∧ (x15 + m2) % 2^(64:ℕ) ≤ 1503914060200516823 := by
  have e : (x15 + m2) % 2^64 = x15 + m2 := by omega
  rw [e]
  refine ⟨by omega, by omega, by omega⟩

theorem fmStep0_spec (a : Nat) (ha : a < 2^64) :
    Scalar.Words (fmStep0 a) ∧ (fmStep0 a).w1 ≤ 1503914060200516823 ∧ MontStep 1 a 0 (eval (fmStep0 a)) := by
  have hq := qF_lt a
  obtain ⟨mw, m4, me⟩ := qrowF_spec _ hq
  have m2 := qrowF_v2 _ hq
  obtain ⟨key, k0, k1⟩ := fmStep0_core a _ _ _ _ _ _ _ _ ha mw.1 mw.2.1 m2 (qcancel a) rfl rfl rfl
  have key' : eval (fmStep0 a) * 2^64 = a * 1 + qF a * L := by
    rw [← me, Nat.mul_one]
    exact key
  have hLpos : 0 < L := by decide
  exact ⟨⟨k0, Nat.lt_of_le_of_lt k1 (by norm_num), mw.2.2.2.1, Nat.lt_trans m4 (by norm_num)⟩, k1,
    MontStep.of_eq ha hq (Nat.lt_of_lt_of_le hLpos (Nat.le_add_right _ _)) (by rw [key', Nat.zero_add])⟩

theorem fmFinish_key (t : W4) (m4 S M0123 : Nat) (t3 : t.w3 ≤ 1) (hm4 : m4 < 2^60)
    (te : eval t * 2^64 = S + M0123) :
    eval ⟨t.w0, t.w1, t.w2, U.add 64 t.w3 m4⟩ * 2^64 = S + (M0123 + m4 * 2^256) ∧
      U.add 64 t.w3 m4 < 2^64 := by
  obtain ⟨t0, t1, t2, t3'⟩ := t
  simp only [Scalar.eval, U.add] at *
  have e2 : (t3' + m4) % 2^64 = t3' + m4 := by omega
  rw [e2]
  omega

theorem fmFinish_spec (s : W4) (hs : Scalar.Words s) :
    Scalar.Words (fmFinish s) ∧ eval (fmFinish s) * 2^64 = eval s + qF s.w0 * L := by
  have hq := qF_lt s.w0
  obtain ⟨mw, m4, me⟩ := qrowF_spec _ hq
  obtain ⟨t0, t1, t2, t3, te⟩ := red4_spec s _ hs mw (qcancel _)
  obtain ⟨key, k4⟩ := fmFinish_key _ _ _ _ t3 m4 te
  refine ⟨⟨t0, t1, t2, k4⟩, ?_⟩
  rw [← me]
  exact key

theorem fmStep1_core (c0 c1 c2 c3 a x16 x17 : Nat) (ha : a < 2^64) (h0 : c0 < 2^64)
    (h1 : c1 ≤ 1503914060200516823)
    (h16 : x16 = (c0 + a + 0) % 2^64) (h17 : x17 = (c0 + a + 0) / 2^64) :
    x16 + (x17 + c1) % 2^64 * 2^64 + c2 * 2^128 + c3 * 2^192 =
        (c0 + c1 * 2^64 + c2 * 2^128 + c3 * 2^192) + a ∧
      x16 < 2^64 ∧ (x17 + c1) % 2^64 < 2^64 := by
  have e : (x17 + c1) % 2^64 = x17 + c1 := by omega
  rw [e]
  refine ⟨by omega, by omega, by omega⟩

theorem fmStep1_spec (a : Nat) (c : W4) (ha : a < 2^64) (hc : Scalar.Words c) (hc1 : c.w1 ≤ 1503914060200516823)
    (hT : eval c < L + 1) :
    Scalar.Words (fmStep1 a c) ∧ MontStep 1 a (eval c) (eval (fmStep1 a c)) := by
  obtain ⟨c0, c1, c2, c3⟩ := c
  obtain ⟨h0, h1, h2, h3⟩ := hc
  simp only at h0 h1 h2 h3 hc1
  obtain ⟨se, s0, s1⟩ := fmStep1_core c0 c1 c2 c3 a _ _ ha h0 hc1 rfl rfl
  obtain ⟨fw, fe⟩ := fmFinish_spec ⟨(Bits.Add64 c0 a 0).1, U.add 64 (Bits.Add64 c0 a 0).2 c1, c2, c3⟩
    ⟨s0, s1, h2, h3⟩
  have key : eval (fmStep1 a ⟨c0, c1, c2, c3⟩) * 2^64 =
      eval ⟨c0, c1, c2, c3⟩ + a * 1 + qF (Bits.Add64 c0 a 0).1 * L := by
    rw [Nat.mul_one]
    show _ = (c0 + c1 * 2^64 + c2 * 2^128 + c3 * 2^192) + a + _
    rw [← se]
    exact fe
  exact ⟨fw, MontStep.of_eq ha (qF_lt _) hT key⟩

theorem fmStep_core (c0 c1 c2 c3 a x36 x37 x38 x39 x40 x41 : Nat) (ha : a < 2^(64:ℕ)) (h0 : c0 < 2^(64:ℕ))
    (h1 : c1 < 2^(64:ℕ)) (h2 : c2 < 2^(64:ℕ)) (h3 : c3 ≤ 1152921504606846976)
    (h36 : x36 = (c0 + a + 0) % 2^(64:ℕ)) (h37 : x37 = (c0 + a + 0) / 2^(64:ℕ))
    (h38 : x38 = (c1 + 0 + x37) % 2^(64:ℕ)) (h39 : x39 = (c1 + 0 + x37) / 2^(64:ℕ))
    (h40 : x40 = (c2 + 0 + x39) % 2^(64:ℕ)) (h41 : x41 = (c2 + 0 + x39) / 2^(64:ℕ)) :
    x36 + x38 * 2^(64:ℕ) + x40 * 2^(128:ℕ) + (x41 + c3) % 2^(64:ℕ) * 2^(192:ℕ) =
        (c0 + c1 * 2^(64:ℕ) + c2 * 2^(128:ℕ) + c3 * 2^(192:ℕ)) + a ∧
      x36 < 2^(64:ℕ) ∧ x38 < 2^(64:ℕ) ∧ x40 < 2^(64:ℕ) ∧ (x41 + c3) % 2^(64:ℕ) < 2^(64:ℕ) := by
  have e : (x41 + c3) % 2^64 = x41 + c3 := by omega
  rw [e]
  refine ⟨by omega, by omega, by omega, by omega, by omega⟩

theorem top_le (c0 c1 c2 c3 : Nat)
    (h : c0 + c1 * 2^64 + c2 * 2^128 + c3 * 2^192 <
      7237005577332262213973186563042994240857116359379907606001950938285454250989 + 1) :
    c3 ≤ 1152921504606846976 := by
  omega

theorem fmStep_spec (a : Nat) (c : W4) (ha : a < 2^64) (hc : Scalar.Words c) (hT : eval c < L + 1) :
    Scalar.Words (fmStep a c) ∧ MontStep 1 a (eval c) (eval (fmStep a c)) := by
  obtain ⟨c0, c1, c2, c3⟩ := c
  obtain ⟨h0, h1, h2, h3⟩ := hc
  simp only at h0 h1 h2 h3
  have h3' : c3 ≤ 1152921504606846976 := by
    have := hT; rw [Scalar.L_lit] at this
    exact top_le c0 c1 c2 c3 this
  obtain ⟨se, s0, s1, s2, s3⟩ := fmStep_core c0 c1 c2 c3 a _ _ _ _ _ _ ha h0 h1 h2 h3' rfl rfl rfl rfl rfl rfl
  obtain ⟨fw, fe⟩ := fmFinish_spec ⟨(Bits.Add64 c0 a 0).1, (Bits.Add64 c1 0 (Bits.Add64 c0 a 0).2).1,
    (Bits.Add64 c2 0 (Bits.Add64 c1 0 (Bits.Add64 c0 a 0).2).2).1,
    U.add 64 (Bits.Add64 c2 0 (Bits.Add64 c1 0 (Bits.Add64 c0 a 0).2).2).2 c3⟩ ⟨s0, s1, s2, s3⟩
  have key : eval (fmStep a ⟨c0, c1, c2, c3⟩) * 2^64 =
      eval ⟨c0, c1, c2, c3⟩ + a * 1 + qF (Bits.Add64 c0 a 0).1 * L := by
    rw [Nat.mul_one]
    show _ = (c0 + c1 * 2^64 + c2 * 2^128 + c3 * 2^192) + a + _
    rw [← se]
    exact fe
  exact ⟨fw, MontStep.of_eq ha (qF_lt _) hT key⟩

/-- general form: only the word bounds of `x` are needed -/
theorem fromMontgomery_spec' (o x : W4) (hx : Scalar.Words x) :
    Inv (Fiat.fiatScalarFromMontgomery o x) ∧
      (eval (Fiat.fiatScalarFromMontgomery o x) * 2^256) % L = eval x % L := by
  rw [fiatScalarFromMontgomery_eq]
  obtain ⟨w1, c1, m1⟩ := fmStep0_spec x.w0 hx.1
  obtain ⟨w2, m2⟩ := fmStep1_spec x.w1 _ hx.2.1 w1 c1 m1.1
  obtain ⟨w3, m3⟩ := fmStep_spec x.w2 _ hx.2.2.1 w2 m2.1
  obtain ⟨w4, m4⟩ := fmStep_spec x.w3 _ hx.2.2.2 w3 m3.1
  obtain ⟨b4, comb⟩ := MontStep.four m1 m2 m3 m4
  generalize fmStep x.w3 (fmStep x.w2 (fmStep1 x.w1 (fmStep0 x.w0))) = T at *
  have h5 : Scalar.eval5 (w4to5 T) = eval T := by
    simp only [w4to5, Scalar.eval5, Scalar.eval]; omega
  have hL1 : 1 ≤ L := by decide
  obtain ⟨ci, ce⟩ := csub_spec (w4to5 T) ⟨w4.1, w4.2.1, w4.2.2.1, w4.2.2.2, (by decide : (0:Nat) < 2^64)⟩
    (by rw [h5]; omega)
  refine ⟨ci, ?_⟩
  rw [ce, h5, Nat.mod_mul_mod, comb, Nat.mul_one]
  rfl

theorem fromMontgomery_spec (o x : W4) (hx : Inv x) :
    Inv (Fiat.fiatScalarFromMontgomery o x) ∧
      (eval (Fiat.fiatScalarFromMontgomery o x) * 2^256) % L = eval x % L :=
  fromMontgomery_spec' o x (Scalar.inv_words hx)

theorem fromMontgomery_receiver (o o' x : W4) :
    Fiat.fiatScalarFromMontgomery o x = Fiat.fiatScalarFromMontgomery o' x := by
  rw [fiatScalarFromMontgomery_eq, fiatScalarFromMontgomery_eq]

end EdVerif.Proofs
