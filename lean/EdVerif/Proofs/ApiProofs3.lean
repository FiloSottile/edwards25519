import EdVerif.Proofs.ApiProofs2
/-!
API state machine, part 3: misuse is loud (model half of C15).

* an uninitialised (zero-value) `Point` in any *input* position makes the call panic with class
  `"uninit"` and leaves the store untouched; a multi-scalar call whose slices differ in length
  panics with class `"length"`;
* conversely, in a store satisfying the invariant these are the *only* panics: in particular a
  zero-value receiver alone never causes one, and `Set` never panics.
-/
namespace EdVerif.Proofs
open EdVerif.Impl EdVerif.Prims

/-! ### explicit statements, one per operation with `Point`-typed inputs -/

section
variable {σ : Store}

theorem C15_pBytes {v out : String} {P : P3} (hv : σ.p[v]? = some P)
    (hu : Point.isUninit P = true) : Api.step σ (.pBytes v out) = (σ, Api.uninitP) := by
  simp only [Api.step, hv, hu, if_true]

theorem C15_pBytesMontgomery {v out : String} {P : P3} (hv : σ.p[v]? = some P)
    (hu : Point.isUninit P = true) : Api.step σ (.pBytesMontgomery v out) = (σ, Api.uninitP) := by
  simp only [Api.step, hv, hu, if_true]

theorem C15_p1 {o : POp1} {v p : String} {R P : P3} (hv : σ.p[v]? = some R) (hp : σ.p[p]? = some P)
    (hu : Point.isUninit P = true) : Api.step σ (.p1 o v p) = (σ, Api.uninitP) := by
  simp only [Api.step, hv, hp, hu, if_true]

theorem C15_p2 {o : POp2} {v p q : String} {R P Q : P3} (hv : σ.p[v]? = some R)
    (hp : σ.p[p]? = some P) (hq : σ.p[q]? = some Q)
    (hu : Point.isUninit P = true ∨ Point.isUninit Q = true) :
    Api.step σ (.p2 o v p q) = (σ, Api.uninitP) := by
  simp only [Api.step, hv, hp, hq]
  rw [if_pos (by rw [Bool.or_eq_true]; exact hu)]

theorem C15_pEqual {v u : String} {P Q : P3} (hv : σ.p[v]? = some P) (hq : σ.p[u]? = some Q)
    (hu : Point.isUninit P = true ∨ Point.isUninit Q = true) :
    Api.step σ (.pEqual v u) = (σ, Api.uninitP) := by
  simp only [Api.step, hv, hq]
  rw [if_pos (by rw [Bool.or_eq_true]; exact hu)]

theorem C15_pExtCoords {v X Y Z T : String} {P : P3} (hv : σ.p[v]? = some P)
    (hu : Point.isUninit P = true) : Api.step σ (.pExtCoords v X Y Z T) = (σ, Api.uninitP) := by
  simp only [Api.step, hv, hu, if_true]

theorem C15_pScalarMult {v x q : String} {R Q : P3} {k : W4} (hv : σ.p[v]? = some R)
    (hx : σ.s[x]? = some k) (hq : σ.p[q]? = some Q) (hu : Point.isUninit Q = true) :
    Api.step σ (.pScalarMult v x q) = (σ, Api.uninitP) := by
  simp only [Api.step, hv, hx, hq, hu, if_true]

theorem C15_pVarTimeDouble {v a A b : String} {R PA : P3} {ka kb : W4} (hv : σ.p[v]? = some R)
    (ha : σ.s[a]? = some ka) (hA : σ.p[A]? = some PA) (hb : σ.s[b]? = some kb)
    (hu : Point.isUninit PA = true) :
    Api.step σ (.pVarTimeDouble v a A b) = (σ, Api.uninitP) := by
  simp only [Api.step, hv, ha, hA, hb, hu, if_true]

/-- a multi-scalar call with slices of different lengths panics, whatever the points are -/
theorem C15_pMSM_length {vt : Bool} {v : String} {xs qs : List String} {R : P3} {ks : List W4}
    {Qs : List P3} (hv : σ.p[v]? = some R) (hks : Api.getAll σ.s xs = some ks)
    (hQs : Api.getAll σ.p qs = some Qs) (hl : xs.length ≠ qs.length) :
    Api.step σ (.pMSM vt v xs qs) = (σ, Api.panicO "length") := by
  have hl' : (ks.length != Qs.length) = true := by
    rw [getAll_length hks, getAll_length hQs]; simpa using hl
  simp only [Api.step, hv, hks, hQs, hl', if_true]

/-- a multi-scalar call (equal lengths) any of whose points is uninitialised panics -/
theorem C15_pMSM_uninit {vt : Bool} {v : String} {xs qs : List String} {R : P3} {ks : List W4}
    {Qs : List P3} (hv : σ.p[v]? = some R) (hks : Api.getAll σ.s xs = some ks)
    (hQs : Api.getAll σ.p qs = some Qs) (hl : xs.length = qs.length)
    {n : String} (hn : n ∈ qs) {P : P3} (hP : σ.p[n]? = some P) (hu : Point.isUninit P = true) :
    Api.step σ (.pMSM vt v xs qs) = (σ, Api.uninitP) := by
  have hl' : (ks.length != Qs.length) = false := by
    rw [getAll_length hks, getAll_length hQs]; simpa using hl
  have hany : Qs.any Point.isUninit = true := by
    obtain ⟨Q, hQ, e⟩ := getAll_mem' hQs hn
    rw [hP] at e; cases e
    exact List.any_eq_true.mpr ⟨P, hQ, hu⟩
  simp only [Api.step, hv, hks, hQs, hl', hany, if_true, Bool.false_eq_true, if_false]

/-- plain copying is exempt: `Set` copies whatever is there, including the zero value -/
theorem C15_pSet {v u : String} {R P : P3} (hv : σ.p[v]? = some R) (hu : σ.p[u]? = some P) :
    Api.step σ (.pSet v u) = ({ σ with p := σ.p.insert v P }, Api.okO) := by
  simp only [Api.step, hv, hu]

theorem C15_pSet_never_panics (v u c : String) : (Api.step σ (.pSet v u)).2.kind ≠ .panic c := by
  simp only [Api.step]
  split <;> (intro h; cases h)

end

/-! ### uniform statements over all operations -/

/-- the `Point`-typed *input* positions of an operation (receivers are not inputs; `pSet`'s source
is exempt by design) -/
def _root_.EdVerif.Impl.Op.pIn : Op → List String
  | .pBytes v _ => [v]
  | .pBytesMontgomery v _ => [v]
  | .p1 _ _ p => [p]
  | .p2 _ _ p q => [p, q]
  | .pEqual v u => [v, u]
  | .pExtCoords v _ _ _ _ => [v]
  | .pScalarMult _ _ q => [q]
  | .pVarTimeDouble _ _ A _ => [A]
  | .pMSM _ _ _ qs => qs
  | _ => []

/-- some `Point` input of the call is an uninitialised (zero-value) point -/
def UninitInput (σ : Store) (op : Op) : Prop :=
  ∃ n ∈ op.pIn, ∃ P, σ.p[n]? = some P ∧ Point.isUninit P = true

/-- the two slices of a multi-scalar multiplication differ in length -/
def _root_.EdVerif.Impl.Op.LengthMismatch : Op → Prop
  | .pMSM _ _ xs qs => xs.length ≠ qs.length
  | _ => False

/-- C15: if all names resolve (the outcome is not `bad`) and some `Point` input is uninitialised,
the call panics with class `"uninit"` and the store is untouched (for the multi-scalar calls:
provided the lengths agree, otherwise see `C15_length_panics`) -/
theorem C15_uninit_panics {σ : Store} {op : Op} (hb : (Api.step σ op).2.kind ≠ .bad)
    (hu : UninitInput σ op) (hl : ¬ op.LengthMismatch) :
    Api.step σ op = (σ, Api.uninitP) := by
  obtain ⟨n, hn, P, hP, hu⟩ := hu
  cases op
  case pBytes v out =>
    simp only [Op.pIn, List.mem_singleton] at hn; subst hn
    exact C15_pBytes hP hu
  case pBytesMontgomery v out =>
    simp only [Op.pIn, List.mem_singleton] at hn; subst hn
    exact C15_pBytesMontgomery hP hu
  case p1 o v p =>
    simp only [Op.pIn, List.mem_singleton] at hn; subst hn
    simp only [Api.step] at hb
    split at hb
    · rename_i _ x hv hp
      rw [hP] at hp; cases hp
      exact C15_p1 hv hP hu
    · exact absurd rfl hb
  case p2 o v p q =>
    simp only [Op.pIn, List.mem_cons, List.not_mem_nil, or_false] at hn
    simp only [Api.step] at hb
    split at hb
    · rename_i _ x y hv hp hq
      refine C15_p2 hv hp hq ?_
      rcases hn with rfl | rfl
      · rw [hP] at hp; cases hp; exact Or.inl hu
      · rw [hP] at hq; cases hq; exact Or.inr hu
    · exact absurd rfl hb
  case pEqual v u =>
    simp only [Op.pIn, List.mem_cons, List.not_mem_nil, or_false] at hn
    simp only [Api.step] at hb
    split at hb
    · rename_i x y hv hq
      refine C15_pEqual hv hq ?_
      rcases hn with rfl | rfl
      · rw [hP] at hv; cases hv; exact Or.inl hu
      · rw [hP] at hq; cases hq; exact Or.inr hu
    · exact absurd rfl hb
  case pExtCoords v X Y Z T =>
    simp only [Op.pIn, List.mem_singleton] at hn; subst hn
    exact C15_pExtCoords hP hu
  case pScalarMult v x q =>
    simp only [Op.pIn, List.mem_singleton] at hn; subst hn
    simp only [Api.step] at hb
    split at hb
    · rename_i _ k Q hv hx hq
      rw [hP] at hq; cases hq
      exact C15_pScalarMult hv hx hP hu
    · exact absurd rfl hb
  case pVarTimeDouble v a A b =>
    simp only [Op.pIn, List.mem_singleton] at hn; subst hn
    simp only [Api.step] at hb
    split at hb
    · rename_i _ ka PA kb hv ha hA hb'
      rw [hP] at hA; cases hA
      exact C15_pVarTimeDouble hv ha hP hb' hu
    · exact absurd rfl hb
  case pMSM vt v xs qs =>
    simp only [Op.pIn] at hn
    simp only [Op.LengthMismatch, ne_eq, not_not] at hl
    simp only [Api.step] at hb
    split at hb
    · rename_i _ ks Qs hv hks hQs
      exact C15_pMSM_uninit hv hks hQs hl hn hP hu
    · exact absurd rfl hb
  all_goals exact absurd hn (by simp [Op.pIn])

/-- C15: a multi-scalar call whose two slices differ in length panics with class `"length"`,
regardless of the points -/
theorem C15_length_panics {σ : Store} {op : Op} (hb : (Api.step σ op).2.kind ≠ .bad)
    (hl : op.LengthMismatch) : Api.step σ op = (σ, Api.panicO "length") := by
  cases op
  case pMSM vt v xs qs =>
    simp only [Api.step] at hb
    split at hb
    · rename_i _ ks Qs hv hks hQs
      exact C15_pMSM_length hv hks hQs hl
    · exact absurd rfl hb
  all_goals exact absurd hl id

/-! ### the converse: in a store satisfying the invariant there are no other panics -/

theorem ofRes_ok_kind {α} {σ : Store} {r : Res α} {put : α → Store} {a : α} (h : r = .ok a) :
    (Api.ofRes σ r put).2.kind = .ok := by
  subst h; rfl

theorem ofRes_not_panic {α} {σ : Store} {r : Res α} {put : α → Store} {c : String}
    (h : (∃ a, r = .ok a) ∨ r = .err) : (Api.ofRes σ r put).2.kind ≠ .panic c := by
  rcases h with ⟨a, rfl⟩ | rfl <;> (intro h'; cases h')

theorem uninitP_kind {c : String} (h : Api.uninitP.kind = .panic c) : c = "uninit" := by
  cases h; rfl

/-- C15, converse: in a store satisfying the invariant, a panic is always one of the two documented
misuses: a length mismatch (class `"length"`) or an uninitialised `Point` input (class `"uninit"`).
In particular a zero-value *receiver* never causes a panic, and operations without `Point` inputs
(`Set` included) never panic. -/
theorem C15_panic_only_misuse (sc : ScalarFacts) (sm : ScalarMultFacts) {σ : Store}
    (h : StoreInv σ) {op : Op} {c : String} (hp : (Api.step σ op).2.kind = .panic c) :
    (c = "length" ∧ op.LengthMismatch) ∨ (c = "uninit" ∧ UninitInput σ op) := by
  cases op
  case sSetBytes k s b =>
    exfalso
    simp only [Api.step] at hp
    split at hp
    · rename_i _ x _ hx
      refine ofRes_not_panic ?_ hp
      rcases evalSSet_cases sc k (h.b _ _ hx) with ⟨s', hs', _⟩ | he
      · exact Or.inl ⟨s', hs'⟩
      · exact Or.inr he
    · cases hp
  case pBytes v _ | pBytesMontgomery v _ | pExtCoords v _ _ _ _ =>
    simp only [Api.step] at hp
    split at hp
    · rename_i x hx
      split at hp
      · rename_i hu
        exact Or.inr ⟨uninitP_kind hp, v, List.mem_singleton.mpr rfl, x, hx, hu⟩
      · cases hp
    · cases hp
  case p1 o v p =>
    simp only [Api.step] at hp
    split at hp
    · rename_i _ x _ hx
      split at hp
      · rename_i hu
        exact Or.inr ⟨uninitP_kind hp, p, List.mem_singleton.mpr rfl, x, hx, hu⟩
      · cases hp
    · cases hp
  case p2 o v p q =>
    simp only [Api.step] at hp
    split at hp
    · rename_i _ x y _ hx hy
      split at hp
      · rename_i hu
        refine Or.inr ⟨uninitP_kind hp, ?_⟩
        rcases Bool.or_eq_true _ _ |>.mp hu with hu | hu
        · exact ⟨p, List.mem_cons_self, x, hx, hu⟩
        · exact ⟨q, List.mem_cons_of_mem _ List.mem_cons_self, y, hy, hu⟩
      · cases hp
    · cases hp
  case pEqual v u =>
    simp only [Api.step] at hp
    split at hp
    · rename_i x y hx hy
      split at hp
      · rename_i hu
        refine Or.inr ⟨uninitP_kind hp, ?_⟩
        rcases Bool.or_eq_true _ _ |>.mp hu with hu | hu
        · exact ⟨v, List.mem_cons_self, x, hx, hu⟩
        · exact ⟨u, List.mem_cons_of_mem _ List.mem_cons_self, y, hy, hu⟩
      · cases hp
    · cases hp
  case pScalarBaseMult v x =>
    exfalso
    simp only [Api.step] at hp
    split at hp
    · rename_i _ k _ hk
      obtain ⟨r, hr, _⟩ := sm.scalarBaseMult k (h.s _ _ hk)
      rw [ofRes_ok_kind hr] at hp; cases hp
    · cases hp
  case pScalarMult v x q =>
    simp only [Api.step] at hp
    split at hp
    · rename_i _ k Q _ hk hQ
      split at hp
      · rename_i hu
        exact Or.inr ⟨uninitP_kind hp, q, List.mem_singleton.mpr rfl, Q, hQ, hu⟩
      · rename_i hu
        exfalso
        have hvQ := (h.p _ _ hQ).valid_of_not_uninit (Bool.eq_false_iff.mpr hu)
        obtain ⟨r, hr, _⟩ := sm.scalarMult k Q (h.s _ _ hk) hvQ
        rw [ofRes_ok_kind hr] at hp; cases hp
    · cases hp
  case pVarTimeDouble v a A b =>
    simp only [Api.step] at hp
    split at hp
    · rename_i _ ka PA kb _ hka hPA hkb
      split at hp
      · rename_i hu
        exact Or.inr ⟨uninitP_kind hp, A, List.mem_singleton.mpr rfl, PA, hPA, hu⟩
      · rename_i hu
        exfalso
        have hvA := (h.p _ _ hPA).valid_of_not_uninit (Bool.eq_false_iff.mpr hu)
        obtain ⟨r, hr, _⟩ :=
          sm.varTimeDoubleScalarBaseMult ka PA kb (h.s _ _ hka) hvA (h.s _ _ hkb)
        rw [ofRes_ok_kind hr] at hp; cases hp
    · cases hp
  case pMSM vt v xs qs =>
    simp only [Api.step] at hp
    split at hp
    · rename_i _ ks Qs _ hks hQs
      split at hp
      · rename_i hlen
        left
        refine ⟨by cases hp; rfl, ?_⟩
        show xs.length ≠ qs.length
        rw [← getAll_length hks, ← getAll_length hQs]
        simpa using hlen
      · rename_i hlen
        split at hp
        · rename_i hany
          obtain ⟨Q, hQ, hu⟩ := List.any_eq_true.mp hany
          obtain ⟨n, hn, e⟩ := getAll_mem hQs hQ
          exact Or.inr ⟨uninitP_kind hp, n, hn, Q, e, hu⟩
        · rename_i hany
          exfalso
          have hlen' : ks.toArray.size = Qs.toArray.size := by simpa using hlen
          have hk : ∀ k ∈ ks.toArray, Scalar.Inv k := fun k hk =>
            getAll_allVals h.s hks k (by simpa using hk)
          have hq : ∀ q ∈ Qs.toArray, P3.Valid q := fun q hq => by
            have hq' : q ∈ Qs := by simpa using hq
            apply (getAll_allVals h.p hQs q hq').valid_of_not_uninit
            cases hu : Point.isUninit q
            · rfl
            · exact absurd (List.any_eq_true.mpr ⟨q, hq', hu⟩) hany
          cases vt
          · obtain ⟨r, hr, _⟩ := sm.multiScalarMult _ _ hlen' hk hq
            simp only [Bool.false_eq_true, if_false] at hp
            rw [ofRes_ok_kind hr] at hp; cases hp
          · obtain ⟨r, hr, _⟩ := sm.varTimeMultiScalarMult _ _ hlen' hk hq
            simp only [if_true] at hp
            rw [ofRes_ok_kind hr] at hp; cases hp
    · cases hp
  all_goals
    exfalso
    revert hp
    simp only [Api.step, Api.okO, Api.badO, Api.errO, Api.retO]
    (repeat' split) <;> (intro h; cases h)

/-- C15: a call with resolved names, no uninitialised `Point` input and no length mismatch, which is
not one of the fallible setters, succeeds — whatever the receiver holds (in particular a zero-value
`Point` is always acceptable as a pure receiver) -/
theorem C15_ok_of_no_misuse (sc : ScalarFacts) (sm : ScalarMultFacts) {σ : Store}
    (h : StoreInv σ) {op : Op} (hb : (Api.step σ op).2.kind ≠ .bad)
    (hu : ¬ UninitInput σ op) (hl : ¬ op.LengthMismatch) (hs : ¬ op.IsFallibleSetter) :
    (Api.step σ op).2.kind = .ok := by
  cases hk : (Api.step σ op).2.kind with
  | ok => rfl
  | err => exact absurd (C14_err_only_setters hk) hs
  | bad => exact absurd hk hb
  | panic c =>
    rcases C15_panic_only_misuse sc sm h hk with ⟨_, h'⟩ | ⟨_, h'⟩
    · exact absurd h' hl
    · exact absurd h' hu

/-! ### concrete instances: a zero-value receiver is fine -/

/-- `v.Add(p, q)` / `v.Subtract(p, q)` with `v` the zero value and valid `p`, `q` succeeds and
leaves a valid point in `v` -/
theorem C15_zero_receiver_p2 (ff : FieldFacts) {σ : Store} {o : POp2} {v p q : String} {P Q : P3}
    (hv : σ.p[v]? = some Point.zeroValue) (hp : σ.p[p]? = some P) (hq : σ.p[q]? = some Q)
    (hP : P.Valid) (hQ : Q.Valid) :
    Api.step σ (.p2 o v p q) = ({ σ with p := σ.p.insert v (Api.evalP2 o P Q) }, Api.okO) ∧
      (Api.evalP2 o P Q).Valid := by
  refine ⟨?_, evalP2_valid ff o hP hQ⟩
  simp only [Api.step, hv, hp, hq, valid_not_isUninit hP, valid_not_isUninit hQ, Bool.or_self,
    Bool.false_eq_true, if_false]

/-- `v.ScalarMult(x, q)` with `v` the zero value, a reduced scalar and a valid `q` succeeds and
leaves a valid point in `v` -/
theorem C15_zero_receiver_scalarMult (sm : ScalarMultFacts) {σ : Store} {v x q : String} {k : W4}
    {Q : P3} (hv : σ.p[v]? = some Point.zeroValue) (hx : σ.s[x]? = some k)
    (hq : σ.p[q]? = some Q) (hk : Scalar.Inv k) (hQ : Q.Valid) :
    ∃ R, Api.step σ (.pScalarMult v x q) = ({ σ with p := σ.p.insert v R }, Api.okO) ∧
      R.Valid := by
  obtain ⟨R, hR, hRv⟩ := sm.scalarMult k Q hk hQ
  refine ⟨R, ?_, hRv⟩
  simp only [Api.step, hv, hx, hq, valid_not_isUninit hQ, Bool.false_eq_true, if_false]
  rw [hR]
  rfl

end EdVerif.Proofs
