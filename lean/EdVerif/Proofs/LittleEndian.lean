import Mathlib.Tactic.Ring
import Mathlib.Tactic.NormNum
import EdVerif.Proofs.ArrayFacts
/-!
Little-endian byte strings. `LE b` (a `foldr`) is the value of the whole string; the proofs work with
`leFrom b off n = Σ_{i<n} b[off+i]! * 256^i`, the value of the `n` bytes from `off` on, and reach `LE`,
`LEbytes` through `LE_eq_leFrom`, `leFrom_digits`, `leFrom_byte`.
-/
namespace EdVerif.Proofs
open EdVerif.Prims

/-- little-endian value of a byte string -/
def LE (b : Bytes) : Nat := b.foldr (fun x acc => x + 256 * acc) 0

/-- the `k` little-endian bytes of `n` -/
def LEbytes (n k : Nat) : Bytes := Array.ofFn (n := k) fun i => n / 256 ^ i.val % 256

/-- every entry is a byte -/
def IsBytes (b : Bytes) : Prop := ∀ i, i < b.size → b[i]! < 256

theorem getElem!_beyond (b : Bytes) (i : Nat) (hi : b.size ≤ i) : b[i]! = 0 := Arr.get_beyond b i hi

theorem IsBytes.all {b : Bytes} (h : IsBytes b) (i : Nat) : b[i]! < 256 := by
  by_cases hi : i < b.size
  · exact h i hi
  · rw [getElem!_beyond b i (Nat.le_of_not_lt hi)]; norm_num

/-- little-endian value of the `n` bytes starting at `off` -/
def leFrom (b : Bytes) (off : Nat) : Nat → Nat
  | 0 => 0
  | n+1 => leFrom b off n + b[off + n]! * 256^n

theorem leFrom_congr (a b : Bytes) (oa ob n : Nat) (h : ∀ i, i < n → a[oa + i]! = b[ob + i]!) :
    leFrom a oa n = leFrom b ob n := by
  induction n with
  | zero => rfl
  | succ n ih =>
    rw [leFrom, leFrom, ih (fun i hi => h i (Nat.lt_succ_of_lt hi)), h n (Nat.lt_succ_self n)]

theorem leFrom_split (b : Bytes) (off n k : Nat) :
    leFrom b off (n + k) = leFrom b off n + 256^n * leFrom b (off + n) k := by
  induction k with
  | zero => simp [leFrom]
  | succ k ih =>
    rw [← Nat.add_assoc, leFrom, ih, leFrom, pow_add, Nat.add_assoc off n k]
    ring

theorem leFrom_succ' (b : Bytes) (off n : Nat) :
    leFrom b off (n + 1) = b[off]! + 256 * leFrom b (off + 1) n := by
  have := leFrom_split b off 1 n
  rw [Nat.add_comm 1 n] at this
  rw [this]
  simp [leFrom]

theorem leFrom_lt (b : Bytes) (off n : Nat) (hb : ∀ i, i < n → b[off + i]! < 256) :
    leFrom b off n < 256^n := by
  induction n with
  | zero => simp [leFrom]
  | succ n ih =>
    have h0 := ih (fun i hi => hb i (Nat.lt_succ_of_lt hi))
    have h1 := hb n (Nat.lt_succ_self n)
    rw [leFrom, pow_succ]
    have h2 : b[off + n]! * 256^n ≤ 255 * 256^n := Nat.mul_le_mul_right _ (by omega)
    generalize b[off + n]! * 256^n = X at *
    generalize 256^n = P at *
    generalize leFrom b off n = A at *
    omega

theorem IsBytes.leFrom_lt {b : Bytes} (hb : IsBytes b) (off n : Nat) : leFrom b off n < 256^n :=
  Proofs.leFrom_lt b off n (fun _ _ => hb.all _)

theorem leFrom_eq_zero (b : Bytes) (off n : Nat) (h : ∀ i, i < n → b[off + i]! = 0) : leFrom b off n = 0 := by
  induction n with
  | zero => rfl
  | succ n ih => rw [leFrom, ih (fun i hi => h i (Nat.lt_succ_of_lt hi)), h n (Nat.lt_succ_self n), Nat.zero_mul]

theorem leFrom_beyond (b : Bytes) (off n : Nat) (h : b.size ≤ off) : leFrom b off n = 0 :=
  leFrom_eq_zero b off n (fun i _ => getElem!_beyond b _ (by omega))

/-- extending past the end adds nothing -/
theorem leFrom_extend (b : Bytes) (n : Nat) (h : b.size ≤ n) : leFrom b 0 n = leFrom b 0 b.size := by
  obtain ⟨k, rfl⟩ := Nat.exists_eq_add_of_le h
  rw [leFrom_split, leFrom_beyond b (0 + b.size) k (by omega)]
  simp

/-- byte `i` of the value -/
theorem leFrom_byte (b : Bytes) (n i : Nat) (hb : ∀ j, j < n → b[j]! < 256) (hi : i < n) :
    leFrom b 0 n / 256^i % 256 = b[i]! := by
  obtain ⟨k, rfl⟩ := Nat.exists_eq_add_of_lt hi
  rw [show i + k + 1 = i + (k + 1) by omega, leFrom_split, leFrom_succ', Nat.zero_add]
  have h1 := leFrom_lt b 0 i (fun j hj => by rw [Nat.zero_add]; exact hb j (by omega))
  have h2 := hb i hi
  have hP : 0 < 256^i := Nat.pow_pos (by norm_num)
  rw [Nat.add_comm, Nat.mul_add_div hP, Nat.div_eq_of_lt h1, Nat.add_zero, Nat.add_mul_mod_self_left,
    Nat.mod_eq_of_lt h2]

theorem pow256 (j : Nat) : (256 : Nat)^j = 2^(8*j) := by
  rw [show (256 : Nat) = 2^8 by norm_num, ← pow_mul]

/-- bytes below `base` are unchanged by adding a multiple of `256^base` -/
theorem byte_low (V M base i : Nat) (hi : i < base) :
    (V + 256^base * M) / 256^i % 256 = V / 256^i % 256 := by
  obtain ⟨d, rfl⟩ : ∃ d, base = i + 1 + d := ⟨base - i - 1, by omega⟩
  have e : 256^(i + 1 + d) * M = 256^i * (256 * (256^d * M)) := by
    rw [pow_add, pow_add, pow_one]; ring
  rw [e, Nat.add_mul_div_left _ _ (Nat.pow_pos (by norm_num)), Nat.add_mul_mod_self_left]

/-- above a value `V < 256^base`, the bytes of `V + 256^base * M` are those of `M` -/
theorem byte_above (V M base j : Nat) (hV : V < 256^base) :
    (V + 256^base * M) / 256^(base + j) = M / 256^j := by
  rw [pow_add, ← Nat.div_div_eq_div_mul, Nat.add_mul_div_left _ _ (Nat.pow_pos (by norm_num)),
    Nat.div_eq_of_lt hV, Nat.zero_add]

/-- the eight bytes at `a` are the word `binary.LittleEndian.Uint64` reads there -/
theorem leFrom_le64 (x : Bytes) (a : Nat) : leFrom x a 8 = Bin.le64 x a := by
  simp only [leFrom, Bin.le64]
  norm_num

theorem le64_lt (b : Bytes) (a : Nat) (hb : ∀ i, i < 8 → b[a + i]! < 256) : Bin.le64 b a < 2^64 := by
  rw [← leFrom_le64]
  exact leFrom_lt b a 8 hb

/-- 32 bytes as four little-endian words -/
theorem leFrom_32_words (b : Bytes) :
    leFrom b 0 32 = Bin.le64 b 0 + 2^64 * Bin.le64 b 8 + 2^128 * Bin.le64 b 16 + 2^192 * Bin.le64 b 24 := by
  rw [show (32 : Nat) = 8 + (8 + (8 + 8)) by rfl, leFrom_split, leFrom_split, leFrom_split,
    leFrom_le64, leFrom_le64, leFrom_le64, leFrom_le64]
  norm_num
  ring

/-- bytes that are the base-256 digits of `N` have the value `N mod 256^n` -/
theorem leFrom_digits (b : Bytes) (N n : Nat) (h : ∀ i, i < n → b[i]! = N / 256^i % 256) :
    leFrom b 0 n = N % 256^n := by
  induction n with
  | zero => simp [leFrom, Nat.mod_one]
  | succ n ih =>
    rw [leFrom, ih (fun i hi => h i (Nat.lt_succ_of_lt hi)), Nat.zero_add, h n (Nat.lt_succ_self n),
      pow_succ, Nat.mod_mul, Nat.mul_comm]

theorem foldr_eq_leFrom (l : List Nat) :
    l.foldr (fun x acc => x + 256 * acc) 0 = leFrom l.toArray 0 l.length := by
  induction l with
  | nil => rfl
  | cons a t ih =>
    have tail : leFrom t.toArray 0 t.length = leFrom (a :: t).toArray (0 + 1) t.length := by
      apply leFrom_congr
      intro i _
      simp [Nat.add_comm 1 i]
    rw [List.foldr_cons, ih, List.length_cons, leFrom_succ', tail]
    simp

theorem LE_eq_leFrom (b : Bytes) : LE b = leFrom b 0 b.size := by
  rw [LE, ← Array.foldr_toList, foldr_eq_leFrom]
  simp

theorem LEbytes_size (n k : Nat) : (LEbytes n k).size = k := by simp [LEbytes]

theorem LEbytes_getElem! (n : Nat) {k i : Nat} (h : i < k) :
    (LEbytes n k)[i]! = n / 256 ^ i % 256 := by
  simp [LEbytes, h]

theorem LEbytes_isBytes (n k : Nat) : IsBytes (LEbytes n k) := by
  intro i hi
  rw [LEbytes_size] at hi
  rw [LEbytes_getElem! n hi]
  exact Nat.mod_lt _ (by norm_num)

/-- a byte string is `LEbytes n k` when its `k` entries are the digits of `n` -/
theorem eq_LEbytes (x : Bytes) (n k : Nat) (hs : x.size = k)
    (hg : ∀ i, i < k → x[i]! = n / 256^i % 256) : x = LEbytes n k := by
  apply Arr.ext! _ _ (by rw [hs, LEbytes_size])
  intro i hi
  rw [hs] at hi
  rw [hg i hi, LEbytes_getElem! n hi]

theorem LE_LEbytes (n k : Nat) : LE (LEbytes n k) = n % 256 ^ k := by
  rw [LE_eq_leFrom, LEbytes_size]
  exact leFrom_digits _ n k (fun i hi => LEbytes_getElem! n hi)

/-- a byte string is the little-endian encoding of its value -/
theorem LEbytes_LE (x : Bytes) (hb : IsBytes x) : LEbytes (LE x) x.size = x := by
  symm
  apply eq_LEbytes _ _ _ rfl
  intro i hi
  rw [LE_eq_leFrom, leFrom_byte x x.size i hb hi]

/-- the `k` little-endian bytes determine the value modulo `256^k` -/
theorem LEbytes_inj {n m k : Nat} (h : LEbytes n k = LEbytes m k) : n % 256 ^ k = m % 256 ^ k := by
  rw [← LE_LEbytes, ← LE_LEbytes, h]

end EdVerif.Proofs
