import Mathlib.Data.ZMod.Basic
import EdVerif.Impl.Fe
import EdVerif.Spec.Curve25519
import EdVerif.Proofs.LittleEndian
/-!
Interfaces between the proof layers, so that they can be developed independently:

* `KernelFacts` — what the kernel layer (`Proofs/FeKernels*.lean`, over `Nat` on the regenerated
  wrap-around kernels) provides;
* `FieldFacts`  — the `ZMod p` view of every `field.Element` operation of the model, which the
  point layer consumes.

Both are `Prop`-valued structures; the final property theorems are closed by
`kernelFacts : KernelFacts` and `fieldFacts : FieldFacts` (no hypotheses left).
-/
namespace EdVerif.Proofs
open EdVerif.Impl EdVerif.Prims EdVerif.Spec

/-- the field element represented by the limbs -/
noncomputable def toZ (e : Fe) : F := ((Fe.val e : Nat) : F)

/-- all five limbs are `uint64` values -/
def Fe.U64 (e : Fe) : Prop := e.l0 < 2^64 ∧ e.l1 < 2^64 ∧ e.l2 < 2^64 ∧ e.l3 < 2^64 ∧ e.l4 < 2^64

/-- Kernel layer: statements over `Nat` about the regenerated kernels (through the `Fe.*` wrappers). -/
structure KernelFacts : Prop where
  tight_inv : ∀ e, Fe.Tight e → Fe.Inv e
  carry : ∀ v, Fe.U64 v → Fe.Tight (Fe.carryPropagate v) ∧ Fe.val (Fe.carryPropagate v) ≡ Fe.val v [MOD P]
  add : ∀ a b, Fe.Inv a → Fe.Inv b → Fe.Tight (Fe.add a b) ∧ Fe.val (Fe.add a b) ≡ Fe.val a + Fe.val b [MOD P]
  sub : ∀ a b, Fe.Inv a → Fe.Inv b → Fe.Tight (Fe.sub a b) ∧ Fe.val (Fe.sub a b) + Fe.val b ≡ Fe.val a [MOD P]
  neg : ∀ a, Fe.Inv a → Fe.Tight (Fe.neg a) ∧ Fe.val (Fe.neg a) + Fe.val a ≡ 0 [MOD P]
  mul : ∀ a b, Fe.Inv a → Fe.Inv b → Fe.Tight (Fe.mul a b) ∧ Fe.val (Fe.mul a b) ≡ Fe.val a * Fe.val b [MOD P]
  square : ∀ a, Fe.Inv a → Fe.Tight (Fe.square a) ∧ Fe.val (Fe.square a) ≡ Fe.val a * Fe.val a [MOD P]
  mult32 : ∀ a y, Fe.Inv a → y < 2^32 → Fe.Inv (Fe.mult32 a y) ∧ Fe.val (Fe.mult32 a y) ≡ Fe.val a * y [MOD P]
  reduce : ∀ a, Fe.Inv a →
    (Fe.reduce a).l0 < 2^51 ∧ (Fe.reduce a).l1 < 2^51 ∧ (Fe.reduce a).l2 < 2^51 ∧ (Fe.reduce a).l3 < 2^51 ∧
    (Fe.reduce a).l4 < 2^51 ∧ Fe.val (Fe.reduce a) = Fe.val a % P
  select : ∀ a b, Fe.U64 a → Fe.U64 b → Fe.select a b 1 = a ∧ Fe.select a b 0 = b
  swap : ∀ a b, Fe.U64 a → Fe.U64 b → Fe.swap a b 1 = (b, a) ∧ Fe.swap a b 0 = (a, b)
  zero : Fe.zero = ⟨0, 0, 0, 0, 0⟩
  one : Fe.one = ⟨1, 0, 0, 0, 0⟩
  setBytes : ∀ x, x.size = 32 → IsBytes x →
    ∃ e, Fe.setBytes x = some e ∧ e.l0 < 2^51 ∧ e.l1 < 2^51 ∧ e.l2 < 2^51 ∧ e.l3 < 2^51 ∧ e.l4 < 2^51 ∧
      Fe.val e = LE x % 2^255
  setBytes_len : ∀ x, x.size ≠ 32 → Fe.setBytes x = none
  setWideBytes : ∀ x, x.size = 64 → IsBytes x →
    ∃ e, Fe.setWideBytes x = some e ∧ Fe.Tight e ∧ Fe.val e ≡ LE x [MOD P]
  setWideBytes_len : ∀ x, x.size ≠ 64 → Fe.setWideBytes x = none
  bytes : ∀ a, Fe.Inv a → Fe.bytes a = LEbytes (Fe.val a % P) 32

/-- Field layer: the `ZMod p` view consumed by the point layer. -/
structure FieldFacts : Prop where
  zero : Fe.Inv Fe.zero ∧ toZ Fe.zero = 0
  one : Fe.Inv Fe.one ∧ toZ Fe.one = 1
  rz : Fe.Inv Fe.rz ∧ toZ Fe.rz = 0
  sqrtM1 : Fe.Inv Fe.sqrtM1 ∧ toZ Fe.sqrtM1 = Spec.sqrtM1
  add : ∀ a b, Fe.Inv a → Fe.Inv b → Fe.Inv (Fe.add a b) ∧ toZ (Fe.add a b) = toZ a + toZ b
  sub : ∀ a b, Fe.Inv a → Fe.Inv b → Fe.Inv (Fe.sub a b) ∧ toZ (Fe.sub a b) = toZ a - toZ b
  neg : ∀ a, Fe.Inv a → Fe.Inv (Fe.neg a) ∧ toZ (Fe.neg a) = - toZ a
  mul : ∀ a b, Fe.Inv a → Fe.Inv b → Fe.Inv (Fe.mul a b) ∧ toZ (Fe.mul a b) = toZ a * toZ b
  square : ∀ a, Fe.Inv a → Fe.Inv (Fe.square a) ∧ toZ (Fe.square a) = toZ a ^ 2
  mult32 : ∀ a y, Fe.Inv a → y < 2^32 → Fe.Inv (Fe.mult32 a y) ∧ toZ (Fe.mult32 a y) = toZ a * (y : F)
  invert : ∀ a, Fe.Inv a → Fe.Inv (Fe.invert a) ∧ toZ (Fe.invert a) = (toZ a)⁻¹
  pow22523 : ∀ a, Fe.Inv a → Fe.Inv (Fe.pow22523 a) ∧ toZ (Fe.pow22523 a) = toZ a ^ (2^252 - 3)
  select : ∀ a b, Fe.Inv a → Fe.Inv b → Fe.select a b 1 = a ∧ Fe.select a b 0 = b
  swap : ∀ a b, Fe.Inv a → Fe.Inv b → Fe.swap a b 1 = (b, a) ∧ Fe.swap a b 0 = (a, b)
  bytes : ∀ a, Fe.Inv a → Fe.bytes a = LEbytes (toZ a).val 32
  equal : ∀ a b, Fe.Inv a → Fe.Inv b → Fe.equal a b = if toZ a = toZ b then 1 else 0
  isNegative : ∀ a, Fe.Inv a → Fe.isNegative a = (toZ a).val % 2
  absolute : ∀ a, Fe.Inv a → Fe.Inv (Fe.absolute a) ∧
    toZ (Fe.absolute a) = if (toZ a).val % 2 = 1 then - toZ a else toZ a
  setBytes : ∀ x, x.size = 32 → IsBytes x →
    ∃ e, Fe.setBytes x = some e ∧ Fe.Inv e ∧ toZ e = ((LE x % 2^255 : Nat) : F)
  setBytes_len : ∀ x, x.size ≠ 32 → Fe.setBytes x = none
  setWideBytes : ∀ x, x.size = 64 → IsBytes x →
    ∃ e, Fe.setWideBytes x = some e ∧ Fe.Inv e ∧ toZ e = ((LE x : Nat) : F)
  setWideBytes_len : ∀ x, x.size ≠ 64 → Fe.setWideBytes x = none

end EdVerif.Proofs
