import Mathlib.Algebra.BigOperators.Group.Finset.Basic
import Mathlib.Algebra.BigOperators.Group.Finset.Piecewise
import Mathlib.Algebra.BigOperators.Ring.Finset
import Mathlib.Tactic.Ring
import Mathlib.Tactic.Linarith
import Mathlib.Tactic.NormNum
import EdVerif.Impl.Scalar
import EdVerif.Proofs.LittleEndian
/-!
C01, digit layer (part 1): the signed radix-16 recoding `signedRadix16` of `scalar.go`.

`radix16OfBytes b` is *exactly* the computation `Impl.Scalar.signedRadix16` performs after
`b := bytes s` and the high-bit guard (`signedRadix16_eq`, by unfolding).

Sums are `Finset.sum` over `Finset.range`, in `ℤ`:
`∑ i ∈ Finset.range 64, d[i]! * 16 ^ i = (leFrom b 0 32 : ℤ)`, where `leFrom b 0 32` is the little-endian value of the 32 bytes.
-/
namespace EdVerif.Proofs
open EdVerif.Prims EdVerif.Impl EdVerif.Impl.Scalar
open Finset

theorem leFrom_eq_sum (b : Bytes) (n : Nat) : leFrom b 0 n = ∑ i ∈ range n, b[i]! * 256 ^ i := by
  induction n with
  | zero => rfl
  | succ n ih => rw [leFrom, ih, sum_range_succ, Nat.zero_add]

theorem get_map_range (f : Nat → Int) (n k : Nat) (h : k < n) :
    ((List.range n).toArray.map f)[k]! = f k := by
  simp [h]

/-- changing one entry of a weighted sum -/
theorem sum_update (f w : ℕ → ℤ) (n i : ℕ) (v : ℤ) (hi : i < n) :
    ∑ j ∈ range n, (if j = i then v else f j) * w j
      = ∑ j ∈ range n, f j * w j + (v - f i) * w i := by
  have h : ∀ j, (if j = i then v else f j) * w j
      = f j * w j + (if j = i then (v - f i) * w i else 0) := by
    intro j
    by_cases hj : j = i
    · subst hj; simp only [if_true]; ring
    · simp only [if_neg hj]; ring
  simp only [h]
  rw [sum_add_distrib, sum_ite_eq' (range n) i (fun _ => (v - f i) * w i)]
  simp [hi]

/-- weighted digit sum of an array after `set!` -/
theorem sum_set! (a : Array Int) (w : ℕ → ℤ) (n i : ℕ) (v : ℤ) (hi : i < n) (hs : i < a.size) :
    ∑ j ∈ range n, (a.set! i v)[j]! * w j
      = ∑ j ∈ range n, a[j]! * w j + (v - a[i]!) * w i := by
  simp only [Arr.get_set!_of_lt a i _ v hs]
  exact sum_update (fun j => a[j]!) w n i v hi

/-- splitting a sum over `range (2n)` into even and odd indices -/
theorem sum_range_even_odd {M : Type*} [AddCommMonoid M] (f : ℕ → M) (n : ℕ) :
    ∑ i ∈ range (2 * n), f i = ∑ k ∈ range n, (f (2 * k) + f (2 * k + 1)) := by
  induction n with
  | zero => simp
  | succ n ih =>
    have : 2 * (n + 1) = 2 * n + 1 + 1 := by ring
    rw [this, sum_range_succ, sum_range_succ, ih, sum_range_succ]
    rw [add_assoc]

/-! ### int8 wrap -/

theorem wrap8_id (x : Int) (h : -128 ≤ x ∧ x < 128) : wrap8 x = x := by
  unfold wrap8; omega

theorem wrap8_sub (a b : Int) : wrap8 (wrap8 a - wrap8 b) = wrap8 (a - b) := by
  unfold wrap8; omega

/-! ### signedRadix16 -/

/-- unsigned radix-16 digits -/
def radix16Init (b : Bytes) : Array Int :=
  (List.range 64).toArray.map fun k =>
    if k % 2 == 0 then ((b[k / 2]! &&& 15 : Nat) : Int) else (((b[k / 2]! >>> 4) &&& 15 : Nat) : Int)

/-- one recentring step -/
def radix16Step (d : Array Int) (i : Nat) : Array Int :=
  let carry := wrap8 ((wrap8 (d[i]! + 8)) / 16)
  let d := d.set! i (wrap8 (d[i]! - wrap8 (carry * 16)))
  d.set! (i+1) (wrap8 (d[i+1]! + carry))

/-- the computation of `signedRadix16` on the byte string -/
def radix16OfBytes (b : Bytes) : Array Int :=
  (List.range 63).foldl radix16Step (radix16Init b)

theorem signedRadix16_eq (s : W4) (h : (bytes s)[31]! ≤ 127) :
    signedRadix16 s = .ok (radix16OfBytes (bytes s)) := by
  unfold signedRadix16
  simp only [if_neg (Nat.not_lt.mpr h)]
  rfl

theorem signedRadix16_panic (s : W4) (h : 127 < (bytes s)[31]!) :
    signedRadix16 s = .panic "highbit" := by
  unfold signedRadix16
  simp only [if_pos h]

/-- nibble `k` of the byte string -/
def nib (b : Bytes) (k : Nat) : Int :=
  if k % 2 = 0 then ((b[k / 2]! % 16 : Nat) : Int) else ((b[k / 2]! / 16 : Nat) : Int)

theorem radix16Init_get (b : Bytes) (hb : ∀ i < 32, b[i]! < 256) (k : Nat) (hk : k < 64) :
    (radix16Init b)[k]! = nib b k := by
  unfold radix16Init
  rw [get_map_range _ _ _ hk]
  unfold nib
  have h15 : ∀ x : Nat, x &&& 15 = x % 16 := fun x => Nat.and_two_pow_sub_one_eq_mod x 4
  have hlt : b[k / 2]! < 256 := hb _ (by omega)
  by_cases h : k % 2 = 0
  · simp only [h, beq_self_eq_true, if_true, h15]
  · have h' : (k % 2 == 0) = false := by simp [h]
    simp only [h', if_neg h, h15, Nat.shiftRight_eq_div_pow]
    norm_num
    omega

theorem radix16Init_size (b : Bytes) : (radix16Init b).size = 64 := by
  simp [radix16Init]

theorem nib_bounds (b : Bytes) (hb : ∀ i < 32, b[i]! < 256) (k : Nat) (hk : k < 64) :
    0 ≤ nib b k ∧ nib b k ≤ 15 := by
  unfold nib
  have hlt : b[k / 2]! < 256 := hb _ (by omega)
  split <;> omega

theorem nib_top (b : Bytes) (h31 : b[31]! ≤ 127) : nib b 63 ≤ 7 := by
  unfold nib
  simp only [show (63 % 2 = 0) = False by simp, if_false, show 63 / 2 = 31 by rfl]
  omega

theorem nib_sum (b : Bytes) :
    ∑ k ∈ range 64, nib b k * 16 ^ k = (leFrom b 0 32 : ℤ) := by
  rw [leFrom_eq_sum, show (64 : ℕ) = 2 * 32 by rfl, sum_range_even_odd, Nat.cast_sum]
  apply sum_congr rfl
  intro i _
  have h1 : nib b (2 * i) = ((b[i]! % 16 : Nat) : Int) := by
    unfold nib
    rw [if_pos (by omega), show 2 * i / 2 = i by omega]
  have h2 : nib b (2 * i + 1) = ((b[i]! / 16 : Nat) : Int) := by
    unfold nib
    rw [if_neg (by omega), show (2 * i + 1) / 2 = i by omega]
  have h3 : (b[i]! : ℤ) = ((b[i]! % 16 : Nat) : ℤ) + 16 * ((b[i]! / 16 : Nat) : ℤ) := by
    omega
  rw [h1, h2, pow_succ, pow_mul, Nat.cast_mul, Nat.cast_pow, h3]
  generalize ((b[i]! % 16 : Nat) : ℤ) = u
  generalize ((b[i]! / 16 : Nat) : ℤ) = v
  have h4 : (16 : ℤ) ^ 2 = 256 := by norm_num
  rw [h4]
  simp only [Nat.cast_ofNat]
  ring

/-- loop invariant of the recentring loop, before iteration `i` -/
structure Radix16Inv (b : Bytes) (i : Nat) (d : Array Int) : Prop where
  size : d.size = 64
  lo : ∀ j < i, -8 ≤ d[j]! ∧ d[j]! < 8
  cur : 0 ≤ d[i]! ∧ d[i]! ≤ nib b i + 1
  hi : ∀ j, i < j → j < 64 → d[j]! = nib b j
  sum : ∑ j ∈ range 64, d[j]! * 16 ^ j = (leFrom b 0 32 : ℤ)

theorem radix16Inv_init (b : Bytes) (hb : ∀ i < 32, b[i]! < 256) :
    Radix16Inv b 0 (radix16Init b) where
  size := radix16Init_size b
  lo := fun j hj => absurd hj (Nat.not_lt_zero j)
  cur := by
    rw [radix16Init_get b hb 0 (by omega)]
    have := nib_bounds b hb 0 (by omega)
    omega
  hi := fun j _ hj => radix16Init_get b hb j hj
  sum := by
    rw [← nib_sum b]
    apply sum_congr rfl
    intro j hj
    rw [radix16Init_get b hb j (mem_range.mp hj)]

/-- arithmetic of one step on the two affected digits -/
theorem radix16_step_arith (x y : Int) (hx : 0 ≤ x ∧ x ≤ 16) (hy : 0 ≤ y ∧ y ≤ 15) :
    let carry := wrap8 ((wrap8 (x + 8)) / 16)
    (carry = 0 ∨ carry = 1) ∧
    wrap8 (x - wrap8 (carry * 16)) = x - 16 * carry ∧
    (-8 ≤ x - 16 * carry ∧ x - 16 * carry < 8) ∧
    wrap8 (y + carry) = y + carry := by
  unfold wrap8
  omega

theorem radix16Inv_step (b : Bytes) (hb : ∀ i < 32, b[i]! < 256) (i : Nat) (hi : i < 63)
    (d : Array Int) (h : Radix16Inv b i d) : Radix16Inv b (i + 1) (radix16Step d i) := by
  obtain ⟨hsize, hlo, hcur, hhi, hsum⟩ := h
  have hn1 := nib_bounds b hb i (by omega)
  have hn2 := nib_bounds b hb (i + 1) (by omega)
  have hy : d[i + 1]! = nib b (i + 1) := hhi (i + 1) (by omega) (by omega)
  obtain ⟨hc, hx', hxr, hy'⟩ := radix16_step_arith d[i]! d[i + 1]! (by omega) (by omega)
  -- name the carry
  generalize hcdef : wrap8 ((wrap8 (d[i]! + 8)) / 16) = c at hc hx' hxr hy'
  have hstep : radix16Step d i = (d.set! i (d[i]! - 16 * c)).set! (i + 1) (d[i + 1]! + c) := by
    unfold radix16Step
    simp only [hcdef]
    rw [hx']
    have hne : ((d.set! i (d[i]! - 16 * c))[i + 1]!) = d[i + 1]! := by
      rw [Arr.get_set!_of_lt d i (i + 1) _ (by omega)]
      simp
    rw [hne, hy']
  have hs1 : (d.set! i (d[i]! - 16 * c)).size = 64 := by rw [Array.size_set!]; exact hsize
  have hget : ∀ j, (radix16Step d i)[j]!
      = if j = i + 1 then d[i + 1]! + c else if j = i then d[i]! - 16 * c else d[j]! := by
    intro j
    rw [hstep, Arr.get_set!_of_lt _ (i + 1) j _ (by omega), Arr.get_set!_of_lt d i j _ (by omega)]
  refine ⟨?_, ?_, ?_, ?_, ?_⟩
  · rw [hstep, Array.size_set!, hs1]
  · intro j hj
    rw [hget j]
    by_cases h1 : j = i
    · subst h1
      rw [if_neg (by omega), if_pos rfl]
      exact hxr
    · rw [if_neg (by omega), if_neg h1]
      exact hlo j (by omega)
  · rw [hget (i + 1), if_pos rfl, hy]
    omega
  · intro j h1 h2
    rw [hget j, if_neg (by omega), if_neg (by omega)]
    exact hhi j (by omega) h2
  · rw [hstep, sum_set! _ _ 64 (i + 1) _ (by omega) (by omega),
      sum_set! d _ 64 i _ (by omega) (by omega), hsum]
    have hne : ((d.set! i (d[i]! - 16 * c))[i + 1]!) = d[i + 1]! := by
      rw [Arr.get_set!_of_lt d i (i + 1) _ (by omega)]
      simp
    rw [hne, pow_succ]
    ring

theorem radix16Inv_fold (b : Bytes) (hb : ∀ i < 32, b[i]! < 256) (n : Nat) (hn : n ≤ 63) :
    Radix16Inv b n ((List.range n).foldl radix16Step (radix16Init b)) := by
  induction n with
  | zero => exact radix16Inv_init b hb
  | succ n ih =>
    rw [List.range_succ, List.foldl_append]
    exact radix16Inv_step b hb n (by omega) _ (ih (by omega))

/-- **signedRadix16 is correct**: 64 digits, `d[i] ∈ [-8, 8)` for `i < 63`, `d[63] ∈ [0, 8]`,
and `∑ d[i] 16^i = leFrom b 0 32`, for every byte string with `b[31] ≤ 127` (i.e. `leFrom b 0 32 < 2^255`).
In particular the `int8` wrap never fires. -/
theorem radix16_spec (b : Bytes) (hb : ∀ i < 32, b[i]! < 256) (h31 : b[31]! ≤ 127) :
    (radix16OfBytes b).size = 64 ∧
    (∀ i < 63, (-8 : ℤ) ≤ (radix16OfBytes b)[i]! ∧ (radix16OfBytes b)[i]! < 8) ∧
    ((0 : ℤ) ≤ (radix16OfBytes b)[63]! ∧ (radix16OfBytes b)[63]! ≤ 8) ∧
    ∑ i ∈ range 64, (radix16OfBytes b)[i]! * 16 ^ i = (leFrom b 0 32 : ℤ) := by
  have h := radix16Inv_fold b hb 63 (le_refl _)
  have ht := nib_top b h31
  refine ⟨h.size, h.lo, ⟨h.cur.1, ?_⟩, h.sum⟩
  have := h.cur.2
  unfold radix16OfBytes
  omega

/-- all digits are in `[-8, 8]` (the form used by table selection) -/
theorem radix16_digit_range (b : Bytes) (hb : ∀ i < 32, b[i]! < 256) (h31 : b[31]! ≤ 127)
    (i : Nat) (hi : i < 64) :
    (-8 : ℤ) ≤ (radix16OfBytes b)[i]! ∧ (radix16OfBytes b)[i]! ≤ 8 := by
  obtain ⟨_, h1, h2, _⟩ := radix16_spec b hb h31
  by_cases h : i < 63
  · have := h1 i h; omega
  · have : i = 63 := by omega
    subst this; omega

theorem le32_lt (b : Bytes) (hb : ∀ i < 32, b[i]! < 256) (h31 : b[31]! ≤ 127) : leFrom b 0 32 < 2 ^ 255 := by
  have h1 := leFrom_lt b 0 31 (fun i hi => by rw [Nat.zero_add]; exact hb i (by omega))
  have e : leFrom b 0 32 = leFrom b 0 31 + b[31]! * 256 ^ 31 := by rw [leFrom, Nat.zero_add]
  have h3 : b[31]! * 256 ^ 31 ≤ 127 * 256 ^ 31 := Nat.mul_le_mul_right _ h31
  have : (2 : ℕ) ^ 255 = 256 ^ 31 * 128 := by norm_num
  rw [e, this]
  linarith

end EdVerif.Proofs
