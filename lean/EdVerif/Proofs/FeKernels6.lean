import EdVerif.Proofs.FeKernels5
import Batteries.Data.Nat.Bitwise.Lemmas
/-!
C09/C10 kernel layer, part 6 (extras on the hand-written model): `Equal` (constant-time compare of
the canonical encodings) decides congruence mod `P`; `Absolute`.
-/
namespace EdVerif.Proofs
open EdVerif EdVerif.Prims EdVerif.Gen EdVerif.Impl

theorem ctFold_zero_iff (a b : Bytes) : ∀ n,
    (List.range n).foldl (fun acc i => acc ||| (a[i]! ^^^ b[i]!)) 0 = 0 ↔
      ∀ i, i < n → a[i]! = b[i]! := by
  intro n
  induction n with
  | zero => simp
  | succ n ih =>
    rw [List.range_succ, List.foldl_append, List.foldl_cons, List.foldl_nil, Nat.or_eq_zero_iff, ih,
      Nat.xor_eq_zero_iff]
    constructor
    · rintro ⟨h1, h2⟩ i hi
      by_cases h : i = n
      · subst h; exact h2
      · exact h1 i (by omega)
    · intro h
      exact ⟨fun i hi => h i (by omega), h n (by omega)⟩

/-- `subtle.ConstantTimeCompare` on two strings of the same length -/
theorem ctCompare_spec (a b : Bytes) (h : a.size = b.size) :
    Fe.ctCompare a b = if (∀ i, i < a.size → a[i]! = b[i]!) then 1 else 0 := by
  have hne : (a.size != b.size) = false := by simp [h]
  simp only [Fe.ctCompare, hne, Bool.false_eq_true, if_false]
  by_cases hall : ∀ i, i < a.size → a[i]! = b[i]!
  · rw [if_pos hall, (ctFold_zero_iff a b a.size).2 hall]
    rfl
  · rw [if_neg hall]
    have hnz : (List.range a.size).foldl (fun acc i => acc ||| (a[i]! ^^^ b[i]!)) 0 ≠ 0 :=
      fun h0 => hall ((ctFold_zero_iff a b a.size).1 h0)
    have : ((List.range a.size).foldl (fun acc i => acc ||| (a[i]! ^^^ b[i]!)) 0 == 0) = false := by
      simpa using hnz
    rw [this]
    rfl

/-- `Equal` decides equality of residues -/
theorem fe_equal_spec {a b : Prims.Fe} (ha : U64 a) (hb : U64 b) :
    Fe.equal a b = if val a ≡ val b [MOD P] then 1 else 0 := by
  obtain ⟨sa, ga⟩ := bytes_spec' ha
  obtain ⟨sb, gb⟩ := bytes_spec' hb
  rw [Fe.equal, ctCompare_spec _ _ (sb.trans sa.symm), sb]
  by_cases h : val a ≡ val b [MOD P]
  · have e : Fe.bytes a = Fe.bytes b := bytes_congr ha hb h
    rw [if_pos h, e, if_pos (fun _ _ => rfl)]
  · rw [if_neg h, if_neg]
    intro hall
    apply h
    have e1 := LE_bytes ha
    have e2 := LE_bytes hb
    rw [LE_eq_leFrom, sa] at e1
    rw [LE_eq_leFrom, sb] at e2
    unfold Nat.ModEq
    rw [← e1, ← e2]
    exact (leFrom_congr _ _ 0 0 32 (fun i hi => by rw [Nat.zero_add]; exact hall i hi)).symm

theorem fe_equal_one_iff {a b : Prims.Fe} (ha : U64 a) (hb : U64 b) :
    Fe.equal a b = 1 ↔ val a ≡ val b [MOD P] := by
  rw [fe_equal_spec ha hb]
  by_cases h : val a ≡ val b [MOD P]
  · simp [h]
  · simp [h]

theorem fe_equal_01 {a b : Prims.Fe} (ha : U64 a) (hb : U64 b) : Fe.equal a b = 0 ∨ Fe.equal a b = 1 := by
  rw [fe_equal_spec ha hb]
  by_cases h : val a ≡ val b [MOD P]
  · simp [h]
  · simp [h]

theorem isNegative_01 {a : Prims.Fe} (ha : U64 a) : Fe.isNegative a = 0 ∨ Fe.isNegative a = 1 := by
  rw [isNegative_spec ha]; omega

/-- `Absolute`: the representative of `±u` whose canonical form is even -/
theorem fe_absolute_spec {u : Prims.Fe} (hu : Inv u) :
    Inv (Fe.absolute u) ∧
    (val u % P % 2 = 0 → Fe.absolute u = u) ∧
    (val u % P % 2 = 1 → Fe.absolute u = Fe.neg u) := by
  have hn := neg_spec hu
  have un : U64 (Fe.neg u) := tight_u64 hn.1
  have uu : U64 u := inv_U64 hu
  have hs := isNegative_spec uu
  unfold Fe.absolute
  rcases isNegative_01 uu with h | h
  · rw [h, select_zero _ uu]
    exact ⟨hu, fun _ => rfl, fun h1 => by omega⟩
  · rw [h, select_one _ un]
    exact ⟨tight_inv hn.1, fun h0 => by omega, fun _ => rfl⟩

end EdVerif.Proofs
