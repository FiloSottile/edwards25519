import Mathlib.Algebra.BigOperators.Group.Finset.Basic
import Mathlib.Algebra.Module.BigOperators
import Mathlib.Algebra.Module.Basic
import Mathlib.Tactic.Ring
import Mathlib.Tactic.Abel
import Mathlib.Tactic.Module
import Mathlib.Tactic.Linarith
/-!
C01, generic layer: the loop shapes of the five scalar multiplications of `scalarmult.go`, over an
arbitrary commutative group `G` (Mathlib `AddCommGroup`, `ℤ`-scalar multiplication `•`).

Every theorem is given in *fold form*: a `List.foldl` over `List.range` with exactly the index
arithmetic of the model (`EdVerif.Impl.Point`: `i := 62 - k`, `i := 255 - k`, `i := 2*k+1`, …), and
its right-hand side is the *closed form* `(∑ i ∈ Finset.range n, d i * r^i) • Q`.

All sums are `Finset.sum` over `Finset.range`. No model file is imported here: instantiation with
the curve group goes through `foldl_rel` (a relational fold lemma) below.
-/
namespace EdVerif.Proofs.Loops
open Finset

variable {G : Type*} [AddCommGroup G]

/-! ### Generic fold lemmas -/

/-- Relational fold: if `R` relates the initial states and is preserved by corresponding steps
(for the elements of the list), it relates the results. Used to transport the abstract loop
theorems to the model loops (`R v g` = "model value `v` represents group element `g`"). -/
theorem foldl_rel {α β ι : Type*} (R : α → β → Prop) (f : α → ι → α) (g : β → ι → β)
    (l : List ι) (a : α) (b : β) (h0 : R a b)
    (hstep : ∀ a b, ∀ x ∈ l, R a b → R (f a x) (g b x)) :
    R (l.foldl f a) (l.foldl g b) := by
  induction l generalizing a b with
  | nil => simpa using h0
  | cons x xs ih =>
    simp only [List.foldl_cons]
    apply ih
    · exact hstep a b x (by simp) h0
    · intro a b y hy hab
      exact hstep a b y (by simp [hy]) hab

/-- `v := v + g j` for `j = 0 .. m-1`. -/
theorem foldl_add_terms (g : ℕ → G) (v0 : G) (m : ℕ) :
    (List.range m).foldl (fun v j => v + g j) v0 = v0 + ∑ j ∈ range m, g j := by
  induction m with
  | zero => simp
  | succ m ih =>
    rw [List.range_succ, List.foldl_append, ih, sum_range_succ]
    simp only [List.foldl_cons, List.foldl_nil]
    abel

/-- Horner loop with arbitrary added terms: `acc := r • acc + t i` for `i = n-1` downto `0`. -/
theorem foldl_horner_terms (r : ℤ) (t : ℕ → G) (X : G) (n : ℕ) :
    (List.range n).foldl (fun acc k => r • acc + t (n - 1 - k)) X
      = r ^ n • X + ∑ i ∈ range n, r ^ i • t i := by
  induction n generalizing X with
  | zero => simp
  | succ n ih =>
    rw [List.range_succ_eq_map, List.foldl_cons, List.foldl_map]
    have hf : (fun (acc : G) (k : ℕ) => r • acc + t (n + 1 - 1 - (k + 1)))
        = (fun acc k => r • acc + t (n - 1 - k)) := by
      funext acc k
      have : n + 1 - 1 - (k + 1) = n - 1 - k := by omega
      rw [this]
    have h0 : n + 1 - 1 - 0 = n := by omega
    simp only [Nat.succ_eq_add_one]
    rw [hf, ih, h0, sum_range_succ, pow_succ]
    simp only [smul_add, smul_smul]
    abel

/-- Horner loop whose step is an arbitrary function of `r • acc` and the index, provided that
function adds a term. (Shape: `acc := step (r • acc) i`.) -/
theorem foldl_horner_step (r : ℤ) (step : G → ℕ → G) (t : ℕ → G)
    (hstep : ∀ v i, step v i = v + t i) (X : G) (n : ℕ) :
    (List.range n).foldl (fun acc k => step (r • acc) (n - 1 - k)) X
      = r ^ n • X + ∑ i ∈ range n, r ^ i • t i := by
  have : (fun (acc : G) (k : ℕ) => step (r • acc) (n - 1 - k))
      = (fun acc k => r • acc + t (n - 1 - k)) := by
    funext acc k; rw [hstep]
  rw [this, foldl_horner_terms]

/-- four doublings are multiplication by 16 (`mul16` of the model). -/
theorem double4 (x : G) :
    ((x + x) + (x + x)) + ((x + x) + (x + x)) + (((x + x) + (x + x)) + ((x + x) + (x + x)))
      = (16 : ℤ) • x := by
  module

theorem double4' (x y z u : G) (hy : y = x + x) (hz : z = y + y) (hu : u = z + z) :
    u + u = (16 : ℤ) • x := by
  subst hy hz hu; module

theorem double1 (x : G) : x + x = (2 : ℤ) • x := by module

/-- the variable-time NAF branch: add `T x` if `x > 0`, subtract `T (-x)` if `x < 0`. -/
theorem naf_branch (T : ℤ → G) (Q : G) (x : ℤ) (v : G)
    (hT : ∀ y : ℤ, 0 < y → (y = x ∨ y = -x) → T y = y • Q) :
    (if x > 0 then v + T x else if x < 0 then v - T (-x) else v) = v + x • Q := by
  rcases lt_trichotomy x 0 with h | h | h
  · have h1 : ¬ x > 0 := by linarith
    rw [if_neg h1, if_pos h, hT (-x) (by linarith) (Or.inr rfl)]
    module
  · subst h; simp
  · rw [if_pos h, hT x h (Or.inl rfl)]

/-! ### 1. Horner, radix `r` (ScalarMult shape) -/

/-- `acc := d n • Q; for i = n-1 downto 0: acc := r • acc + d i • Q`. -/
def horner (r : ℤ) (d : ℕ → ℤ) (Q : G) (n : ℕ) : G :=
  (List.range n).foldl (fun acc k => r • acc + d (n - 1 - k) • Q) (d n • Q)

theorem horner_eq (r : ℤ) (d : ℕ → ℤ) (Q : G) (n : ℕ) :
    horner r d Q n = (∑ i ∈ range (n + 1), d i * r ^ i) • Q := by
  unfold horner
  rw [foldl_horner_terms r (fun i => d i • Q), sum_range_succ, add_smul, sum_smul]
  simp only [smul_smul]
  rw [add_comm]
  congr 1
  · apply sum_congr rfl
    intro i _
    rw [mul_comm]
  · rw [mul_comm]

/-- exactly the `scalarMultDigits` loop: `tmp1 := identity + sel d[63]`, then for `k < 63`,
`i := 62 - k`, `tmp1 := 16 • tmp1 + sel d[i]`. -/
theorem horner16_fold63 (d : ℕ → ℤ) (Q : G) :
    (List.range 63).foldl (fun acc k => (16 : ℤ) • acc + d (62 - k) • Q) (0 + d 63 • Q)
      = (∑ i ∈ range 64, d i * 16 ^ i) • Q := by
  rw [zero_add]
  exact horner_eq 16 d Q 63

/-! ### 2. Comb (ScalarBaseMult shape) -/

/-- splitting a sum over `range (2n)` into even and odd indices -/
theorem sum_range_two_mul {M : Type*} [AddCommMonoid M] (f : ℕ → M) (n : ℕ) :
    ∑ i ∈ range (2 * n), f i = ∑ k ∈ range n, f (2 * k) + ∑ k ∈ range n, f (2 * k + 1) := by
  induction n with
  | zero => simp
  | succ n ih =>
    have : 2 * (n + 1) = 2 * n + 1 + 1 := by ring
    rw [this, sum_range_succ, sum_range_succ, ih, sum_range_succ, sum_range_succ]
    abel

/-- `v := Σ_{k<n} d(2k+1) • T k; v := 16 • v; v := v + Σ_{k<n} d(2k) • T k`, tables
`T k = 256^k • B`; fold form with the index expressions of `scalarBaseMultDigits`
(`i := 2*k+1`, table `i / 2`). -/
theorem comb16_eq (d : ℕ → ℤ) (B : G) (T : ℕ → G) (n : ℕ)
    (hT : ∀ k < n, T k = (256 : ℤ) ^ k • B) :
    (List.range n).foldl (fun v k => v + d (2 * k) • T ((2 * k) / 2))
        ((16 : ℤ) • (List.range n).foldl (fun v k => v + d (2 * k + 1) • T ((2 * k + 1) / 2)) 0)
      = (∑ i ∈ range (2 * n), d i * 16 ^ i) • B := by
  rw [foldl_add_terms (fun k => d (2 * k + 1) • T ((2 * k + 1) / 2)),
    foldl_add_terms (fun k => d (2 * k) • T ((2 * k) / 2)), zero_add, sum_range_two_mul,
    add_smul, sum_smul, sum_smul, smul_sum, add_comm]
  congr 1
  · apply sum_congr rfl
    intro k hk
    have h1 : 2 * k / 2 = k := by omega
    rw [h1, hT k (mem_range.mp hk), smul_smul]
    congr 1
    rw [pow_mul]; norm_num
  · apply sum_congr rfl
    intro k hk
    have h1 : (2 * k + 1) / 2 = k := by omega
    rw [h1, hT k (mem_range.mp hk), smul_smul, smul_smul]
    congr 1
    rw [pow_succ, pow_mul]; norm_num; ring

/-- `scalarBaseMultDigits` shape, `n = 32`, starting from `identity = 0`. -/
theorem comb16_fold32 (d : ℕ → ℤ) (B : G) (T : ℕ → G)
    (hT : ∀ k < 32, T k = (256 : ℤ) ^ k • B) :
    (List.range 32).foldl (fun v k => v + d (2 * k) • T ((2 * k) / 2))
        ((16 : ℤ) • (List.range 32).foldl (fun v k => v + d (2 * k + 1) • T ((2 * k + 1) / 2)) 0)
      = (∑ i ∈ range 64, d i * 16 ^ i) • B :=
  comb16_eq d B T 32 hT

/-- the table points of `basepointTable`: `p₀ = B`, `p_{k+1} = 2^8 • p_k` (eight doublings). -/
theorem table_points (B : G) (p : ℕ → G) (h0 : p 0 = B)
    (hs : ∀ k, p (k + 1) = (256 : ℤ) • p k) (k : ℕ) : p k = (256 : ℤ) ^ k • B := by
  induction k with
  | zero => simp [h0]
  | succ k ih => rw [hs, ih, smul_smul, pow_succ, mul_comm]

theorem double8 (x : G) :
    (List.range 8).foldl (fun p _ => p + p) x = (256 : ℤ) • x := by
  simp only [List.range, List.range.loop, List.foldl_cons, List.foldl_nil]
  module

/-! ### 3. Multi-scalar Horner (MultiScalarMult shape) -/

/-- `addAll v i`: `for j < m: v := v + d j i • Q j` -/
def addAll (m : ℕ) (d : ℕ → ℕ → ℤ) (Q : ℕ → G) (v : G) (i : ℕ) : G :=
  (List.range m).foldl (fun v j => v + d j i • Q j) v

theorem addAll_eq (m : ℕ) (d : ℕ → ℕ → ℤ) (Q : ℕ → G) (v : G) (i : ℕ) :
    addAll m d Q v i = v + ∑ j ∈ range m, d j i • Q j :=
  foldl_add_terms (fun j => d j i • Q j) v m

/-- `v := addAll 0 n; for i = n-1 downto 0: v := addAll (r • v) i` equals
`Σ_j (Σ_{i ≤ n} d j i r^i) • Q j`. The empty family (`m = 0`) gives `0`. -/
theorem multiHorner_eq (r : ℤ) (m : ℕ) (d : ℕ → ℕ → ℤ) (Q : ℕ → G) (n : ℕ) :
    (List.range n).foldl (fun acc k => addAll m d Q (r • acc) (n - 1 - k)) (addAll m d Q 0 n)
      = ∑ j ∈ range m, (∑ i ∈ range (n + 1), d j i * r ^ i) • Q j := by
  rw [foldl_horner_step r (addAll m d Q) (fun i => ∑ j ∈ range m, d j i • Q j)
    (fun v i => addAll_eq m d Q v i), addAll_eq, zero_add]
  have hj : ∀ j, (∑ i ∈ range (n + 1), d j i * r ^ i) • Q j
      = (r ^ n * d j n) • Q j + ∑ i ∈ range n, (r ^ i * d j i) • Q j := by
    intro j
    rw [sum_range_succ, add_smul, sum_smul, add_comm, mul_comm]
    congr 1
    apply sum_congr rfl
    intro i _
    rw [mul_comm]
  simp only [smul_sum, smul_smul, hj]
  rw [sum_add_distrib, sum_comm (s := range n)]

/-- `multiScalarMultDigits` shape: 64 digits, radix 16, `i := 62 - k`. -/
theorem multiHorner16_fold63 (m : ℕ) (d : ℕ → ℕ → ℤ) (Q : ℕ → G) :
    (List.range 63).foldl (fun acc k => addAll m d Q ((16 : ℤ) • acc) (62 - k)) (addAll m d Q 0 63)
      = ∑ j ∈ range m, (∑ i ∈ range 64, d j i * 16 ^ i) • Q j :=
  multiHorner_eq 16 m d Q 63

theorem multiHorner_empty (r : ℤ) (d : ℕ → ℕ → ℤ) (Q : ℕ → G) (n : ℕ) :
    (List.range n).foldl (fun acc k => addAll 0 d Q (r • acc) (n - 1 - k)) (addAll 0 d Q 0 n)
      = 0 := by
  rw [multiHorner_eq]; simp

/-! ### 4. NAF double-and-add (VarTime shapes) -/

/-- `acc := 0; for i = n-1 downto 0: acc := 2 • acc; acc += da i • A; acc += db i • B`. -/
theorem nafDouble_eq (da db : ℕ → ℤ) (A B : G) (n : ℕ) :
    (List.range n).foldl
        (fun acc k => ((2 : ℤ) • acc + da (n - 1 - k) • A) + db (n - 1 - k) • B) 0
      = (∑ i ∈ range n, da i * 2 ^ i) • A + (∑ i ∈ range n, db i * 2 ^ i) • B := by
  have : (fun (acc : G) (k : ℕ) => ((2 : ℤ) • acc + da (n - 1 - k) • A) + db (n - 1 - k) • B)
      = (fun acc k => (2 : ℤ) • acc + (fun i => da i • A + db i • B) (n - 1 - k)) := by
    funext acc k; simp only [add_assoc]
  rw [this]
  refine (foldl_horner_terms (2 : ℤ) (fun i => da i • A + db i • B) 0 n).trans ?_
  rw [smul_zero, zero_add, sum_smul, sum_smul, ← sum_add_distrib]
  apply sum_congr rfl
  intro i _
  rw [smul_add, smul_smul, smul_smul, mul_comm, mul_comm (2 ^ i)]

/-- `varTimeDoubleDigits` shape: 256 digits, `i := 255 - k`. -/
theorem nafDouble_fold256 (da db : ℕ → ℤ) (A B : G) :
    (List.range 256).foldl
        (fun acc k => ((2 : ℤ) • acc + da (255 - k) • A) + db (255 - k) • B) 0
      = (∑ i ∈ range 256, da i * 2 ^ i) • A + (∑ i ∈ range 256, db i * 2 ^ i) • B :=
  nafDouble_eq da db A B 256

/-- family version: `acc := 0; for i = n-1 downto 0: acc := 2 • acc; for j < m: acc += d j i • Q j` -/
theorem nafMulti_eq (m : ℕ) (d : ℕ → ℕ → ℤ) (Q : ℕ → G) (n : ℕ) :
    (List.range n).foldl
        (fun acc k => (List.range m).foldl (fun v j => v + d j (n - 1 - k) • Q j) ((2 : ℤ) • acc)) 0
      = ∑ j ∈ range m, (∑ i ∈ range n, d j i * 2 ^ i) • Q j := by
  have h := foldl_horner_step (2 : ℤ) (addAll m d Q) (fun i => ∑ j ∈ range m, d j i • Q j)
    (fun v i => addAll_eq m d Q v i) 0 n
  unfold addAll at h
  rw [h, smul_zero, zero_add]
  simp only [smul_sum, smul_smul]
  rw [sum_comm]
  apply sum_congr rfl
  intro j _
  rw [sum_smul]
  apply sum_congr rfl
  intro i _
  rw [mul_comm]

/-- `varTimeMultiDigits` shape: 256 digits, `i := 255 - k`. -/
theorem nafMulti_fold256 (m : ℕ) (d : ℕ → ℕ → ℤ) (Q : ℕ → G) :
    (List.range 256).foldl
        (fun acc k => (List.range m).foldl (fun v j => v + d j (255 - k) • Q j) ((2 : ℤ) • acc)) 0
      = ∑ j ∈ range m, (∑ i ∈ range 256, d j i * 2 ^ i) • Q j :=
  nafMulti_eq m d Q 256

end EdVerif.Proofs.Loops
