import Mathlib.Tactic.Ring
import Mathlib.Tactic.Linarith
import Mathlib.Tactic.LinearCombination
import Mathlib.Tactic.NormNum
import Mathlib.Data.Nat.ModEq
import EdVerif.Impl.Fe
/-!
C09/C10 kernel layer, part 1: carry chain, add/sub/neg, select/swap, constants, receiver
independence. All statements are about the GENERATED kernels (`EdVerif.Gen.Field`) through the
wrappers of `EdVerif.Impl.Fe`, on the faithful wrap-around `uint64` model of `EdVerif.Prims`.
Congruences are stated with `Nat.ModEq` (`a ≡ b [MOD P]`).
-/
namespace EdVerif.Proofs
open EdVerif EdVerif.Prims EdVerif.Gen EdVerif.Impl

abbrev P : Nat := EdVerif.P
abbrev val := Fe.val
abbrev Inv := Fe.Inv
abbrev Tight := Fe.Tight

/-- all five limbs are `uint64` values -/
def U64 (e : Prims.Fe) : Prop :=
  e.l0 < 2^64 ∧ e.l1 < 2^64 ∧ e.l2 < 2^64 ∧ e.l3 < 2^64 ∧ e.l4 < 2^64

theorem P_eq : P = 2^255 - 19 := rfl

theorem mask51_eq : (2251799813685247 : Nat) = 2^51 - 1 := by norm_num

theorem and_mask51 (x : Nat) : x &&& 2251799813685247 = x % 2^51 := by
  rw [mask51_eq, Nat.and_two_pow_sub_one_eq_mod]

/-- the additions that fold the carries of five columns into `uint64` limbs do not wrap: the carry of a
column `< 2^111` is `< 2^60`, and that of the top column `< 2^107` times 19 is `< 2^61` -/
theorem fold_nowrap (r q : Nat) (hq : q < 2^111) : (r % 2^51 + q / 2^51) % 2^64 = r % 2^51 + q / 2^51 := by
  omega

theorem fold_nowrap19 (r q : Nat) (hq : q < 2^107) :
    (r % 2^51 + q / 2^51 * 19 % 2^64) % 2^64 = r % 2^51 + q / 2^51 * 19 := by
  omega

/-- exact form: the carry out of the top limb is folded back as `19`, i.e. `c4 * P` is dropped -/
theorem carryGeneric_eq (v : Prims.Fe) (h : U64 v) :
    val (Field.carryPropagateGeneric v) + (v.l4 / 2^51) * P = val v ∧
      Tight (Field.carryPropagateGeneric v) := by
  obtain ⟨l0, l1, l2, l3, l4⟩ := v
  obtain ⟨h0, h1, h2, h3, h4⟩ := h
  simp only [Field.carryPropagateGeneric, Fe.val, Fe.Tight, P, EdVerif.P, U.shr, U.add, U.and, U.mul,
    and_mask51, Nat.shiftRight_eq_div_pow] at *
  rw [fold_nowrap19 l0 l4 (by omega), fold_nowrap l1 l0 (by omega), fold_nowrap l2 l1 (by omega),
    fold_nowrap l3 l2 (by omega), fold_nowrap l4 l3 (by omega)]
  refine ⟨?_, ?_⟩ <;> omega

theorem carryPropagate_eq_generic (v : Prims.Fe) :
    Field.carryPropagate v = Field.carryPropagateGeneric v := rfl

theorem carryGeneric_spec (v : Prims.Fe) (h : U64 v) :
    Tight (Field.carryPropagateGeneric v) ∧ val (Field.carryPropagateGeneric v) ≡ val v [MOD P] := by
  obtain ⟨h1, h2⟩ := carryGeneric_eq v h
  refine ⟨h2, ?_⟩
  unfold Nat.ModEq
  rw [← h1, Nat.add_mul_mod_self_right]

/-- the form in which the kernels use the carry chain: an element with `uint64` limbs and the right residue
is carried to a tight one -/
theorem carry_of_modEq {e : Prims.Fe} {n : Nat} (hu : U64 e) (hv : val e ≡ n [MOD P]) :
    Tight (Field.carryPropagateGeneric e) ∧ val (Field.carryPropagateGeneric e) ≡ n [MOD P] :=
  ⟨(carryGeneric_spec e hu).1, (carryGeneric_spec e hu).2.trans hv⟩

theorem carry_eq (v : Prims.Fe) (h : U64 v) :
    val (Fe.carryPropagate v) + (v.l4 / 2^51) * P = val v ∧ Tight (Fe.carryPropagate v) :=
  carryGeneric_eq v h

theorem carry_spec (v : Prims.Fe) (h : U64 v) :
    Tight (Fe.carryPropagate v) ∧ val (Fe.carryPropagate v) ≡ val v [MOD P] :=
  carryGeneric_spec v h

theorem tight_inv {e : Prims.Fe} (h : Tight e) : Inv e := by
  obtain ⟨l0, l1, l2, l3, l4⟩ := e
  simp only [Tight, Inv, Fe.Tight, Fe.Inv] at *
  omega

theorem inv_U64 {e : Prims.Fe} (h : Inv e) : U64 e := by
  obtain ⟨l0, l1, l2, l3, l4⟩ := e
  simp only [U64, Inv, Fe.Inv] at *
  omega

theorem tight_u64 {e : Prims.Fe} (h : Tight e) : U64 e := inv_U64 (tight_inv h)

theorem add_spec {a b : Prims.Fe} (ha : Inv a) (hb : Inv b) :
    Tight (Fe.add a b) ∧ val (Fe.add a b) ≡ val a + val b [MOD P] := by
  obtain ⟨a0, a1, a2, a3, a4⟩ := a
  obtain ⟨b0, b1, b2, b3, b4⟩ := b
  simp only [Inv, Fe.Inv] at ha hb
  have hc := carryGeneric_spec ⟨(a0 + b0) % 2^64, (a1 + b1) % 2^64, (a2 + b2) % 2^64,
    (a3 + b3) % 2^64, (a4 + b4) % 2^64⟩ (by simp only [U64]; omega)
  simp only [Fe.add, Field.Add, U.add]
  refine ⟨hc.1, hc.2.trans ?_⟩
  simp only [Fe.val]
  have e0 : (a0 + b0) % 2^64 = a0 + b0 := by omega
  have e1 : (a1 + b1) % 2^64 = a1 + b1 := by omega
  have e2 : (a2 + b2) % 2^64 = a2 + b2 := by omega
  have e3 : (a3 + b3) % 2^64 = a3 + b3 := by omega
  have e4 : (a4 + b4) % 2^64 = a4 + b4 := by omega
  rw [e0, e1, e2, e3, e4]
  unfold Nat.ModEq
  congr 1
  ring

/-- `2 * P` limb-wise, the constant added by `Subtract` -/
theorem twoP_limbs : 4503599627370458 + 4503599627370494 * 2^51 + 4503599627370494 * 2^102 +
    4503599627370494 * 2^153 + 4503599627370494 * 2^204 = 2 * P := by
  norm_num [P, EdVerif.P]

/-- one limb of `Subtract`: neither `a + c` nor the subtraction of `b ≤ c` wraps -/
theorem sub_limb (a b c : Nat) (ha : a + c < 2^64) (hb : b ≤ c) :
    ((a + c) % 2^64 + 2^64 - b % 2^64) % 2^64 = a + c - b := by
  omega

theorem sub_spec {a b : Prims.Fe} (ha : Inv a) (hb : Inv b) :
    Tight (Fe.sub a b) ∧ val (Fe.sub a b) + val b ≡ val a [MOD P] := by
  obtain ⟨a0, a1, a2, a3, a4⟩ := a
  obtain ⟨b0, b1, b2, b3, b4⟩ := b
  simp only [Inv, Fe.Inv] at ha hb
  have hc := carryGeneric_spec ⟨a0 + 4503599627370458 - b0, a1 + 4503599627370494 - b1,
    a2 + 4503599627370494 - b2, a3 + 4503599627370494 - b3, a4 + 4503599627370494 - b4⟩
    (by simp only [U64]; omega)
  simp only [Fe.sub, Field.Subtract, U.add, U.sub, carryPropagate_eq_generic]
  rw [sub_limb a0 b0 _ (by omega) (by omega), sub_limb a1 b1 _ (by omega) (by omega),
    sub_limb a2 b2 _ (by omega) (by omega), sub_limb a3 b3 _ (by omega) (by omega),
    sub_limb a4 b4 _ (by omega) (by omega)]
  refine ⟨hc.1, ?_⟩
  have h2 := Nat.ModEq.add_right (b0 + b1 * 2^51 + b2 * 2^102 + b3 * 2^153 + b4 * 2^204) hc.2
  simp only [Fe.val] at h2 ⊢
  refine h2.trans ?_
  -- each truncated subtraction is exact; with the differences named, `omega` has no case to split
  have k0 : a0 + 4503599627370458 - b0 + b0 = a0 + 4503599627370458 := Nat.sub_add_cancel (by omega)
  have k1 : a1 + 4503599627370494 - b1 + b1 = a1 + 4503599627370494 := Nat.sub_add_cancel (by omega)
  have k2 : a2 + 4503599627370494 - b2 + b2 = a2 + 4503599627370494 := Nat.sub_add_cancel (by omega)
  have k3 : a3 + 4503599627370494 - b3 + b3 = a3 + 4503599627370494 := Nat.sub_add_cancel (by omega)
  have k4 : a4 + 4503599627370494 - b4 + b4 = a4 + 4503599627370494 := Nat.sub_add_cancel (by omega)
  have key : a0 + 4503599627370458 - b0 + (a1 + 4503599627370494 - b1) * 2^51 +
      (a2 + 4503599627370494 - b2) * 2^102 + (a3 + 4503599627370494 - b3) * 2^153 +
      (a4 + 4503599627370494 - b4) * 2^204 +
      (b0 + b1 * 2^51 + b2 * 2^102 + b3 * 2^153 + b4 * 2^204) =
      (a0 + a1 * 2^51 + a2 * 2^102 + a3 * 2^153 + a4 * 2^204) + 2 * P := by
    simp only [P, EdVerif.P]
    generalize a0 + 4503599627370458 - b0 = x0 at k0 ⊢
    generalize a1 + 4503599627370494 - b1 = x1 at k1 ⊢
    generalize a2 + 4503599627370494 - b2 = x2 at k2 ⊢
    generalize a3 + 4503599627370494 - b3 = x3 at k3 ⊢
    generalize a4 + 4503599627370494 - b4 = x4 at k4 ⊢
    omega
  rw [key]
  unfold Nat.ModEq
  rw [Nat.add_mul_mod_self_right]

theorem inv_zero : Inv Fe.zero := by decide
theorem inv_one : Inv Fe.one := by decide
theorem tight_zero : Tight Fe.zero := by
  simp only [Tight, Fe.Tight, Fe.zero, Field.Zero, Field.feZero]; omega
theorem tight_one : Tight Fe.one := by
  simp only [Tight, Fe.Tight, Fe.one, Field.One, Field.feOne]; omega
theorem zero_val : val Fe.zero = 0 := by decide
theorem one_val : val Fe.one = 1 := by decide

theorem neg_eq_sub (a : Prims.Fe) : Fe.neg a = Fe.sub Fe.zero a := rfl

theorem neg_spec {a : Prims.Fe} (ha : Inv a) :
    Tight (Fe.neg a) ∧ val (Fe.neg a) + val a ≡ 0 [MOD P] := by
  have h := sub_spec inv_zero ha
  rw [neg_eq_sub]
  rw [zero_val] at h
  exact h


/-- boundary: with limbs of `b` merely `< 2^52` (the source comment's bound) `Subtract` wraps -/
theorem sub_needs_inv : ∃ a b : Prims.Fe, Inv a ∧
    (b.l0 < 2^52 ∧ b.l1 < 2^52 ∧ b.l2 < 2^52 ∧ b.l3 < 2^52 ∧ b.l4 < 2^52) ∧
    ¬ (val (Fe.sub a b) + val b ≡ val a [MOD P]) :=
  ⟨⟨0, 0, 0, 0, 0⟩, ⟨2^52 - 1, 0, 0, 0, 0⟩, by decide, by decide, by decide +kernel⟩

theorem mask_one : Field.mask64Bits 1 = 2^64 - 1 := by decide +kernel
theorem mask_zero : Field.mask64Bits 0 = 0 := by decide +kernel
theorem not_ones : U.not 64 (2^64 - 1) = 0 := by decide +kernel
theorem not_zero : U.not 64 0 = 2^64 - 1 := by decide +kernel

theorem ones_and {x : Nat} (h : x < 2^64) : (2^64 - 1) &&& x = x := by
  rw [Nat.and_comm, Nat.and_two_pow_sub_one_eq_mod, Nat.mod_eq_of_lt h]

theorem sel_one {x : Nat} (y : Nat) (h : x < 2^64) :
    ((2^64 - 1) &&& x) ||| (0 &&& y) = x := by
  rw [ones_and h, Nat.zero_and, Nat.or_zero]

theorem sel_zero (x : Nat) {y : Nat} (h : y < 2^64) :
    (0 &&& x) ||| ((2^64 - 1) &&& y) = y := by
  rw [ones_and h, Nat.zero_and, Nat.zero_or]

theorem select_one {a : Prims.Fe} (b : Prims.Fe) (ha : U64 a) : Fe.select a b 1 = a := by
  obtain ⟨a0, a1, a2, a3, a4⟩ := a
  obtain ⟨h0, h1, h2, h3, h4⟩ := ha
  simp only [Fe.select, Field.Select, mask_one, not_ones, U.or, U.and,
    sel_one _ h0, sel_one _ h1, sel_one _ h2, sel_one _ h3, sel_one _ h4]

theorem select_zero (a : Prims.Fe) {b : Prims.Fe} (hb : U64 b) : Fe.select a b 0 = b := by
  obtain ⟨b0, b1, b2, b3, b4⟩ := b
  obtain ⟨h0, h1, h2, h3, h4⟩ := hb
  simp only [Fe.select, Field.Select, mask_zero, not_zero, U.or, U.and,
    sel_zero _ h0, sel_zero _ h1, sel_zero _ h2, sel_zero _ h3, sel_zero _ h4]

theorem select_spec {a b : Prims.Fe} (ha : U64 a) (hb : U64 b) :
    Fe.select a b 1 = a ∧ Fe.select a b 0 = b :=
  ⟨select_one b ha, select_zero a hb⟩

theorem swp_one_l {x y : Nat} (hx : x < 2^64) (hy : y < 2^64) :
    x ^^^ ((2^64 - 1) &&& (x ^^^ y)) = y := by
  rw [ones_and (Nat.xor_lt_two_pow hx hy), ← Nat.xor_assoc, Nat.xor_self, Nat.zero_xor]

theorem swp_one_r {x y : Nat} (hx : x < 2^64) (hy : y < 2^64) :
    y ^^^ ((2^64 - 1) &&& (x ^^^ y)) = x := by
  rw [Nat.xor_comm x y, swp_one_l hy hx]

theorem swp_zero (x z : Nat) : x ^^^ (0 &&& z) = x := by
  rw [Nat.zero_and, Nat.xor_zero]

theorem swap_one {a b : Prims.Fe} (ha : U64 a) (hb : U64 b) : Fe.swap a b 1 = (b, a) := by
  obtain ⟨a0, a1, a2, a3, a4⟩ := a
  obtain ⟨b0, b1, b2, b3, b4⟩ := b
  obtain ⟨h0, h1, h2, h3, h4⟩ := ha
  obtain ⟨k0, k1, k2, k3, k4⟩ := hb
  simp only [Fe.swap, Field.Swap, mask_one, U.xor, U.and,
    swp_one_l h0 k0, swp_one_l h1 k1, swp_one_l h2 k2, swp_one_l h3 k3, swp_one_l h4 k4,
    swp_one_r h0 k0, swp_one_r h1 k1, swp_one_r h2 k2, swp_one_r h3 k3, swp_one_r h4 k4]

theorem swap_zero (a b : Prims.Fe) : Fe.swap a b 0 = (a, b) := by
  simp only [Fe.swap, Field.Swap, mask_zero, U.xor, U.and, swp_zero]

theorem swap_spec {a b : Prims.Fe} (ha : U64 a) (hb : U64 b) :
    Fe.swap a b 1 = (b, a) ∧ Fe.swap a b 0 = (a, b) :=
  ⟨swap_one ha hb, swap_zero a b⟩

theorem Zero_recv (v v' : Prims.Fe) : Field.Zero v = Field.Zero v' := rfl
theorem One_recv (v v' : Prims.Fe) : Field.One v = Field.One v' := rfl
theorem Set_recv (v v' a : Prims.Fe) : Field.Set v a = Field.Set v' a := rfl
theorem Add_recv (v v' a b : Prims.Fe) : Field.Add v a b = Field.Add v' a b := rfl
theorem Subtract_recv (v v' a b : Prims.Fe) : Field.Subtract v a b = Field.Subtract v' a b := rfl
theorem Negate_recv (v v' a : Prims.Fe) : Field.Negate v a = Field.Negate v' a := rfl
theorem Select_recv (v v' a b : Prims.Fe) (c : Nat) : Field.Select v a b c = Field.Select v' a b c := rfl
theorem feMulGeneric_recv (v v' a b : Prims.Fe) : Field.feMulGeneric v a b = Field.feMulGeneric v' a b := rfl
theorem feSquareGeneric_recv (v v' a : Prims.Fe) : Field.feSquareGeneric v a = Field.feSquareGeneric v' a := rfl
theorem feMul_recv (v v' a b : Prims.Fe) : Field.feMul v a b = Field.feMul v' a b := rfl
theorem feSquare_recv (v v' a : Prims.Fe) : Field.feSquare v a = Field.feSquare v' a := rfl
theorem Multiply_recv (v v' a b : Prims.Fe) : Field.Multiply v a b = Field.Multiply v' a b := rfl
theorem Square_recv (v v' a : Prims.Fe) : Field.Square v a = Field.Square v' a := rfl
theorem Mult32_recv (v v' a : Prims.Fe) (y : Nat) : Field.Mult32 v a y = Field.Mult32 v' a y := rfl
theorem SetBytes_recv (v v' : Prims.Fe) (x : Bytes) : Field.SetBytes v x = Field.SetBytes v' x := rfl
theorem SetWideBytes_recv (v v' : Prims.Fe) (x : Bytes) :
    Field.SetWideBytes v x = Field.SetWideBytes v' x := rfl

end EdVerif.Proofs
