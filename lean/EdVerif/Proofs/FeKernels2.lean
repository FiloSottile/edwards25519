import EdVerif.Proofs.FeKernels1
/-!
C09/C10 kernel layer, part 2: `feMulGeneric` / `feSquareGeneric` (hence `Multiply`, `Square`) on the
faithful wrap-around model: 128-bit accumulators `(lo, hi)`, `bits.Mul64`/`bits.Add64`, the
`shiftRightBy51` bit-join, and the final carry chain.
-/
namespace EdVerif.Proofs
open EdVerif EdVerif.Prims EdVerif.Gen EdVerif.Impl

/-- all limbs `< 2^52` (what the multiplication actually needs; `Inv` is stronger) -/
def Lt52 (e : Prims.Fe) : Prop :=
  e.l0 < 2^52 ∧ e.l1 < 2^52 ∧ e.l2 < 2^52 ∧ e.l3 < 2^52 ∧ e.l4 < 2^52

theorem inv_lt52 {e : Prims.Fe} (h : Inv e) : Lt52 e := by
  obtain ⟨l0, l1, l2, l3, l4⟩ := e
  simp only [Lt52, Inv, Fe.Inv] at *
  omega

def uval (v : U128) : Nat := v.lo + v.hi * 2^64
def uwf (v : U128) : Prop := v.lo < 2^64 ∧ v.hi < 2^64

theorem mul64_val (a b : Nat) (ha : a < 2^64) (hb : b < 2^64) :
    uval (Field.mul64 a b) = a * b ∧ uwf (Field.mul64 a b) := by
  have h : a * b < 2^64 * 2^64 := Nat.mul_lt_mul'' ha hb
  simp only [Field.mul64, Bits.Mul64, uval, uwf] at *
  generalize a * b = p at *
  omega

theorem addMul64_val (v : U128) (a b : Nat) (hv : uwf v) (ha : a < 2^64) (hb : b < 2^64)
    (hsum : uval v + a * b < 2^64 * 2^64) :
    uval (Field.addMul64 v a b) = uval v + a * b ∧ uwf (Field.addMul64 v a b) := by
  have h : a * b < 2^64 * 2^64 := Nat.mul_lt_mul'' ha hb
  obtain ⟨lo, hi⟩ := v
  simp only [Field.addMul64, Bits.Mul64, Bits.Add64, uval, uwf] at *
  generalize a * b = p at *
  omega

theorem or_eq_add_of_shift (hi y : Nat) (h2 : y < 2^13) : (hi * 2^13) ||| y = hi * 2^13 + y := by
  rw [← Nat.shiftLeft_eq, Nat.shiftLeft_add_eq_or_of_lt h2]

theorem shift_val (v : U128) (hv : uwf v) (h : uval v < 2^115) :
    Field.shiftRightBy51 v = uval v / 2^51 ∧ v.lo % 2^51 = uval v % 2^51 := by
  obtain ⟨lo, hi⟩ := v
  simp only [Field.shiftRightBy51, U.or, U.shl, U.shr, uval, uwf, Nat.shiftRight_eq_div_pow,
    Nat.shiftLeft_eq] at *
  have hhi : hi < 2^51 := by omega
  have h1 : (hi * 2^13) % 2^64 = hi * 2^13 := by omega
  have h2 : lo / 2^51 < 2^13 := by omega
  rw [h1, or_eq_add_of_shift _ _ h2]
  omega

theorem prod_lt {x y : Nat} (hx : x < 2^58) (hy : y < 2^52) : x * y < 2^58 * 2^52 :=
  Nat.mul_lt_mul'' hx hy

/-- a column of five products accumulated in a `uint128`, then split at bit 51 -/
theorem fe_acc5 (x0 y0 x1 y1 x2 y2 x3 y3 x4 y4 : Nat)
    (hx0 : x0 < 2^58) (hx1 : x1 < 2^58) (hx2 : x2 < 2^58) (hx3 : x3 < 2^58) (hx4 : x4 < 2^58)
    (hy0 : y0 < 2^52) (hy1 : y1 < 2^52) (hy2 : y2 < 2^52) (hy3 : y3 < 2^52) (hy4 : y4 < 2^52) :
    let r := Field.addMul64 (Field.addMul64 (Field.addMul64 (Field.addMul64 (Field.mul64 x0 y0)
      x1 y1) x2 y2) x3 y3) x4 y4
    let S := x0 * y0 + x1 * y1 + x2 * y2 + x3 * y3 + x4 * y4
    Field.shiftRightBy51 r = S / 2^51 ∧ r.lo % 2^51 = S % 2^51 := by
  intro r S
  have p0 := prod_lt hx0 hy0; have p1 := prod_lt hx1 hy1; have p2 := prod_lt hx2 hy2
  have p3 := prod_lt hx3 hy3; have p4 := prod_lt hx4 hy4
  have w : ∀ x, x < 2^58 → x < 2^64 := by intro x h; omega
  have w' : ∀ x, x < 2^52 → x < 2^64 := by intro x h; omega
  obtain ⟨v0, w0⟩ := mul64_val x0 y0 (w _ hx0) (w' _ hy0)
  obtain ⟨v1, w1⟩ := addMul64_val _ x1 y1 w0 (w _ hx1) (w' _ hy1) (by rw [v0]; omega)
  obtain ⟨v2, w2⟩ := addMul64_val _ x2 y2 w1 (w _ hx2) (w' _ hy2) (by rw [v1, v0]; omega)
  obtain ⟨v3, w3⟩ := addMul64_val _ x3 y3 w2 (w _ hx3) (w' _ hy3) (by rw [v2, v1, v0]; omega)
  obtain ⟨v4, w4⟩ := addMul64_val _ x4 y4 w3 (w _ hx4) (w' _ hy4) (by rw [v3, v2, v1, v0]; omega)
  rw [v3, v2, v1, v0] at v4
  have h := shift_val r w4 (by rw [v4]; omega)
  rw [v4] at h
  exact h

/-- a column of three products (squaring) -/
theorem fe_acc3 (x0 y0 x1 y1 x2 y2 : Nat)
    (hx0 : x0 < 2^58) (hx1 : x1 < 2^58) (hx2 : x2 < 2^58)
    (hy0 : y0 < 2^52) (hy1 : y1 < 2^52) (hy2 : y2 < 2^52) :
    let r := Field.addMul64 (Field.addMul64 (Field.mul64 x0 y0) x1 y1) x2 y2
    let S := x0 * y0 + x1 * y1 + x2 * y2
    Field.shiftRightBy51 r = S / 2^51 ∧ r.lo % 2^51 = S % 2^51 := by
  intro r S
  have p0 := prod_lt hx0 hy0; have p1 := prod_lt hx1 hy1; have p2 := prod_lt hx2 hy2
  have w : ∀ x, x < 2^58 → x < 2^64 := by intro x h; omega
  have w' : ∀ x, x < 2^52 → x < 2^64 := by intro x h; omega
  obtain ⟨v0, w0⟩ := mul64_val x0 y0 (w _ hx0) (w' _ hy0)
  obtain ⟨v1, w1⟩ := addMul64_val _ x1 y1 w0 (w _ hx1) (w' _ hy1) (by rw [v0]; omega)
  obtain ⟨v2, w2⟩ := addMul64_val _ x2 y2 w1 (w _ hx2) (w' _ hy2) (by rw [v1, v0]; omega)
  rw [v1, v0] at v2
  have h := shift_val r w2 (by rw [v2]; omega)
  rw [v2] at h
  exact h

/-! ### the schoolbook columns with the `19`-fold -/

def col0 (a b : Prims.Fe) : Nat := a.l0*b.l0 + 19*(a.l1*b.l4 + a.l2*b.l3 + a.l3*b.l2 + a.l4*b.l1)
def col1 (a b : Prims.Fe) : Nat := a.l0*b.l1 + a.l1*b.l0 + 19*(a.l2*b.l4 + a.l3*b.l3 + a.l4*b.l2)
def col2 (a b : Prims.Fe) : Nat := a.l0*b.l2 + a.l1*b.l1 + a.l2*b.l0 + 19*(a.l3*b.l4 + a.l4*b.l3)
def col3 (a b : Prims.Fe) : Nat := a.l0*b.l3 + a.l1*b.l2 + a.l2*b.l1 + a.l3*b.l0 + 19*(a.l4*b.l4)
def col4 (a b : Prims.Fe) : Nat := a.l0*b.l4 + a.l1*b.l3 + a.l2*b.l2 + a.l3*b.l1 + a.l4*b.l0

/-- the element handed to the final `carryPropagate` by `feMulGeneric`/`feSquareGeneric` -/
def cols (a b : Prims.Fe) : Prims.Fe :=
  ⟨col0 a b % 2^51 + col4 a b / 2^51 * 19, col1 a b % 2^51 + col0 a b / 2^51,
   col2 a b % 2^51 + col1 a b / 2^51, col3 a b % 2^51 + col2 a b / 2^51,
   col4 a b % 2^51 + col3 a b / 2^51⟩

theorem mul_bnd {a b A B : Nat} (ha : a < A) (hb : b < B) : a * b < A * B := Nat.mul_lt_mul'' ha hb

theorem col_bounds {a b : Prims.Fe} (ha : Lt52 a) (hb : Lt52 b) :
    col0 a b < 2^111 ∧ col1 a b < 2^111 ∧ col2 a b < 2^111 ∧ col3 a b < 2^111 ∧ col4 a b < 2^107 := by
  obtain ⟨a0, a1, a2, a3, a4⟩ := a
  obtain ⟨b0, b1, b2, b3, b4⟩ := b
  obtain ⟨ha0, ha1, ha2, ha3, ha4⟩ := ha
  obtain ⟨hb0, hb1, hb2, hb3, hb4⟩ := hb
  simp only [col0, col1, col2, col3, col4] at *
  have p00 := mul_bnd ha0 hb0; have p01 := mul_bnd ha0 hb1; have p02 := mul_bnd ha0 hb2
  have p03 := mul_bnd ha0 hb3; have p04 := mul_bnd ha0 hb4
  have p10 := mul_bnd ha1 hb0; have p11 := mul_bnd ha1 hb1; have p12 := mul_bnd ha1 hb2
  have p13 := mul_bnd ha1 hb3; have p14 := mul_bnd ha1 hb4
  have p20 := mul_bnd ha2 hb0; have p21 := mul_bnd ha2 hb1; have p22 := mul_bnd ha2 hb2
  have p23 := mul_bnd ha2 hb3; have p24 := mul_bnd ha2 hb4
  have p30 := mul_bnd ha3 hb0; have p31 := mul_bnd ha3 hb1; have p32 := mul_bnd ha3 hb2
  have p33 := mul_bnd ha3 hb3; have p34 := mul_bnd ha3 hb4
  have p40 := mul_bnd ha4 hb0; have p41 := mul_bnd ha4 hb1; have p42 := mul_bnd ha4 hb2
  have p43 := mul_bnd ha4 hb3; have p44 := mul_bnd ha4 hb4
  clear ha0 ha1 ha2 ha3 ha4 hb0 hb1 hb2 hb3 hb4
  refine ⟨?_, ?_, ?_, ?_, ?_⟩ <;> omega

/-- the small multiples `a·2`, `a·19`, `a·38` of a limb do not wrap and stay below `2^58` -/
theorem scale_nowrap {x : Nat} (k : Nat) (hx : x < 2^52) (hk : k ≤ 38) :
    x * k % 2^64 = x * k ∧ x * k < 2^58 := by
  have h : x * k ≤ 2^52 * 38 := Nat.mul_le_mul (Nat.le_of_lt hx) hk
  generalize x * k = p at h ⊢
  omega

set_option maxRecDepth 4000 in
theorem mul_columns (v a b : Prims.Fe) (ha : Lt52 a) (hb : Lt52 b) :
    Field.feMulGeneric v a b = Field.carryPropagate (cols a b) := by
  have hcb := col_bounds ha hb
  obtain ⟨a0, a1, a2, a3, a4⟩ := a
  obtain ⟨b0, b1, b2, b3, b4⟩ := b
  obtain ⟨ha0, ha1, ha2, ha3, ha4⟩ := ha
  obtain ⟨hb0, hb1, hb2, hb3, hb4⟩ := hb
  simp only at ha0 ha1 ha2 ha3 ha4 hb0 hb1 hb2 hb3 hb4
  simp only [Field.feMulGeneric, U.mul, U.add, U.and, and_mask51]
  have s19 : ∀ x, x < 2^52 → x * 19 % 2^64 = x * 19 ∧ x * 19 < 2^58 := fun x h => scale_nowrap 19 h (by norm_num)
  rw [(s19 a1 ha1).1, (s19 a2 ha2).1, (s19 a3 ha3).1, (s19 a4 ha4).1]
  have w : ∀ x, x < 2^52 → x < 2^58 := by intro x h; omega
  have w19 : ∀ x, x < 2^52 → x * 19 < 2^58 := fun x h => (s19 x h).2
  obtain ⟨s0, l0⟩ := fe_acc5 a0 b0 (a1*19) b4 (a2*19) b3 (a3*19) b2 (a4*19) b1
    (w _ ha0) (w19 _ ha1) (w19 _ ha2) (w19 _ ha3) (w19 _ ha4) hb0 hb4 hb3 hb2 hb1
  obtain ⟨s1, l1⟩ := fe_acc5 a0 b1 a1 b0 (a2*19) b4 (a3*19) b3 (a4*19) b2
    (w _ ha0) (w _ ha1) (w19 _ ha2) (w19 _ ha3) (w19 _ ha4) hb1 hb0 hb4 hb3 hb2
  obtain ⟨s2, l2⟩ := fe_acc5 a0 b2 a1 b1 a2 b0 (a3*19) b4 (a4*19) b3
    (w _ ha0) (w _ ha1) (w _ ha2) (w19 _ ha3) (w19 _ ha4) hb2 hb1 hb0 hb4 hb3
  obtain ⟨s3, l3⟩ := fe_acc5 a0 b3 a1 b2 a2 b1 a3 b0 (a4*19) b4
    (w _ ha0) (w _ ha1) (w _ ha2) (w _ ha3) (w19 _ ha4) hb3 hb2 hb1 hb0 hb4
  obtain ⟨s4, l4⟩ := fe_acc5 a0 b4 a1 b3 a2 b2 a3 b1 a4 b0
    (w _ ha0) (w _ ha1) (w _ ha2) (w _ ha3) (w _ ha4) hb4 hb3 hb2 hb1 hb0
  rw [s0, s1, s2, s3, s4, l0, l1, l2, l3, l4]
  have c0 : a0 * b0 + a1 * 19 * b4 + a2 * 19 * b3 + a3 * 19 * b2 + a4 * 19 * b1 =
      col0 ⟨a0, a1, a2, a3, a4⟩ ⟨b0, b1, b2, b3, b4⟩ := by simp only [col0]; ring
  have c1 : a0 * b1 + a1 * b0 + a2 * 19 * b4 + a3 * 19 * b3 + a4 * 19 * b2 =
      col1 ⟨a0, a1, a2, a3, a4⟩ ⟨b0, b1, b2, b3, b4⟩ := by simp only [col1]; ring
  have c2 : a0 * b2 + a1 * b1 + a2 * b0 + a3 * 19 * b4 + a4 * 19 * b3 =
      col2 ⟨a0, a1, a2, a3, a4⟩ ⟨b0, b1, b2, b3, b4⟩ := by simp only [col2]; ring
  have c3 : a0 * b3 + a1 * b2 + a2 * b1 + a3 * b0 + a4 * 19 * b4 =
      col3 ⟨a0, a1, a2, a3, a4⟩ ⟨b0, b1, b2, b3, b4⟩ := by simp only [col3]; ring
  have c4 : a0 * b4 + a1 * b3 + a2 * b2 + a3 * b1 + a4 * b0 =
      col4 ⟨a0, a1, a2, a3, a4⟩ ⟨b0, b1, b2, b3, b4⟩ := by simp only [col4]
  rw [c0, c1, c2, c3, c4]
  rw [fold_nowrap19 _ _ hcb.2.2.2.2, fold_nowrap _ _ hcb.1, fold_nowrap _ _ hcb.2.1, fold_nowrap _ _ hcb.2.2.1,
    fold_nowrap _ _ hcb.2.2.2.1]
  rfl


set_option maxRecDepth 4000 in
theorem square_columns (v a : Prims.Fe) (ha : Lt52 a) :
    Field.feSquareGeneric v a = Field.carryPropagate (cols a a) := by
  have hcb := col_bounds ha ha
  obtain ⟨a0, a1, a2, a3, a4⟩ := a
  obtain ⟨ha0, ha1, ha2, ha3, ha4⟩ := ha
  simp only at ha0 ha1 ha2 ha3 ha4
  simp only [Field.feSquareGeneric, U.mul, U.add, U.and, and_mask51]
  have s2 : ∀ x, x < 2^52 → x * 2 % 2^64 = x * 2 ∧ x * 2 < 2^58 := fun x h => scale_nowrap 2 h (by norm_num)
  have s19 : ∀ x, x < 2^52 → x * 19 % 2^64 = x * 19 ∧ x * 19 < 2^58 := fun x h => scale_nowrap 19 h (by norm_num)
  have s38 : ∀ x, x < 2^52 → x * 38 % 2^64 = x * 38 ∧ x * 38 < 2^58 := fun x h => scale_nowrap 38 h (by norm_num)
  rw [(s2 a0 ha0).1, (s2 a1 ha1).1, (s38 a1 ha1).1, (s38 a2 ha2).1, (s38 a3 ha3).1, (s19 a3 ha3).1, (s19 a4 ha4).1]
  have w : ∀ x, x < 2^52 → x < 2^58 := by intro x h; omega
  have w2 : ∀ x, x < 2^52 → x * 2 < 2^58 := fun x h => (s2 x h).2
  have w19 : ∀ x, x < 2^52 → x * 19 < 2^58 := fun x h => (s19 x h).2
  have w38 : ∀ x, x < 2^52 → x * 38 < 2^58 := fun x h => (s38 x h).2
  obtain ⟨s0, l0⟩ := fe_acc3 a0 a0 (a1*38) a4 (a2*38) a3 (w _ ha0) (w38 _ ha1) (w38 _ ha2) ha0 ha4 ha3
  obtain ⟨s1, l1⟩ := fe_acc3 (a0*2) a1 (a2*38) a4 (a3*19) a3 (w2 _ ha0) (w38 _ ha2) (w19 _ ha3) ha1 ha4 ha3
  obtain ⟨s2, l2⟩ := fe_acc3 (a0*2) a2 a1 a1 (a3*38) a4 (w2 _ ha0) (w _ ha1) (w38 _ ha3) ha2 ha1 ha4
  obtain ⟨s3, l3⟩ := fe_acc3 (a0*2) a3 (a1*2) a2 (a4*19) a4 (w2 _ ha0) (w2 _ ha1) (w19 _ ha4) ha3 ha2 ha4
  obtain ⟨s4, l4⟩ := fe_acc3 (a0*2) a4 (a1*2) a3 a2 a2 (w2 _ ha0) (w2 _ ha1) (w _ ha2) ha4 ha3 ha2
  rw [s0, s1, s2, s3, s4, l0, l1, l2, l3, l4]
  have c0 : a0 * a0 + a1 * 38 * a4 + a2 * 38 * a3 =
      col0 ⟨a0, a1, a2, a3, a4⟩ ⟨a0, a1, a2, a3, a4⟩ := by simp only [col0]; ring
  have c1 : a0 * 2 * a1 + a2 * 38 * a4 + a3 * 19 * a3 =
      col1 ⟨a0, a1, a2, a3, a4⟩ ⟨a0, a1, a2, a3, a4⟩ := by simp only [col1]; ring
  have c2 : a0 * 2 * a2 + a1 * a1 + a3 * 38 * a4 =
      col2 ⟨a0, a1, a2, a3, a4⟩ ⟨a0, a1, a2, a3, a4⟩ := by simp only [col2]; ring
  have c3 : a0 * 2 * a3 + a1 * 2 * a2 + a4 * 19 * a4 =
      col3 ⟨a0, a1, a2, a3, a4⟩ ⟨a0, a1, a2, a3, a4⟩ := by simp only [col3]; ring
  have c4 : a0 * 2 * a4 + a1 * 2 * a3 + a2 * a2 =
      col4 ⟨a0, a1, a2, a3, a4⟩ ⟨a0, a1, a2, a3, a4⟩ := by simp only [col4]; ring
  rw [c0, c1, c2, c3, c4]
  rw [fold_nowrap19 _ _ hcb.2.2.2.2, fold_nowrap _ _ hcb.1, fold_nowrap _ _ hcb.2.1, fold_nowrap _ _ hcb.2.2.1,
    fold_nowrap _ _ hcb.2.2.2.1]
  rfl

/-- the columns sum to the product, up to a multiple of `P` (this is the `19`-fold) -/
theorem columns_eq (a b : Prims.Fe) :
    val a * val b = (col0 a b + col1 a b * 2^51 + col2 a b * 2^102 + col3 a b * 2^153 +
      col4 a b * 2^204) +
     P * ((a.l1*b.l4 + a.l2*b.l3 + a.l3*b.l2 + a.l4*b.l1) + (a.l2*b.l4 + a.l3*b.l3 + a.l4*b.l2) * 2^51 +
          (a.l3*b.l4 + a.l4*b.l3) * 2^102 + (a.l4*b.l4) * 2^153) := by
  obtain ⟨a0, a1, a2, a3, a4⟩ := a
  obtain ⟨b0, b1, b2, b3, b4⟩ := b
  simp only [col0, col1, col2, col3, col4, Fe.val, P, EdVerif.P]
  norm_num
  ring

theorem cols_val (r0 r1 r2 r3 r4 : Nat) :
    (r0 % 2^(51:ℕ) + r4 / 2^(51:ℕ) * 19) + (r1 % 2^(51:ℕ) + r0 / 2^(51:ℕ)) * 2^(51:ℕ) + (r2 % 2^(51:ℕ) + r1 / 2^(51:ℕ)) * 2^(102:ℕ) +
      (r3 % 2^(51:ℕ) + r2 / 2^(51:ℕ)) * 2^(153:ℕ) + (r4 % 2^(51:ℕ) + r3 / 2^(51:ℕ)) * 2^(204:ℕ) + (r4 / 2^(51:ℕ)) * (2^(255:ℕ) - 19) =
    r0 + r1 * 2^(51:ℕ) + r2 * 2^(102:ℕ) + r3 * 2^(153:ℕ) + r4 * 2^(204:ℕ) := by
  omega

theorem cols_spec {a b : Prims.Fe} (ha : Lt52 a) (hb : Lt52 b) :
    U64 (cols a b) ∧ val (cols a b) ≡ val a * val b [MOD P] := by
  obtain ⟨h0, h1, h2, h3, h4⟩ := col_bounds ha hb
  have hv := cols_val (col0 a b) (col1 a b) (col2 a b) (col3 a b) (col4 a b)
  have hc := columns_eq a b
  refine ⟨?_, ?_⟩
  · simp only [U64, cols]
    refine ⟨?_, ?_, ?_, ?_, ?_⟩ <;> omega
  · have e : val (cols a b) + (col4 a b / 2^51) * P = col0 a b + col1 a b * 2^51 +
        col2 a b * 2^102 + col3 a b * 2^153 + col4 a b * 2^204 := by
      simp only [Fe.val, cols, P, EdVerif.P]
      exact hv
    rw [← e] at hc
    unfold Nat.ModEq
    rw [hc, Nat.add_mul_mod_self_left, Nat.add_mul_mod_self_right]

theorem mul_spec' {a b : Prims.Fe} (ha : Lt52 a) (hb : Lt52 b) :
    Tight (Fe.mul a b) ∧ val (Fe.mul a b) ≡ val a * val b [MOD P] := by
  have e : Fe.mul a b = Field.carryPropagate (cols a b) := mul_columns Fe.rz a b ha hb
  rw [e]
  exact carry_of_modEq (cols_spec ha hb).1 (cols_spec ha hb).2

theorem mul_spec {a b : Prims.Fe} (ha : Inv a) (hb : Inv b) :
    Tight (Fe.mul a b) ∧ val (Fe.mul a b) ≡ val a * val b [MOD P] :=
  mul_spec' (inv_lt52 ha) (inv_lt52 hb)

theorem square_spec' {a : Prims.Fe} (ha : Lt52 a) :
    Tight (Fe.square a) ∧ val (Fe.square a) ≡ val a * val a [MOD P] := by
  have e : Fe.square a = Field.carryPropagate (cols a a) := square_columns Fe.rz a ha
  rw [e]
  exact carry_of_modEq (cols_spec ha ha).1 (cols_spec ha ha).2

theorem square_spec {a : Prims.Fe} (ha : Inv a) :
    Tight (Fe.square a) ∧ val (Fe.square a) ≡ val a * val a [MOD P] :=
  square_spec' (inv_lt52 ha)

/-- `feMulGeneric`/`feSquareGeneric` themselves (any receiver) -/
theorem feMulGeneric_spec (v : Prims.Fe) {a b : Prims.Fe} (ha : Inv a) (hb : Inv b) :
    Tight (Field.feMulGeneric v a b) ∧ val (Field.feMulGeneric v a b) ≡ val a * val b [MOD P] :=
  mul_spec ha hb

theorem feSquareGeneric_spec (v : Prims.Fe) {a : Prims.Fe} (ha : Inv a) :
    Tight (Field.feSquareGeneric v a) ∧ val (Field.feSquareGeneric v a) ≡ val a * val a [MOD P] :=
  square_spec ha

theorem square_eq_mul {a : Prims.Fe} (ha : Inv a) : Fe.square a = Fe.mul a a := by
  have e1 : Fe.square a = Field.carryPropagate (cols a a) := square_columns Fe.rz a (inv_lt52 ha)
  have e2 : Fe.mul a a = Field.carryPropagate (cols a a) := mul_columns Fe.rz a a (inv_lt52 ha) (inv_lt52 ha)
  rw [e1, e2]

end EdVerif.Proofs
