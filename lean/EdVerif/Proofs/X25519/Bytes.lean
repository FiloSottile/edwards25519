import EdVerif.Spec.X25519
import EdVerif.Proofs.ScalarZ
import EdVerif.Proofs.FieldFacts
/-!
# Byte-level glue between the RFC 7748 specification (`List ℕ`) and the model (`Bytes = Array ℕ`)

* `encodeU u` is `LEbytes u.val 32`;
* `decodeU nine = 9`;
* `decodeScalar x` (RFC 7748: `k[0] &= 248; k[31] &= 127; k[31] |= 64`) is the arithmetic clamp `Scalar.clamp (LE x)`
  used by C08 for `SetBytesWithClamping` (RFC 8032: `… k[31] &= 63 …`; the two agree on bytes).
-/
namespace EdVerif.Proofs.X25519
open EdVerif.Proofs EdVerif.Spec EdVerif.Spec.X25519 EdVerif.Prims

theorem encodeU_eq (u : F) : encodeU u = (LEbytes u.val 32).toList := by
  unfold encodeU LEbytes
  rw [Array.toList_ofFn, List.ofFn_eq_map]
  apply List.ext_getElem
  · simp
  · intro i h1 h2
    simp

theorem decodeU_nine : decodeU nine = 9 := by
  have : leVal (nine.set 31 (nine[31]! &&& 127)) = 9 := by decide +kernel
  unfold decodeU
  simp only [this]
  norm_num

theorem leVal_eq (l : List ℕ) : leVal l = Scalar.LE l.toArray := by
  unfold Scalar.LE
  rw [List.foldr_toArray]
  induction l with
  | nil => rfl
  | cons a l ih => simp [leVal, ih]

theorem toList_get (x : Bytes) (i : ℕ) : x.toList[i]! = x[i]! := by
  rw [getElem!_def, getElem!_def]; simp

theorem toArray_get (l : List ℕ) (i : ℕ) : l.toArray[i]! = l[i]! := by
  rw [getElem!_def, getElem!_def]; simp

theorem list_set_get (l : List ℕ) (i j v : ℕ) :
    (l.set i v)[j]! = if i = j ∧ i < l.length then v else l[j]! := by
  rw [List.getElem!_eq_getElem?_getD, List.getElem!_eq_getElem?_getD, List.getElem?_set]
  by_cases h : i = j
  · subst h
    by_cases h2 : i < l.length
    · simp [h2]
    · simp [h2]
  · simp [h]

theorem and127_or64 : ∀ b, b < 256 → (b &&& 127) ||| 64 = (b &&& 63) ||| 64 := by decide +kernel

/-- RFC 7748 `decodeScalar25519` is the arithmetic clamp of C08 -/
theorem decodeScalar_eq (x : Bytes) (hx : x.size = 32) (hb : Scalar.IsBytes x) :
    decodeScalar x.toList = Scalar.clamp (Scalar.LE x) := by
  have hl : x.toList.length = 32 := by simpa using hx
  unfold decodeScalar
  simp only
  rw [leVal_eq, Scalar.LE_eq_leFrom, Scalar.LE_eq_leFrom x, hx]
  have hs : (((x.toList.set 0 (x.toList[0]! &&& 248)).set 31
      ((x.toList.set 0 (x.toList[0]! &&& 248))[31]! &&& 127)).set 31
      (((x.toList.set 0 (x.toList[0]! &&& 248)).set 31
      ((x.toList.set 0 (x.toList[0]! &&& 248))[31]! &&& 127))[31]! ||| 64)).toArray.size = 32 := by
    simp [hl]
  rw [hs]
  apply Scalar.clamp_core x _ hb
  · simp only [toArray_get, list_set_get, toList_get, List.length_set, hl]
    simp
  · simp only [toArray_get, list_set_get, toList_get, List.length_set, hl]
    simp only [Nat.lt_add_one, and_self, Nat.reduceLT, and_true, OfNat.zero_ne_ofNat, if_true, if_false]
    exact and127_or64 _ (IsBytes.all hb 31)
  · intro i hi
    simp only [toArray_get, list_set_get, toList_get, List.length_set, hl]
    have h1 : ¬ (31 = 1 + i ∧ 31 < 32) := by omega
    have h2 : ¬ (0 = 1 + i ∧ 0 < 32) := by omega
    simp only [h1, h2, if_false]

theorem clamp_lt (n : ℕ) : Scalar.clamp n < 2 ^ 255 := by
  unfold Scalar.clamp
  omega

end EdVerif.Proofs.X25519
